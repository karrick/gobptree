/-
  What the specification leaves at one key `k`.  `lookup_step` says what `lookup k` is after one
  operation; last write wins (`run_lookup_last_write`) and the counter lemma (`run_lookup_counter`)
  follow by induction on runs.

  (Namespace `Conc`, though nothing here is concurrent: these are the specification-level halves
  of the predicates the concurrent corollaries use; `incr` is the counter's callback.)
-/
import Gobptree.Run
import Gobptree.Proofs.Order

namespace Gobptree.Conc
open Gobptree

variable {K V : Type} {lt : K → K → Bool}

theorem eqv_congr_right (h : SWO lt) {a b b' : K} (e : eqv lt b b' = true) : eqv lt a b = eqv lt a b' := by
  simp only [eqv]
  rw [h.lt_congr_right e, h.lt_congr_left e]

theorem eqv_congr_left (h : SWO lt) {a a' b : K} (e : eqv lt a a' = true) : eqv lt a b = eqv lt a' b := by
  rw [eqv_comm a b, eqv_comm a' b]; exact eqv_congr_right h e

theorem lookup_congr (h : SWO lt) (m : List (K × V)) {k k' : K} (e : eqv lt k k' = true) :
    Spec.lookup lt m k = Spec.lookup lt m k' := by
  unfold Spec.lookup
  have : (fun p : K × V => eqv lt k p.1) = (fun p : K × V => eqv lt k' p.1) := by
    funext p; exact eqv_congr_left h e
  rw [this]

theorem lookup_cons (m : List (K × V)) (a : K) (w : V) (k : K) :
    Spec.lookup lt ((a, w) :: m) k = if eqv lt k a then some w else Spec.lookup lt m k := by
  unfold Spec.lookup
  rw [List.find?_cons]
  cases eqv lt k a <;> rfl

theorem lookup_insert (h : SWO lt) (m : List (K × V)) (k' : K) (v : V) (k : K) :
    Spec.lookup lt (Spec.insert lt m k' v) k = if eqv lt k' k then some v else Spec.lookup lt m k := by
  rw [eqv_comm k' k]
  induction m with
  | nil => simp only [Spec.insert]; rw [lookup_cons]
  | cons p rest ih =>
    obtain ⟨a, w⟩ := p
    simp only [Spec.insert]
    by_cases h1 : lt k' a = true
    · rw [if_pos h1, lookup_cons]
    · rw [if_neg h1]
      have h1' : lt k' a = false := by simpa using h1
      by_cases h2 : lt a k' = true
      · rw [if_pos h2, lookup_cons, ih, lookup_cons]
        cases hka : eqv lt k a with
        | false => rfl
        | true =>
          have hlt : lt k k' = true := by rw [h.lt_congr_left hka]; exact h2
          have : eqv lt k k' = false := by simp [eqv, hlt]
          rw [this]; rfl
      · rw [if_neg h2]
        have h2' : lt a k' = false := by simpa using h2
        have e : eqv lt a k' = true := by simp [eqv, h1', h2']
        rw [lookup_cons, lookup_cons, eqv_congr_right h e]
        cases eqv lt k k' <;> rfl

theorem lookup_erase (h : SWO lt) (m : List (K × V)) (k' k : K) :
    Spec.lookup lt (Spec.erase lt m k') k = if eqv lt k' k then none else Spec.lookup lt m k := by
  have hp (p : K × V) : decide ((!eqv lt k' p.1) = true ∧ eqv lt k p.1 = true) = (!eqv lt k' k && eqv lt k p.1) := by
    rw [Bool.decide_and, Bool.decide_eq_true, Bool.decide_eq_true]
    cases hk : eqv lt k p.1
    · rw [Bool.and_false, Bool.and_false]
    · rw [← eqv_congr_right h hk (a := k')]
  unfold Spec.lookup Spec.erase
  rw [List.find?_filter, funext hp]
  cases eqv lt k' k
  · rfl
  · have hn : List.find? (fun p : K × V => !true && eqv lt k p.1) m = none :=
      List.find?_eq_none.2 fun _ _ => Bool.false_ne_true
    rw [hn]; rfl

theorem lookup_erase_of_ne (h : SWO lt) (m : List (K × V)) (k' k : K) (hne : eqv lt k k' = false) :
    Spec.lookup lt (Spec.erase lt m k') k = Spec.lookup lt m k := by
  rw [lookup_erase h, eqv_comm, hne]; rfl

theorem lookup_step (h : SWO lt) (m : List (K × V)) (op : Op K V) (k : K) :
    Spec.lookup lt (Spec.step lt m op).1 k =
      match op with
      | .insert k' v => if eqv lt k' k then some v else Spec.lookup lt m k
      | .update k' f => if eqv lt k' k then some (f (Spec.lookup lt m k')) else Spec.lookup lt m k
      | .delete k' => if eqv lt k' k then none else Spec.lookup lt m k
      | .search _ => Spec.lookup lt m k := by
  cases op with
  | insert k' v => exact lookup_insert h m k' v k
  | update k' f => exact lookup_insert h m k' _ k
  | delete k' => exact lookup_erase h m k' k
  | search _ => rfl

theorem step_lookup_insert (h : SWO lt) (m : List (K × V)) {k' k : K} (v : V) (e : eqv lt k' k = true) :
    Spec.lookup lt (Spec.step lt m (.insert k' v)).1 k = some v :=
  (lookup_step h m _ k).trans (if_pos e)

theorem step_lookup_update (h : SWO lt) (m : List (K × V)) {k' k : K} (f : Option V → V) (e : eqv lt k' k = true) :
    Spec.lookup lt (Spec.step lt m (.update k' f)).1 k = some (f (Spec.lookup lt m k')) :=
  (lookup_step h m _ k).trans (if_pos e)

theorem step_lookup_delete (h : SWO lt) (m : List (K × V)) {k' k : K} (e : eqv lt k' k = true) :
    Spec.lookup lt (Spec.step lt m (.delete k')).1 k = none :=
  (lookup_step h m _ k).trans (if_pos e)

theorem run_cons_fst (lt : K → K → Bool) (m : List (K × V)) (op : Op K V) (ops : List (Op K V)) :
    (Spec.run lt m (op :: ops)).1 = (Spec.run lt (Spec.step lt m op).1 ops).1 := rfl

theorem run_cons_snd (lt : K → K → Bool) (m : List (K × V)) (op : Op K V) (ops : List (Op K V)) :
    (Spec.run lt m (op :: ops)).2 = (Spec.step lt m op).2 :: (Spec.run lt (Spec.step lt m op).1 ops).2 := rfl

theorem run_fst_append (lt : K → K → Bool) (m : List (K × V)) (a b : List (Op K V)) :
    (Spec.run lt m (a ++ b)).1 = (Spec.run lt (Spec.run lt m a).1 b).1 := by
  induction a generalizing m with
  | nil => rfl
  | cons o a ih => exact ih _

theorem run_snd_append (lt : K → K → Bool) (m : List (K × V)) (a b : List (Op K V)) :
    (Spec.run lt m (a ++ b)).2 = (Spec.run lt m a).2 ++ (Spec.run lt (Spec.run lt m a).1 b).2 := by
  induction a generalizing m with
  | nil => rfl
  | cons o a ih => exact congrArg (_ :: ·) (ih _)

theorem run_length (lt : K → K → Bool) (m : List (K × V)) (ops : List (Op K V)) :
    (Spec.run lt m ops).2.length = ops.length := by
  induction ops generalizing m with
  | nil => rfl
  | cons op ops ih => exact congrArg Nat.succ (ih _)

theorem run_append (lt : K → K → Bool) (m : List (K × V)) (ops : List (Op K V)) (op : Op K V) :
    Spec.run lt m (ops ++ [op]) =
      ((Spec.step lt (Spec.run lt m ops).1 op).1,
        (Spec.run lt m ops).2 ++ [(Spec.step lt (Spec.run lt m ops).1 op).2]) :=
  Prod.ext (run_fst_append lt m ops [op]) (run_snd_append lt m ops [op])

theorem run_out_at (lt : K → K → Bool) (m : List (K × V)) (pre post : List (Op K V)) (op : Op K V) :
    (Spec.run lt m (pre ++ op :: post)).2[pre.length]? = some (Spec.step lt (Spec.run lt m pre).1 op).2 := by
  rw [run_snd_append, run_cons_snd, ← run_length lt m pre, List.getElem?_append_right (Nat.le_refl _), Nat.sub_self]
  rfl

def writesKey (lt : K → K → Bool) (k : K) : Op K V → Bool
  | .insert k' _ => eqv lt k' k
  | .update k' _ => eqv lt k' k
  | .delete k' => eqv lt k' k
  | .search _ => false

def putsKey (lt : K → K → Bool) (k : K) : Op K V → Bool
  | .insert k' _ => eqv lt k' k
  | .update k' _ => eqv lt k' k
  | _ => false

theorem putsKey_le_writesKey {k : K} {op : Op K V} (h : writesKey lt k op = false) : putsKey lt k op = false := by
  cases op <;> first | exact h | rfl

theorem run_lookup_of_not_writes (h : SWO lt) (k : K) (ops : List (Op K V)) (m : List (K × V))
    (hok : ∀ op ∈ ops, writesKey lt k op = false) :
    Spec.lookup lt (Spec.run lt m ops).1 k = Spec.lookup lt m k := by
  induction ops generalizing m with
  | nil => rfl
  | cons op ops ih =>
    have hw := hok op List.mem_cons_self
    rw [run_cons_fst, ih _ (fun o ho => hok o (List.mem_cons_of_mem _ ho)), lookup_step h]
    cases op <;> first | rfl | exact if_neg (ne_true_of_eq_false hw)

theorem run_lookup_none_of_not_puts (h : SWO lt) (k : K) (ops : List (Op K V)) (m : List (K × V))
    (hok : ∀ op ∈ ops, putsKey lt k op = false) (hn : Spec.lookup lt m k = none) :
    Spec.lookup lt (Spec.run lt m ops).1 k = none := by
  induction ops generalizing m with
  | nil => exact hn
  | cons op ops ih =>
    have hp := hok op List.mem_cons_self
    rw [run_cons_fst]
    apply ih _ (fun o ho => hok o (List.mem_cons_of_mem _ ho))
    rw [lookup_step h]
    cases op with
    | insert k' v => exact (if_neg (ne_true_of_eq_false hp)).trans hn
    | update k' f => exact (if_neg (ne_true_of_eq_false hp)).trans hn
    | delete k' => simp only [hn, ite_self]
    | search k' => exact hn

theorem run_lookup_last_write (h : SWO lt) (k : K) (m : List (K × V)) (pre post : List (Op K V)) (op : Op K V)
    (hpost : ∀ o ∈ post, writesKey lt k o = false) :
    Spec.lookup lt (Spec.run lt m (pre ++ op :: post)).1 k =
      Spec.lookup lt (Spec.step lt (Spec.run lt m pre).1 op).1 k := by
  rw [run_fst_append, run_cons_fst, run_lookup_of_not_writes h k post _ hpost]

def incr : Option Nat → Nat := fun o => o.getD 0 + 1

def isIncOp (lt : K → K → Bool) (k : K) : Op K Nat → Bool
  | .update k' _ => eqv lt k' k
  | _ => false

def OpOk (lt : K → K → Bool) (k : K) : Op K Nat → Prop
  | .insert k' _ => eqv lt k' k = false
  | .delete k' => eqv lt k' k = false
  | .update k' f => eqv lt k' k = true → f = incr
  | .search _ => True

def bump (n : Nat) (o : Option Nat) : Option Nat := if n = 0 then o else some (o.getD 0 + n)

@[simp] theorem bump_zero (o : Option Nat) : bump 0 o = o := rfl

theorem bump_pos {n : Nat} (hn : 0 < n) (o : Option Nat) : bump n o = some (o.getD 0 + n) := by
  unfold bump; rw [if_neg (by omega)]

theorem bump_succ (n : Nat) (o : Option Nat) : bump n (some (o.getD 0 + 1)) = bump (n + 1) o := by
  unfold bump
  by_cases hn : n = 0
  · subst hn; simp
  · rw [if_neg hn, if_neg (by omega)]
    simp only [Option.getD_some, Option.some.injEq]; omega

theorem step_lookup (h : SWO lt) (m : List (K × Nat)) (k : K) (op : Op K Nat) (hok : OpOk lt k op) :
    Spec.lookup lt (Spec.step lt m op).1 k =
      if isIncOp lt k op then some ((Spec.lookup lt m k).getD 0 + 1) else Spec.lookup lt m k := by
  rw [lookup_step h]
  cases op with
  | insert k' v => exact if_neg (ne_true_of_eq_false hok)
  | delete k' => exact if_neg (ne_true_of_eq_false hok)
  | search k' => rfl
  | update k' f =>
    show (if eqv lt k' k then _ else _) = if eqv lt k' k then _ else _
    cases he : eqv lt k' k with
    | false => rfl
    | true => rw [hok he, lookup_congr h m he]; rfl

theorem run_lookup_counter (h : SWO lt) (k : K) :
    ∀ (ops : List (Op K Nat)) (m : List (K × Nat)), (∀ op ∈ ops, OpOk lt k op) →
      Spec.lookup lt (Spec.run lt m ops).1 k = bump (ops.countP (isIncOp lt k)) (Spec.lookup lt m k) := by
  intro ops
  induction ops with
  | nil => intro m _; rfl
  | cons op ops ih =>
    intro m hok
    rw [run_cons_fst, ih _ (fun o ho => hok o (List.mem_cons_of_mem _ ho)), step_lookup h m k op (hok op List.mem_cons_self),
      List.countP_cons]
    cases isIncOp lt k op with
    | false => rfl
    | true => exact bump_succ _ _

end Gobptree.Conc
