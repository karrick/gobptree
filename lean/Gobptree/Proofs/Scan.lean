/-
  Scanning: the leaf chain as a list, and the cursor loop on a chained list of leaves.
-/
import Gobptree.Proofs.Slice
import Gobptree.Ops
import Gobptree.Proofs.Linked
import Gobptree.Proofs.WFLemmas2

namespace Gobptree

variable {K V : Type} {lt : K → K → Bool}

def ChainList : List (Leaf K V) → Option Nat → Prop
  | [], _ => True
  | [l], after => l.next = after
  | l :: l2 :: rest, after => l.next = some l2.id ∧ ChainList (l2 :: rest) after

theorem Kids_mem {C : Type} {R : Option K → Option K → C → Prop} (hi : Option K) :
    ∀ (es : List (K × C)), Kids lt R hi es → ∀ e ∈ es, ∃ a b, R a b e.2 := by
  intro es
  induction es with
  | nil => intro _ e he; cases he
  | cons x rest ih =>
    obtain ⟨k, c⟩ := x
    intro hk e he
    obtain ⟨h1, _, h3⟩ := hk
    rcases List.mem_cons.1 he with rfl | he
    · exact ⟨_, _, h1⟩
    · exact ih h3 e he

theorem WF_kid {o : Nat} {d : Nat} {m : Nat} {lo hi : Option K} {i : Inner K (Node K V d)}
    (hw : WF lt o (d + 1) m lo hi (i : Node K V (d + 1))) :
    ∀ c ∈ i.kids, ∃ a b, WF lt o d (o / 2) a b c := by
  obtain ⟨hlen, _, _, _, _, hk⟩ := hw
  intro c hc
  rw [← map_snd_zip_eq i.runts i.kids hlen] at hc
  obtain ⟨e, he, rfl⟩ := List.mem_map.1 hc
  exact Kids_mem hi _ hk e he

theorem firstId_of_kids {d : Nat} (i : Inner K (Node K V d)) (c : Node K V d)
    (cs : List (Node K V d)) (hk : i.kids = c :: cs) :
    Node.firstId (d := d + 1) i = Node.firstId c := by
  cases i; cases hk; rfl

theorem ChainList_append : ∀ (l1 : List (Leaf K V)) (x : Leaf K V) (l2 : List (Leaf K V))
    (after : Option Nat),
    ChainList (l1 ++ x :: l2) after ↔ ChainList l1 (some x.id) ∧ ChainList (x :: l2) after
  | [], _, _, _ => ⟨fun h => ⟨trivial, h⟩, fun h => h.2⟩
  | [_], _, _, _ => Iff.rfl
  | _ :: b :: l1, x, l2, after =>
    have ih := ChainList_append (b :: l1) x l2 after
    ⟨fun h => ⟨⟨h.1, (ih.1 h.2).1⟩, (ih.1 h.2).2⟩, fun h => ⟨h.1.1, ih.2 ⟨h.1.2, h.2⟩⟩⟩

theorem LinkedKids_chainList {d : Nat} :
    ∀ (kids : List (Node K V d)) (after : Option Nat),
      (∀ k ∈ kids, ∀ aft, Linked d aft k →
        ChainList (Node.leaves k) aft ∧
        ∃ l rest, Node.leaves k = l :: rest ∧ l.id = Node.firstId k) →
      LinkedKids (Linked d) (Node.firstId (d := d)) after kids →
      ChainList (kids.flatMap (Node.leaves (d := d))) after ∧
      ∀ c cs, kids = c :: cs →
        ∃ l rest, kids.flatMap (Node.leaves (d := d)) = l :: rest ∧ l.id = Node.firstId c := by
  intro kids
  induction kids with
  | nil => intro after _ _; exact ⟨trivial, fun c cs e => by cases e⟩
  | cons c cs ih =>
    intro after hall hlk
    obtain ⟨hc, hcs⟩ := hlk
    have ihcs := ih after (fun k hk => hall k (List.mem_cons_of_mem _ hk)) hcs
    obtain ⟨hchain, l, rest, hl, hid⟩ := hall c List.mem_cons_self _ hc
    have hhead : ∀ c' cs', c :: cs = c' :: cs' →
        ∃ l rest, (c :: cs).flatMap (Node.leaves (d := d)) = l :: rest ∧ l.id = Node.firstId c' := by
      intro c' cs' e
      cases e
      exact ⟨l, rest ++ cs.flatMap (Node.leaves (d := d)), by rw [List.flatMap_cons, hl]; rfl, hid⟩
    refine ⟨?_, hhead⟩
    rw [List.flatMap_cons]
    cases cs with
    | nil =>
      rw [List.flatMap_nil, List.append_nil]
      exact hchain
    | cons c2 cs' =>
      obtain ⟨l2, rest2, hl2, hid2⟩ := ihcs.2 c2 cs' rfl
      rw [hl2]
      refine (ChainList_append _ _ _ _).2 ⟨?_, ?_⟩
      · rw [hid2]; exact hchain
      · rw [← hl2]; exact ihcs.1

theorem Linked_chainList (h : SWO lt) {o : Nat} :
    ∀ {d : Nat} {m : Nat} {lo hi : Option K} {n : Node K V d} {after : Option Nat},
      WF lt o d m lo hi n → Linked d after n →
      ChainList (Node.leaves n) after ∧
      ∃ l rest, Node.leaves n = l :: rest ∧ l.id = Node.firstId n := by
  intro d
  induction d with
  | zero =>
    intro m lo hi n after _ hl
    exact ⟨hl, n, [], rfl, rfl⟩
  | succ d ih =>
    intro m lo hi n after hw hl
    have hkid := WF_kid (i := n) hw
    have hne : 1 ≤ (n : Inner K (Node K V d)).kids.length := hw.1 ▸ hw.2.2.2.1
    have key := LinkedKids_chainList (n : Inner K (Node K V d)).kids after
      (fun k hk aft hlk => by
        obtain ⟨a, b, hwk⟩ := hkid k hk
        exact ih hwk hlk) hl
    refine ⟨key.1, ?_⟩
    cases hkids : (n : Inner K (Node K V d)).kids with
    | nil => rw [hkids] at hne; simp at hne
    | cons c cs =>
      obtain ⟨l, rest, e1, e2⟩ := key.2 c cs hkids
      refine ⟨l, rest, e1, ?_⟩
      rw [e2]
      exact (firstId_of_kids (n : Inner K (Node K V d)) c cs hkids).symm

theorem WF_leaves_aux {o : Nat} :
    ∀ (d : Nat) (m : Nat) (lo hi : Option K) (n : Node K V d),
      WF lt o d m lo hi n →
      ∀ l ∈ Node.leaves n, Sorted lt l.keys ∧ l.keys.length = l.vals.length ∧
        (d = 0 → m ≤ l.keys.length) ∧ (d ≠ 0 → o / 2 ≤ l.keys.length) := by
  intro d
  induction d with
  | zero =>
    intro m lo hi n hw l hl
    obtain rfl : l = n := List.mem_singleton.1 hl
    obtain ⟨h1, h2, _, h4, _⟩ := hw
    exact ⟨h1, h2, fun _ => h4, fun h => absurd rfl h⟩
  | succ d ih =>
    intro m lo hi n hw l hl
    obtain ⟨c, hc, hlc⟩ := List.mem_flatMap.1 hl
    obtain ⟨a, b, hwc⟩ := WF_kid (i := n) hw c hc
    obtain ⟨h1, h2, h3, h4⟩ := ih (o / 2) a b c hwc l hlc
    refine ⟨h1, h2, fun h0 => absurd h0 (Nat.succ_ne_zero d), fun _ => ?_⟩
    cases d with
    | zero => exact h3 rfl
    | succ d' => exact h4 (by omega)

theorem WF_leaves {o : Nat} :
    ∀ {d : Nat} {m : Nat} {lo hi : Option K} {n : Node K V d},
      WF lt o d m lo hi n →
      ∀ l ∈ Node.leaves n, Sorted lt l.keys ∧ l.keys.length = l.vals.length ∧ (d ≠ 0 → o / 2 ≤ l.keys.length) := by
  intro d m lo hi n hw l hl
  obtain ⟨h1, h2, _, h4⟩ := WF_leaves_aux (lt := lt) (o := o) d m lo hi n hw l hl
  exact ⟨h1, h2, h4⟩

/-- the cursor loop of `Tree.scanFrom` (its local function `go`) without a limit: `scanFrom_go_eq` in ScanTree.lean -/
def scanLoop (t : Tree K V) : Nat → Cursor → List (K × V) → R (List (K × V) × Bool)
  | 0, _, acc => pure (acc.reverse, false)
  | fuel + 1, c, acc => do
    let (c', more) ← t.scan c
    if !more then pure (acc.reverse, true)
    else
      let kv ← t.pair c'
      scanLoop t fuel c' (kv :: acc)

theorem leafPairs_length (l : Leaf K V) (h : l.keys.length = l.vals.length) :
    (leafPairs l).length = l.keys.length := by
  simp [leafPairs, List.length_zip, h]

theorem scan_found (t : Tree K V) (id : Nat) (l : Leaf K V) (i : Int)
    (h : t.findLeaf id = some l) :
    t.scan { leaf := some id, i := i } =
      if i + 1 = (l.keys.length : Int) then
        match l.next with
        | none => pure ({ leaf := none, i := i + 1 }, false)
        | some n => pure ({ leaf := some n, i := 0 }, true)
      else pure ({ leaf := some id, i := i + 1 }, true) := by
  simp only [Tree.scan, h]
  rfl

theorem pair_found (t : Tree K V) (id : Nat) (l : Leaf K V) (n : Nat)
    (h : t.findLeaf id = some l) (hlen : l.keys.length = l.vals.length)
    (hn : n < (leafPairs l).length) :
    t.pair { leaf := some id, i := (n : Int) } = .ok ((leafPairs l)[n]) := by
  have hk : n < l.keys.length := by rw [leafPairs_length l hlen] at hn; exact hn
  have hv : n < l.vals.length := by omega
  have h0 : ¬ ((n : Int) < 0) := by omega
  simp only [Tree.pair, h, h0, if_false, Int.toNat_natCast, List.getElem?_eq_getElem hk,
    List.getElem?_eq_getElem hv, leafPairs, List.getElem_zip]
  rfl

/-- The cursor can walk along `l :: rest`: every leaf is found under its identity, has as
    many values as keys and points to the next one (the last to none), and all but the
    first are non-empty: at the end of a leaf Go's `Scan` hops to the next one with `i = 0` and
    returns true without looking whether it has an entry. -/
def Walk (t : Tree K V) : List (Leaf K V) → Prop
  | [] => True
  | [l] => t.findLeaf l.id = some l ∧ l.keys.length = l.vals.length ∧ l.next = none
  | l :: l2 :: rest =>
    t.findLeaf l.id = some l ∧ l.keys.length = l.vals.length ∧ l.next = some l2.id ∧
      0 < l2.keys.length ∧ Walk t (l2 :: rest)

theorem Walk.head {t : Tree K V} {l : Leaf K V} {rest : List (Leaf K V)} (hw : Walk t (l :: rest)) :
    t.findLeaf l.id = some l ∧ l.keys.length = l.vals.length := by
  cases rest with
  | nil => exact ⟨hw.1, hw.2.1⟩
  | cons l2 rest => exact ⟨hw.1, hw.2.1⟩

/-- `n` pairs of the leaf `l` have been yielded: Go's cursor index is `n - 1` (it starts at `-1`) -/
theorem walk_ok (t : Tree K V) :
    ∀ (fuel : Nat) (l : Leaf K V) (rest : List (Leaf K V)) (n : Nat) (acc : List (K × V)),
      Walk t (l :: rest) → n ≤ l.keys.length →
      ((leafPairs l).drop n ++ rest.flatMap leafPairs).length < fuel →
      scanLoop t fuel { leaf := some l.id, i := (n : Int) - 1 } acc =
        .ok (acc.reverse ++ ((leafPairs l).drop n ++ rest.flatMap leafPairs), true) := by
  intro fuel
  induction fuel with
  | zero => intro l rest n acc _ _ hf; exact absurd hf (Nat.not_lt_zero _)
  | succ fuel ih =>
    intro l rest n acc hw hn hf
    obtain ⟨hfind, hlen⟩ := hw.head
    have hpl := leafPairs_length l hlen
    unfold scanLoop
    rw [scan_found t _ _ _ hfind, Int.sub_add_cancel]
    by_cases hend : n = l.keys.length
    · rw [if_pos (congrArg Nat.cast hend), List.drop_eq_nil_of_le (Nat.le_of_eq (hpl.trans hend.symm)),
        List.nil_append] at *
      cases rest with
      | nil => rw [hw.2.2]; simp only [List.flatMap_nil, List.append_nil]; rfl
      | cons l2 rest =>
        obtain ⟨-, -, hnext, hpos, hw2⟩ := hw
        have hpos' : 0 < (leafPairs l2).length := by rw [leafPairs_length l2 hw2.head.2]; exact hpos
        have hd : leafPairs l2 = (leafPairs l2)[0] :: (leafPairs l2).drop 1 := by
          rw [← List.drop_eq_getElem_cons hpos']; rfl
        have hih := ih l2 rest 1 ((leafPairs l2)[0] :: acc) hw2 hpos (by
          rw [List.flatMap_cons, List.length_append] at hf
          rw [List.length_append, List.length_drop]; omega)
        rw [show ((1 : Nat) : Int) - 1 = 0 from rfl] at hih
        have hpair : t.pair { leaf := some l2.id, i := 0 } = .ok ((leafPairs l2)[0]) :=
          pair_found t _ _ 0 hw2.head.1 hw2.head.2 hpos'
        rw [hnext]
        simp only [pure, Except.pure, bind, Except.bind, Bool.not_true, Bool.false_eq_true, if_false, hpair]
        rw [hih, List.flatMap_cons, List.reverse_cons, List.append_assoc]
        conv => rhs; rw [hd]
        rfl
    · have hnk : n < l.keys.length := Nat.lt_of_le_of_ne hn hend
      have hnlt : n < (leafPairs l).length := Nat.lt_of_lt_of_eq hnk hpl.symm
      have hd := List.drop_eq_getElem_cons hnlt
      have hih := ih l rest (n + 1) ((leafPairs l)[n] :: acc) hw hnk (by
        rw [List.length_append, List.length_drop] at hf ⊢; omega)
      rw [if_neg (fun (e : (n : Int) = (l.keys.length : Int)) => hend (Int.ofNat.inj e))]
      simp only [pure, Except.pure, bind, Except.bind, Bool.not_true, Bool.false_eq_true, if_false,
        pair_found t _ _ n hfind hlen hnlt]
      rw [show (n : Int) = ((n + 1 : Nat) : Int) - 1 from (Int.add_sub_cancel (n : Int) 1).symm, hih, hd, List.reverse_cons, List.append_assoc]
      rfl

theorem findLeaf_mid (t : Tree K V) (pre : List (Leaf K V)) (l : Leaf K V) (rest : List (Leaf K V))
    (hls : Node.leaves t.root = pre ++ l :: rest) (hnd : ((pre ++ l :: rest).map (·.id)).Nodup) :
    t.findLeaf l.id = some l := by
  unfold Tree.findLeaf
  rw [hls, List.find?_append, List.find?_eq_none.mpr, Option.none_or]
  · exact List.find?_cons_of_pos (p := fun x : Leaf K V => x.id == l.id) (l := rest) (beq_self_eq_true l.id)
  intro x hx he
  rw [List.map_append, List.map_cons] at hnd
  exact (List.nodup_append.mp hnd).2.2 x.id (List.mem_map.mpr ⟨x, hx, rfl⟩) l.id List.mem_cons_self (eq_of_beq he)

theorem walk_of_chain (t : Tree K V) : ∀ (rest pre : List (Leaf K V)) (l : Leaf K V),
    Node.leaves t.root = pre ++ l :: rest → ChainList (l :: rest) none →
    ((pre ++ l :: rest).map (·.id)).Nodup → (∀ x ∈ l :: rest, x.keys.length = x.vals.length) →
    (∀ x ∈ rest, 0 < x.keys.length) → Walk t (l :: rest)
  | [], pre, l, hls, hc, hnd, hlen, _ => ⟨findLeaf_mid t pre l [] hls hnd, hlen l List.mem_cons_self, hc⟩
  | l2 :: rest, pre, l, hls, hc, hnd, hlen, hne =>
    ⟨findLeaf_mid t pre l _ hls hnd, hlen l List.mem_cons_self, hc.1, hne l2 List.mem_cons_self,
      walk_of_chain t rest (pre ++ [l]) l2 (by rw [hls, List.append_assoc]; rfl) hc.2
        (by rw [List.append_assoc]; exact hnd) (fun x hx => hlen x (List.mem_cons_of_mem _ hx))
        (fun x hx => hne x (List.mem_cons_of_mem _ hx))⟩

theorem scanLoop_ok (t : Tree K V) (ls : List (Leaf K V)) (hls : Node.leaves t.root = ls)
    (hchain : ChainList ls none) (hnodup : (ls.map (·.id)).Nodup)
    (hlen : ∀ l ∈ ls, l.keys.length = l.vals.length)
    (hne : ∀ (j : Nat) (hj : j < ls.length), 0 < j → 0 < ls[j].keys.length) :
    ∀ (fuel : Nat) (j : Nat) (hj : j < ls.length) (i : Int) (acc : List (K × V)),
      -1 ≤ i → i + 1 ≤ (ls[j].keys.length : Int) →
      ((leafPairs ls[j]).drop (i + 1).toNat ++ (ls.drop (j + 1)).flatMap leafPairs).length < fuel →
      scanLoop t fuel { leaf := some ls[j].id, i := i } acc =
        .ok (acc.reverse ++ ((leafPairs ls[j]).drop (i + 1).toNat ++ (ls.drop (j + 1)).flatMap leafPairs), true) := by
  intro fuel j hj i acc hi1 hi2 hf
  obtain ⟨n, rfl⟩ : ∃ n : Nat, i = (n : Int) - 1 :=
    ⟨(i + 1).toNat, by rw [Int.toNat_of_nonneg (Int.add_le_add_right hi1 1)]; exact (Int.add_sub_cancel i 1).symm⟩
  rw [Int.sub_add_cancel, Int.toNat_natCast] at hf ⊢
  have hform := self_form ls j hj
  refine walk_ok t fuel ls[j] (ls.drop (j + 1)) n acc
    (walk_of_chain t _ (ls.take j) _ (hls.trans hform) ((ChainList_append _ _ _ _).1 (hform ▸ hchain)).2 (hform ▸ hnodup)
      (fun x hx => hlen x (hform ▸ List.mem_append_right _ hx)) fun x hx => ?_)
    (Int.ofNat_le.mp (Int.sub_add_cancel (n : Int) 1 ▸ hi2)) hf
  obtain ⟨a, ha, rfl⟩ := List.getElem_of_mem hx
  rw [List.getElem_drop]
  exact hne _ _ (Nat.lt_of_lt_of_le (Nat.succ_pos j) (Nat.le_add_right _ _))

end Gobptree
