/-
  Delete of a lone thread, the way down: the descent reaches the leaf the sequential `deleteNode`
  reaches, so `Delete` computes `Tree.delete`.
-/
import Gobptree.Proofs.CSoloDel3
import Gobptree.Proofs.IdsDelete

namespace Gobptree.Conc
open Gobptree

variable {K V : Type}

/-- the statement proved by induction on the height: standing on `x`, the thread finishes with what `deleteNode` and the unwinding compute -/
def DelSim (P : Params K) (key : K) (rootWas : Nat) (d : Nat) : Prop :=
  ∀ {D : Nat} (c : Ctx K V D d) (x : Node K V d) (o nid : Nat) (s : St K V) (res : Node K V D × Bool),
    s.tree = treeOf o c x nid → IdInv c x nid →
    c.rootId (Node.id x) = rootWas →
    (deleteNode P {} (P.order >>> 1) key d x >>= unwindCtx P (P.order >>> 1) c) = .ok res →
    Solo P s (delGo P 0 s key (c.frames (Node.id x)) (Node.id x) rootWas) (finishTree ⟨o, D, res.1, nid⟩ res.2) .ok []

theorem del_leaf (P : Params K) (key : K) (rootWas : Nat) : DelSim (V := V) P key rootWas 0 := by
  intro D c l o nid s res htree hinv hroot hseq
  have hnm : Node.id (d := 0) l ∉ c.ids := hinv.not_mem
  have hfind : s.tree.find (Node.id (d := 0) l) = some ⟨0, l⟩ := find_treeOf htree hnm
  obtain ⟨⟨l', small⟩, hd, hun⟩ :=
    bind_ok (show (Leaf.deleteKey P l (P.order >>> 1) key >>= unwindCtx P (P.order >>> 1) c) = .ok res from hseq)
  · have hid : (l' : Leaf K V).id = (l : Leaf K V).id := Leaf.deleteKey_id P l l' _ key small hd
    have hid' : Node.id (d := 0) l' = Node.id (d := 0) l := hid
    rw [delGo_leaf hfind hd, ← hid']
    refine (unw_all P key rootWas c (l' : Node K V 0) small o nid _ res ?_ ?_ ?_ hun).rebase ((Ext.refl s).setTree _)
    · show putLeaf s.tree l' = _
      exact putLeaf_treeOf htree l' hid hnm
    · rw [hid']; exact hinv.lockInv
    · rw [hid']; exact hroot

theorem del_inner (P : Params K) (key : K) (rootWas : Nat) (d : Nat) (ih : DelSim (V := V) P key rootWas d) :
    DelSim (V := V) P key rootWas (d + 1) := by
  intro D c p o nid s res htree hinv hroot hseq
  cases hk : p.kids[searchLE P.lt key p.runts]? with
  | none =>
    rw [deleteNode_inner_none P _ _ key p hk] at hseq
    cases hseq
  | some child =>
    obtain ⟨A, B, hkids, hA⟩ := getElem?_split _ _ _ hk
    obtain ⟨pid, prunts, pkids⟩ := p
    simp only at hkids hA hk
    subst hkids
    have hroot : c.rootId pid = rootWas := hroot
    have hfind : s.tree.find pid = some ⟨d + 1, (⟨pid, prunts, A ++ child :: B⟩ : Inner K (Node K V d))⟩ :=
      find_treeOf htree hinv.not_mem
    rw [deleteNode_succ P _ key pid prunts A B child hA, bind_assoc] at hseq
    have hseq2 : (deleteNode P {} (P.order >>> 1) key d child >>=
        unwindCtx P (P.order >>> 1) (Ctx.kid c pid prunts A B)) = .ok res := hseq
    have hinv2 : IdInv (Ctx.kid c pid prunts A B) child nid := IdInv.kid_iff.2 hinv
    have hl2 := hinv2.lockInv
    have hcfree : Lk.node (Node.id child) ∉ c.held pid := hl2.hole_free
    show Solo P s (delGo P 0 s key (c.frames pid) pid rootWas) _ _ _
    -- what the recursion gives once the child is locked, whatever was locked on the way
    have hgo : ∀ s2 : St K V, s2.tree = s.tree →
        Solo P s2 (delGo P 0 s2 key (⟨pid, searchLE P.lt key prunts, Ctx.leftOf A, Node.id child⟩ :: c.frames pid)
          (Node.id child) rootWas) (finishTree ⟨o, D, res.1, nid⟩ res.2) .ok [] := by
      intro s2 h1
      have h := ih (Ctx.kid c pid prunts A B) child o nid s2 res (h1.trans htree) hinv2 hroot hseq2
      rw [← hA]
      exact h
    cases hgla : A.getLast? with
    | some left =>
      -- the left sibling is locked first
      have hpos : A.length > 0 := by
        cases A with
        | nil => cases hgla
        | cons a A => simp
      have hk1 : (A ++ child :: B)[searchLE P.lt key prunts - 1]? = some left := by
        rw [← hA, List.getElem?_append_left (by omega), ← List.getLast?_eq_getElem?]
        exact hgla
      have hlo : Ctx.leftOf A = some (Node.id left) := by
        unfold Ctx.leftOf; rw [hgla]; rfl
      obtain ⟨hlfree, hne⟩ := hl2.left_free hlo
      rw [delGo_left hfind (show searchLE P.lt key prunts > 0 by omega) hk1]
      refine Solo.park (fun _ h => h) (by rw [← hroot]; exact hlfree) ?_
      rw [resume_delLeft (s := s.tick) hfind hk]
      refine Solo.park (fun _ h => h) ?_ ?_
      · show Lk.node (Node.id child) ∉ Lk.tree :: Lk.node rootWas :: (framesHeld (c.frames pid) ++ [Lk.node (Node.id left)])
        rw [← hroot]
        exact fun hm => (List.mem_append.1 (show _ ∈ c.held pid ++ _ from hm)).elim hcfree
          fun h => hne (Lk.node.inj (List.mem_singleton.1 h))
      · rw [← hlo]
        refine (hgo _ ?_).rebase ((((Ext.refl s).tick.acq _).tick.acq _))
        rfl
    | none =>
      rw [List.getLast?_eq_none_iff] at hgla
      subst hgla
      have hz : ¬ searchLE P.lt key prunts > 0 := by rw [← hA]; simp
      rw [delGo_zero hfind hz hk]
      refine Solo.park (fun _ h => h) ?_ ?_
      · show Lk.node (Node.id child) ∉ Lk.tree :: Lk.node rootWas :: (framesHeld (c.frames pid) ++ [])
        rw [← hroot, List.append_nil]
        exact hcfree
      · refine (hgo _ ?_).rebase (((Ext.refl s).tick.acq _))
        rfl

theorem del_all (P : Params K) (key : K) (rootWas : Nat) : ∀ d, DelSim (V := V) P key rootWas d
  | 0 => del_leaf P key rootWas
  | d + 1 => del_inner P key rootWas d (del_all P key rootWas d)

theorem Tree.delete_inv (P : Params K) (key : K) (t t' : Tree K V) (hord : t.order = P.order)
    (hdel : t.delete P {} key = .ok t') :
    ∃ root' small, deleteNode P {} (P.order >>> 1) key t.depth t.root = .ok (root', small) ∧
      finishTree ⟨t.order, t.depth, root', t.nextId⟩ small = t' := by
  obtain ⟨root', small, hdn, hc⟩ := Gobptree.Tree.delete_ok_inv P {} t t' key hdel
  refine ⟨root', small, by rw [← hord]; exact hdn, ?_⟩
  unfold finishTree
  simp only
  by_cases hk : !small ∨ Node.count root' > 1
  · rw [if_pos hk] at hc ⊢
    exact hc.symm
  · rw [if_neg hk] at hc ⊢
    rw [hc]

theorem del_tree (P : Params K) (key : K) (t' : Tree K V) (s : St K V)
    (hinv : IdInv Ctx.top s.tree.root s.tree.nextId) (hord : s.tree.order = P.order)
    (hdel : s.tree.delete P {} key = .ok t') :
    Solo P s (s, .park (.want .tree (.delTree key))) t' .ok [] := by
  obtain ⟨root', small, hdn, hfin⟩ := Tree.delete_inv P key s.tree t' hord hdel
  refine Solo.enter (fun _ => id) (fun _ => id) rfl rfl rfl ?_
  have h := del_all P key (Node.id s.tree.root) s.tree.depth Ctx.top s.tree.root s.tree.order s.tree.nextId s.entered
    (root', small) (treeOf_eta s.tree).symm hinv rfl
    (by
      show (deleteNode P {} (P.order >>> 1) key s.tree.depth s.tree.root >>= pure) = _
      rw [bind_pure, hdn])
  rw [hfin] at h
  exact h

end Gobptree.Conc
