/-
  `rebalance` on an `Ord` inner node yields an `Ord` inner node in the same interval with the
  same pairs: it rewrites a window of two adjacent kids by a borrow or a merge (`RebCases`).
-/
import Gobptree.Proofs.CKDelNode
import Gobptree.Proofs.CKSeg
import Gobptree.Proofs.Siblings
import Gobptree.Proofs.CSDelReb

namespace Gobptree.Conc
open Gobptree

variable {K V : Type} {lt : K → K → Bool}

theorem parent_split2 {d : Nat} (i : Inner K (Node K V d)) (lo hi : Option K)
    (rA rB : List K) (A B : List (Node K V d)) (k1 k2 : K) (c1 c2 : Node K V d)
    (hr : i.runts = rA ++ k1 :: k2 :: rB) (hk : i.kids = A ++ c1 :: c2 :: B)
    (hl : rA.length = A.length) (hO : Ord lt (d + 1) lo hi i) :
    Ord lt d (some k1) (some k2) c1 ∧ lt k1 k2 = true ∧
    Ord lt d (some k2) (nextLo hi (rB.zip B)) c2 ∧ ltO lt k2 (nextLo hi (rB.zip B)) := by
  have hK := hO.2
  rw [hr, hk, Kids_decomp hi rA (k2 :: rB) k1 A (c2 :: B) c1 hl] at hK
  obtain ⟨-, hO1, h12, hK2⟩ := hK
  have hK2' : Kids lt (fun a b c => Ord lt d a b c) hi ((k2, c2) :: rB.zip B) := hK2
  exact ⟨hO1, h12, hK2'.1, hK2'.2.1⟩

theorem pair_setup {d : Nat} (i : Inner K (Node K V d)) (hPar : ParN (d + 1) i) (j : Nat)
    (c1 c2 : Node K V d) (h1 : i.kids[j]? = some c1) (h2 : i.kids[j + 1]? = some c2) :
    ∃ (rA rB : List K) (A B : List (Node K V d)) (k1 k2 : K),
      i.runts = rA ++ k1 :: k2 :: rB ∧ i.kids = A ++ c1 :: c2 :: B ∧
      rA.length = A.length ∧ A.length = j := by
  obtain ⟨A, B, hk, hA⟩ := split_two i.kids j c1 c2 h1 h2
  have hlen := hPar.1
  have hj : j + 1 < i.runts.length := hlen ▸ (List.getElem?_eq_some_iff.1 h2).1
  obtain ⟨rA, rB, hr, hrA⟩ := split_two i.runts j (i.runts[j]'(Nat.lt_of_succ_lt hj)) (i.runts[j + 1]'hj)
    (List.getElem?_eq_getElem _) (List.getElem?_eq_getElem _)
  exact ⟨rA, rB, A, B, _, _, hr, hk, hrA.trans hA.symm, hA⟩

def RebK (lt : K → K → Bool) {d : Nat} (i : Inner K (Node K V d)) (lo hi : Option K)
    (i' : Inner K (Node K V d)) : Prop :=
  i'.id = i.id ∧ Ord lt (d + 1) lo hi i' ∧ ParN (d + 1) i' ∧
  Node.pairs (d := d + 1) i' = Node.pairs (d := d + 1) i

theorem count_child_pos {o : Nat} {d : Nat} {i : Inner K (Node K V d)} {index : Nat} {child : Node K V d}
    (hin : RebIn o i index child) : 1 ≤ Node.count child := by
  obtain ⟨_, _, hh2, _, hcc⟩ := hin.lens
  rw [count_eq]
  omega

/-- the outcome of `rebalance` on an `Ord` node: it rewrites a window `c1 c2` of two adjacent
    kids, one of them the child at `index`, either by a borrow (the separator between them
    is refreshed) or by a merge (it disappears) -/
def RebCases (lt : K → K → Bool) {d : Nat} (i : Inner K (Node K V d)) (index : Nat)
    (hi : Option K) (i' : Inner K (Node K V d)) : Prop :=
  ∃ (rA rB : List K) (A B : List (Node K V d)) (k1 k2 : K) (c1 c2 : Node K V d),
    i.runts = rA ++ k1 :: k2 :: rB ∧ i.kids = A ++ c1 :: c2 :: B ∧ rA.length = A.length ∧
    A.length ≤ index ∧ index ≤ A.length + 1 ∧
    ((∃ c1' c2' s, BorrowShape c1 c2 c1' c2' s ∧ BorrowOut lt k1 k2 s (nextLo hi (rB.zip B)) c1 c2 c1' c2' ∧
        i' = (Inner.mk i.id (rA ++ k1 :: s :: rB) (A ++ c1' :: c2' :: B) : Inner K (Node K V d))) ∨
     (∃ m, MergeShape c1 c2 m ∧ MergeOut lt k1 k2 (nextLo hi (rB.zip B)) c1 c2 m ∧
        i' = (Inner.mk i.id (rA ++ k1 :: rB) (A ++ m :: B) : Inner K (Node K V d))))

theorem window_ord {d : Nat} (i : Inner K (Node K V d)) (lo hi : Option K) (hO : Ord lt (d + 1) lo hi i)
    (hPar : ParN (d + 1) i) (j : Nat) (c1 c2 : Node K V d) (h1 : i.kids[j]? = some c1)
    (h2 : i.kids[j + 1]? = some c2) :
    ∃ (rA rB : List K) (A B : List (Node K V d)) (k1 k2 : K),
      i.runts = rA ++ k1 :: k2 :: rB ∧ i.kids = A ++ c1 :: c2 :: B ∧
      rA.length = A.length ∧ A.length = j ∧
      Ord lt d (some k1) (some k2) c1 ∧ lt k1 k2 = true ∧
      Ord lt d (some k2) (nextLo hi (rB.zip B)) c2 ∧ ltO lt k2 (nextLo hi (rB.zip B)) ∧
      ParN d c1 ∧ ParN d c2 := by
  obtain ⟨rA, rB, A, B, k1, k2, hr, hk, hl, hA⟩ := pair_setup i hPar j c1 c2 h1 h2
  obtain ⟨hO1, h12, hO2, h2n⟩ := parent_split2 i lo hi rA rB A B k1 k2 c1 c2 hr hk hl hO
  exact ⟨rA, rB, A, B, k1, k2, hr, hk, hl, hA, hO1, h12, hO2, h2n,
    hPar.2.2 c1 (List.mem_of_getElem? h1), hPar.2.2 c2 (List.mem_of_getElem? h2)⟩

theorem rebalance_ord_cases (h : SWO lt) (P : Params K) (hp : PadOk P) (o : Nat) {d : Nat}
    (i : Inner K (Node K V d)) (index : Nat) (child : Node K V d) (hin : RebIn o i index child)
    (lo hi : Option K) (hO : Ord lt (d + 1) lo hi i) (hPar : ParN (d + 1) i)
    {i' : Inner K (Node K V d)} {small' : Bool}
    (heval : rebalance P {} (o / 2) i index child = .ok (i', small')) : RebCases lt i index hi i' := by
  have hh2 : 2 ≤ o / 2 := hin.lens.2.2.1
  cases Gobptree.rebalance_cases P {} (o / 2) i i' index child small' heval with
  | borrowRight right c' r' s hR hright hRc hadopt hsm =>
    have hro := hin.kocc (index + 1) right hright (Nat.succ_ne_self index)
    obtain ⟨rA, rB, A, B, k1, k2, hr, hk, hl, rfl, hO1, h12, hO2, h2n, hP1, hP2⟩ :=
      window_ord i lo hi hO hPar index child right hin.hc hright
    obtain ⟨_, _, _, hadopt', hsm', sh, out⟩ := adoptFromRight_pair h child right k1 k2 (nextLo hi (rB.zip B))
      hO1 hO2 h12 hin.cocc.par hro.par hP1 hP2 (Nat.le_of_lt (Nat.lt_of_le_of_lt hh2 hRc))
    rw [hadopt] at hadopt'
    cases hadopt'
    rw [hsm] at hsm'
    cases hsm'
    refine ⟨rA, rB, A, B, k1, k2, child, right, hr, hk, hl, Nat.le_refl _, Nat.le_succ _,
      Or.inl ⟨c', r', s, sh, out, ?_⟩⟩
    rw [hr, hk, set_next hl, set_pivot rfl, set_next rfl]
  | borrowLeft left l' c' runts' _ hL hleft hLc hadopt hrun =>
    obtain ⟨j, rfl⟩ : ∃ j, index = j + 1 := ⟨index - 1, (Nat.sub_add_cancel hL).symm⟩
    have hleft : i.kids[j]? = some left := hleft
    obtain ⟨s, hsm, _, rfl⟩ : ∃ k, Node.smallest c' = .ok k ∧ j + 1 < i.runts.length ∧
      runts' = i.runts.set (j + 1) k := hrun
    have hlo := hin.kocc j left hleft (Nat.ne_of_lt (Nat.lt_succ_self j))
    obtain ⟨rA, rB, A, B, k1, k2, hr, hk, hl, rfl, hO1, h12, hO2, h2n, hP1, hP2⟩ :=
      window_ord i lo hi hO hPar j left child hleft hin.hc
    obtain ⟨_, _, _, hadopt', hsm', sh, out⟩ := adoptFromLeft_pair h P hp left child k1 k2 (nextLo hi (rB.zip B))
      hO1 hO2 h12 h2n hlo.par hin.cocc.par hP1 hP2 (Nat.le_of_lt (Nat.lt_of_le_of_lt hh2 hLc)) (count_child_pos hin)
    rw [hadopt] at hadopt'
    cases hadopt'
    rw [hsm] at hsm'
    cases hsm'
    refine ⟨rA, rB, A, B, k1, k2, left, child, hr, hk, hl, Nat.le_succ _, Nat.le_refl _,
      Or.inl ⟨l', c', s, sh, out, ?_⟩⟩
    rw [Nat.add_sub_cancel, hr, hk, set_next hl, set_pivot rfl, set_next rfl]
  | mergeLeft left m _ hL hleft _ _ habs _ _ =>
    obtain ⟨j, rfl⟩ : ∃ j, index = j + 1 := ⟨index - 1, (Nat.sub_add_cancel hL).symm⟩
    have hleft : i.kids[j]? = some left := hleft
    have hlo := hin.kocc j left hleft (Nat.ne_of_lt (Nat.lt_succ_self j))
    obtain ⟨rA, rB, A, B, k1, k2, hr, hk, hl, rfl, hO1, h12, hO2, h2n, hP1, hP2⟩ :=
      window_ord i lo hi hO hPar j left child hleft hin.hc
    obtain ⟨_, habs', sh, out⟩ := absorbRight_pair h left child k1 k2 (nextLo hi (rB.zip B)) hO1 hO2 h12 h2n
      hlo.par hin.cocc.par hP1 hP2 (hin.chain_window A B left child hk)
    rw [habs] at habs'
    cases habs'
    refine ⟨rA, rB, A, B, k1, k2, left, child, hr, hk, hl, Nat.le_succ _, Nat.le_refl _,
      Or.inr ⟨m, sh, out, ?_⟩⟩
    rw [Nat.add_sub_cancel, hr, hk, deleteIdiom_next hl, set_pivot rfl, deleteIdiom_next rfl]
  | mergeRight right m hR hright _ _ _ habs _ =>
    have hro := hin.kocc (index + 1) right hright (Nat.succ_ne_self index)
    obtain ⟨rA, rB, A, B, k1, k2, hr, hk, hl, rfl, hO1, h12, hO2, h2n, hP1, hP2⟩ :=
      window_ord i lo hi hO hPar index child right hin.hc hright
    obtain ⟨_, habs', sh, out⟩ := absorbRight_pair h child right k1 k2 (nextLo hi (rB.zip B)) hO1 hO2 h12 h2n
      hin.cocc.par hro.par hP1 hP2 (hin.chain_window A B child right hk)
    rw [habs] at habs'
    cases habs'
    refine ⟨rA, rB, A, B, k1, k2, child, right, hr, hk, hl, Nat.le_refl _, Nat.le_succ _,
      Or.inr ⟨m, sh, out, ?_⟩⟩
    rw [hr, hk, deleteIdiom_next hl, set_pivot rfl, deleteIdiom_next rfl]

theorem rebalance_node (h : SWO lt) (P : Params K) (hp : PadOk P) (o : Nat) {d : Nat}
    (i : Inner K (Node K V d)) (index : Nat) (child : Node K V d) (hin : RebIn o i index child)
    (lo hi : Option K) (hO : Ord lt (d + 1) lo hi i) (hPar : ParN (d + 1) i)
    (i' : Inner K (Node K V d)) (small' : Bool)
    (heval : rebalance P {} (o / 2) i index child = .ok (i', small')) : RebK lt i lo hi i' := by
  obtain ⟨rA, rB, A, B, k1, k2, c1, c2, hr, hk, hl, hw1, hw2, hcase⟩ :=
    rebalance_ord_cases h P hp o i index child hin lo hi hO hPar heval
  obtain ⟨-, h12, -, h2n⟩ := parent_split2 i lo hi rA rB A B k1 k2 c1 c2 hr hk hl hO
  have hlo : rA = [] → leO lt lo k1 := fun e => hO.1 k1 (by rw [hr, e]; rfl)
  -- the window `(k1, c1), (k2, c2)` becomes `(k1, c1'), (s, c2')` or `(k1, m)`
  rcases hcase with ⟨c1', c2', s, _, out, rfl⟩ | ⟨m, _, out, rfl⟩
  · refine ⟨rfl, replace_entries i _ rA rB k1 k1 A B c1 c1' [(k2, c2)] [(s, c2')] hl hr hk rfl rfl hO hPar (fun _ => rfl) hlo
      ⟨out.ord1, out.lt1, out.ord2, out.lt2, trivial⟩
      (List.forall_mem_cons.2 ⟨out.par1, List.forall_mem_singleton.2 out.par2⟩) ?_⟩
    show [c1', c2'].flatMap _ = [c1, c2].flatMap _
    rw [List.flatMap_cons, List.flatMap_singleton, List.flatMap_cons, List.flatMap_singleton]
    exact out.pairs
  · refine ⟨rfl, replace_entries i _ rA rB k1 k1 A B c1 m [(k2, c2)] [] hl hr hk rfl rfl hO hPar (fun _ => rfl) hlo
      ⟨out.ord, ltO_of_lt h h12 h2n, trivial⟩ (List.forall_mem_singleton.2 out.par) ?_⟩
    show [m].flatMap _ = [c1, c2].flatMap _
    rw [List.flatMap_singleton, List.flatMap_cons, List.flatMap_singleton]
    exact out.pairs

end Gobptree.Conc
