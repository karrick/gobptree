/-
  The rewrites of the Search/Insert/Update blocks on the flat view.  A block rewrites a
  window (a segment of the flat view) `M ↦ M'`; `MidOk` says what such a window owes the invariant and the frame (fresh
  identities only, occupancy of the new entries, the leaf chain changed by a split at most,
  only held or fresh nodes written), `Step.of_mid` turns it into a `Step` of the tree, and
  `Step`s compose into the `Post` of a stretch.  This is the calculus of the blocks that may
  allocate, at any order from 2; Delete's blocks (no allocation, order at least 4) use `Rw`
  (CSDelList).
-/
import Gobptree.Proofs.CSBlock
import Gobptree.Proofs.CSRank
import Gobptree.Proofs.CSFlat

namespace Gobptree.Conc
open Gobptree

variable {K V : Type}

/-- what a block of this calculus may do to the leaf chain, seen as `(id, next)` pairs: nothing, or
    one split — a leaf `c` gets a fresh right neighbour `f`, which takes over its `next` -/
def ChainStep (a b : List (Nat × Option Nat)) : Prop :=
  a = b ∨ ∃ U W c n f, a = U ++ (c, n) :: W ∧ b = U ++ (c, some f) :: (f, n) :: W

theorem ChainStep.rfl' (a : List (Nat × Option Nat)) : ChainStep a a := Or.inl rfl

theorem ChainStep.context {a b : List (Nat × Option Nat)} (X Y : List (Nat × Option Nat)) (h : ChainStep a b) :
    ChainStep (X ++ a ++ Y) (X ++ b ++ Y) := by
  rcases h with h | ⟨U, W, c, n, f, ha, hb⟩
  · subst h; exact Or.inl rfl
  · refine Or.inr ⟨X ++ U, W ++ Y, c, n, f, ?_, ?_⟩
    · rw [ha]; simp [List.append_assoc]
    · rw [hb]; simp [List.append_assoc]

theorem ChainStep.chain {a b : List (Nat × Option Nat)} (h : ChainStep a b) : ChainV a → ChainV b := by
  rcases h with h | ⟨U, W, c, n, f, ha, hb⟩
  · subst h; exact id
  · rw [ha, hb]; exact chainV_split U W c n f

theorem chain_surgery {t t' : Tree K V} {L A A' R : List (Nat × Shallow K V)} (hc : ChainOk t)
    (hf : t.flat = L ++ A ++ R) (hf' : t'.flat = L ++ A' ++ R)
    (hs : ChainStep (chainView A) (chainView A')) : ChainOk t' := by
  rw [chainOk_iff] at hc ⊢
  rw [hf, chainView_append, chainView_append] at hc
  rw [hf', chainView_append, chainView_append]
  exact (hs.context _ _).chain hc


theorem ids_surgery {t t' : Tree K V} {L A A' R : List (Nat × Shallow K V)} {F : List Nat} (hi : IdsOk t)
    (hf : t.flat = L ++ A ++ R) (hf' : t'.flat = L ++ A' ++ R)
    (hp : (A'.map Prod.fst).Perm (F ++ A.map Prod.fst)) (hF : F.Nodup)
    (hFb : ∀ i ∈ F, t.nextId ≤ i ∧ i < t'.nextId) (hn : t.nextId ≤ t'.nextId) : IdsOk t' := by
  have hperm : t'.ids.Perm (F ++ t.ids) := by
    unfold Tree.ids
    rw [hf, hf']
    simp only [List.map_append]
    refine ((hp.append_left _).append_right _).trans ?_
    simp only [List.append_assoc]
    exact List.perm_append_comm_assoc _ _ _
  constructor
  · rw [hperm.nodup_iff, List.nodup_append]
    refine ⟨hF, hi.1, ?_⟩
    intro a ha b hb e
    have := (hFb a ha).1
    have := hi.2 b hb
    omega
  · intro i hi'
    rcases List.mem_append.1 (hperm.mem_iff.1 hi') with h | h
    · exact (hFb i h).2
    · have := hi.2 i h; omega


theorem minOf_le (o r : Nat) (hole : Option Nat) (id h : Nat) (hne : id ≠ r) : minOf o r hole id h ≤ o / 2 := by
  unfold minOf
  rw [if_neg hne]
  split
  · exact Nat.sub_le _ _
  · exact Nat.le_refl _

theorem minOf_root_le (o r : Nat) (hole : Option Nat) (id h : Nat) : minOf o r hole id h ≤ max 2 (o / 2) := by
  unfold minOf
  split
  · split
    · exact Nat.zero_le _
    · exact Nat.le_max_left _ _
  · split
    · exact Nat.le_trans (Nat.sub_le _ _) (Nat.le_max_right _ _)
    · exact Nat.le_max_right _ _


theorem TreeOk.rewrite {hole : Option Nat} {t t' : Tree K V} (hok : TreeOk hole t) (hord : t'.order = t.order)
    (hi : IdsOk t') (ho : OccOk hole t') (hc : ChainOk t') : TreeOk hole t' :=
  ⟨hi, ho, hc, by rw [hord]; exact hok.order2, by rw [hord]; exact hok.big, by rw [hord]; exact hok.even⟩


/-- one write-back `t ↦ t'` by a thread holding `H`: the invariant again (with the same `hole`, the one
    under-full node a running Delete may have left, see `CSDefs`; these blocks pass it through), and the
    write frame — entries that are neither held nor fresh are kept, the root pointer too unless
    `rootMutex` is held -/
structure Step (H : List Lk) (hole : Option Nat) (t t' : Tree K V) : Prop where
  tree   : TreeOk hole t'
  frame  : FrameEq (keepOf H t.nextId) t.flat t'.flat
  nextId : t.nextId ≤ t'.nextId
  root   : Lk.tree ∈ H ∨ (t'.rootId = t.rootId ∧ t'.depth = t.depth)
  order  : t'.order = t.order

theorem keepOf_held (H : List Lk) (nid id : Nat) (h : Lk.node id ∈ H) : keepOf H nid id = false := by
  unfold keepOf
  have : H.contains (Lk.node id) = true := by simpa using h
  rw [this]; simp

theorem keepOf_mono (H : List Lk) {a b : Nat} (h : a ≤ b) (i : Nat) : keepOf H a i = true → keepOf H b i = true := by
  unfold keepOf
  simp only [Bool.and_eq_true, decide_eq_true_eq]
  intro ⟨h1, h2⟩
  exact ⟨by omega, h2⟩

theorem Step.refl {H : List Lk} {hole : Option Nat} {t : Tree K V} (h : TreeOk hole t) : Step H hole t t :=
  ⟨h, FrameEq.refl _ _, Nat.le_refl _, Or.inr ⟨rfl, rfl⟩, rfl⟩

theorem keepOf_fresh (H : List Lk) (nid id : Nat) (h : nid ≤ id) : keepOf H nid id = false := by
  unfold keepOf
  have : decide (id < nid) = false := by simp; omega
  rw [this]; simp

theorem frameEq_drop_head {keep : Nat → Bool} {a b : Nat × Shallow K V} {l l' : List (Nat × Shallow K V)}
    (ha : keep a.1 = false) (hb : keep b.1 = false) (h : FrameEq keep l l') : FrameEq keep (a :: l) (b :: l') := by
  unfold FrameEq at *
  simp [ha, hb, h]

theorem frameEq_drop_left {keep : Nat → Bool} {b : Nat × Shallow K V} {l l' : List (Nat × Shallow K V)}
    (hb : keep b.1 = false) (h : FrameEq keep l l') : FrameEq keep l (b :: l') := by
  unfold FrameEq at *
  simp [hb, h]

theorem frameEq_append {keep : Nat → Bool} {a a' b b' : List (Nat × Shallow K V)}
    (h1 : FrameEq keep a a') (h2 : FrameEq keep b b') : FrameEq keep (a ++ b) (a' ++ b') := by
  unfold FrameEq at *
  simp [List.filter_append, h1, h2]

/-- what the window `M ↦ M'` owes, in the tree `t`, towards a result with allocation counter `nid'` and
    root `rootId'` (those of the NEW tree: `Step.of_mid`) -/
structure MidOk (H : List Lk) (hole : Option Nat) (t : Tree K V) (nid' rootId' : Nat)
    (M M' : List (Nat × Shallow K V)) : Prop where
  ids   : ∃ F, (M'.map Prod.fst).Perm (F ++ M.map Prod.fst) ∧ F.Nodup ∧ ∀ i ∈ F, t.nextId ≤ i ∧ i < nid'
  occ   : ∀ q ∈ M', NodeOcc t.order (minOf t.order rootId' hole q.1 q.2.height) q.2
  chain : ChainStep (chainView M) (chainView M')
  frame : FrameEq (keepOf H t.nextId) M M'

theorem MidOk.nil (H : List Lk) (hole : Option Nat) (t : Tree K V) (nid' rootId' : Nat) :
    MidOk H hole t nid' rootId' [] [] :=
  ⟨⟨[], List.Perm.refl _, List.nodup_nil, fun _ h => (by cases h)⟩, fun _ h => (by cases h), Or.inl rfl,
    FrameEq.refl _ _⟩

theorem MidOk.leaf {H : List Lk} {hole : Option Nat} {t : Tree K V} {nid' r id : Nat} {sh sh' : Shallow K V}
    (hH : Lk.node id ∈ H) (h0 : sh.height = 0) (h0' : sh'.height = 0) (hn : sh'.next = sh.next)
    (hocc : NodeOcc t.order (minOf t.order r hole id sh'.height) sh') :
    MidOk H hole t nid' r [(id, sh)] [(id, sh')] :=
  ⟨⟨[], List.Perm.refl _, List.nodup_nil, fun _ h => (by cases h)⟩,
    fun q hq => (by cases List.mem_singleton.1 hq; exact hocc),
    Or.inl (by rw [chainView_cons_leaf _ _ _ h0, chainView_cons_leaf _ _ _ h0', hn]),
    frameEq_drop_head (keepOf_held H _ _ hH) (keepOf_held H _ _ hH) (FrameEq.refl _ _)⟩

theorem MidOk.inner {H : List Lk} {hole : Option Nat} {t : Tree K V} {nid' r pid : Nat}
    {X Y M M' : List (Nat × Shallow K V)} {shp shp' : Shallow K V} (hmid : MidOk H hole t nid' r M M')
    (hH : Lk.node pid ∈ H) (hh : 0 < shp.height) (hh' : 0 < shp'.height)
    (hoccp : NodeOcc t.order (minOf t.order r hole pid shp'.height) shp')
    (hXY : ∀ q, q ∈ X ∨ q ∈ Y → NodeOcc t.order (minOf t.order r hole q.1 q.2.height) q.2) :
    MidOk H hole t nid' r ((pid, shp) :: (X ++ M ++ Y)) ((pid, shp') :: (X ++ M' ++ Y)) := by
  obtain ⟨⟨F, hperm, hF, hFb⟩, hocc, hchain, hframe⟩ := hmid
  refine ⟨⟨F, ?_, hF, hFb⟩, ?_, ?_, ?_⟩
  · simp only [List.map_cons, List.map_append]
    refine List.Perm.trans ?_ List.perm_middle.symm
    refine List.Perm.cons _ ?_
    refine (((hperm.append_left _).append_right _)).trans ?_
    simp only [List.append_assoc]
    exact List.perm_append_comm_assoc _ _ _
  · intro q hq
    rcases List.mem_cons.1 hq with rfl | hq
    · exact hoccp
    · rcases List.mem_append.1 hq with hq | hq
      · rcases List.mem_append.1 hq with hq | hq
        · exact hXY q (Or.inl hq)
        · exact hocc q hq
      · exact hXY q (Or.inr hq)
  · rw [chainView_cons_inner _ _ _ hh, chainView_cons_inner _ _ _ hh',
      chainView_append, chainView_append, chainView_append, chainView_append]
    exact hchain.context _ _
  · exact frameEq_drop_head (keepOf_held H _ _ hH) (keepOf_held H _ _ hH)
      (FrameEq.context _ _ hframe)

theorem MidOk.fresh_cons {H : List Lk} {hole : Option Nat} {t : Tree K V} {nid' nid'' r f : Nat}
    {M M' : List (Nat × Shallow K V)} {sh : Shallow K V} (hmid : MidOk H hole t nid' r M M')
    (hn : t.nextId ≤ nid') (hf : nid' ≤ f) (hf' : f < nid'') (hh : 0 < sh.height)
    (hocc : NodeOcc t.order (minOf t.order r hole f sh.height) sh) :
    MidOk H hole t nid'' r M ((f, sh) :: M') := by
  obtain ⟨⟨F, hperm, hF, hFb⟩, hoccM, hchain, hframe⟩ := hmid
  refine ⟨⟨f :: F, List.Perm.cons _ hperm, List.nodup_cons.2 ⟨fun hm => ?_, hF⟩, fun i hi => ?_⟩, ?_, ?_, ?_⟩
  · exact Nat.lt_irrefl _ (Nat.lt_of_lt_of_le (hFb f hm).2 hf)
  · rcases List.mem_cons.1 hi with rfl | hi
    · exact ⟨Nat.le_trans hn hf, hf'⟩
    · exact ⟨(hFb i hi).1, Nat.lt_trans (hFb i hi).2 (Nat.lt_of_le_of_lt hf hf')⟩
  · intro q hq
    rcases List.mem_cons.1 hq with rfl | hq
    · exact hocc
    · exact hoccM q hq
  · rw [chainView_cons_inner _ _ _ hh]
    exact hchain
  · exact frameEq_drop_left (keepOf_fresh H _ _ (Nat.le_trans hn hf)) hframe

theorem Step.of_mid {H : List Lk} {hole : Option Nat} {t t' : Tree K V} (hok : TreeOk hole t)
    {L M M' R : List (Nat × Shallow K V)} (hf : t.flat = L ++ M ++ R) (hf' : t'.flat = L ++ M' ++ R)
    (horder : t'.order = t.order) (hmid : MidOk H hole t t'.nextId t'.rootId M M') (hnid : t.nextId ≤ t'.nextId)
    (hroot : Lk.tree ∈ H ∨ (t'.rootId = t.rootId ∧ t'.depth = t.depth))
    (hLR : t'.rootId = t.rootId ∨ (L = [] ∧ R = [])) : Step H hole t t' := by
  obtain ⟨⟨F, hperm, hF, hFb⟩, hocc, hchain, hframe⟩ := hmid
  -- `hLR`: the minimum occupancy of an entry depends on who is root (`minOf`), so the entries outside the
  -- window keep theirs if the root stays, or if there are none (a root split rewrites the whole view)
  have hold : ∀ q, q ∈ L ∨ q ∈ R → NodeOcc t.order (minOf t.order t'.rootId hole q.1 q.2.height) q.2 := by
    intro q hq
    rcases hLR with e | ⟨rfl, rfl⟩
    · rw [e]
      exact hok.occ q (hf ▸ hq.elim (fun h => List.mem_append_left _ (List.mem_append_left _ h))
        (fun h => List.mem_append_right _ h))
    · exact hq.elim (fun h => by cases h) (fun h => by cases h)
  refine ⟨hok.rewrite horder (ids_surgery hok.ids hf hf' hperm hF hFb hnid) ?_
    (chain_surgery hok.chain hf hf' hchain), ?_, hnid, hroot, horder⟩
  · intro p hp
    rw [horder]
    rw [hf'] at hp
    rcases List.mem_append.1 hp with hp | hp
    · rcases List.mem_append.1 hp with hp | hp
      · exact hold p (Or.inl hp)
      · exact hocc p hp
    · exact hold p (Or.inr hp)
  · rw [hf, hf']
    exact FrameEq.context _ _ hframe

theorem Step.post {H : List Lk} {hole : Option Nat} {s s' : St K V} {fl : Flow K V} (h : Step H hole s.tree s'.tree)
    (hnp : fl ≠ .panic)
    (hk : ∀ p, fl = .park p → parkKontOk s'.tree p ∧ ParkPre s'.cursor p ∧ ∀ x ∈ parkExtra s'.tree p, s.tree.nextId ≤ x)
    (hc : CursorOk s'.tree false s'.cursor) : Post H hole s s' fl :=
  ⟨hnp, h.tree, h.frame, h.nextId, h.root, h.order, hk, hc⟩

theorem Post.of_step {H : List Lk} {hole : Option Nat} {s s1 s' : St K V} {fl : Flow K V}
    (h1 : Step H hole s.tree s1.tree) (h2 : Post H hole s1 s' fl) : Post H hole s s' fl where
  nopanic := h2.nopanic
  tree := h2.tree
  frame := h1.frame.trans (h2.frame.mono (keepOf_mono H h1.nextId))
  nextId := Nat.le_trans h1.nextId h2.nextId
  root := by
    rcases h1.root with h | ⟨a, b⟩
    · exact Or.inl h
    · rcases h2.root with h | ⟨a', b'⟩
      · exact Or.inl h
      · exact Or.inr ⟨a'.trans a, b'.trans b⟩
  order := h2.order.trans h1.order
  kont := by
    intro p hp
    obtain ⟨a, b, c⟩ := h2.kont p hp
    exact ⟨a, b, fun x hx => Nat.le_trans h1.nextId (c x hx)⟩
  cursor := h2.cursor

theorem Post.of_tree_eq {H : List Lk} {hole : Option Nat} {s s0 s' : St K V} {fl : Flow K V}
    (e : s0.tree = s.tree) (h : Post H hole s0 s' fl) : Post H hole s s' fl := by
  obtain ⟨a, b, c, d, e', f, g, i⟩ := h
  rw [e] at c d e' f g
  exact ⟨a, b, c, d, e', f, g, i⟩

theorem Post.of_unchanged {H : List Lk} {hole : Option Nat} {s s' : St K V} {fl : Flow K V}
    (htree : TreeOk hole s.tree) (e : s'.tree = s.tree) (hnp : fl ≠ .panic)
    (hk : ∀ p, fl = .park p → parkKontOk s.tree p ∧ ParkPre s'.cursor p ∧ parkExtra s.tree p = [])
    (hc : CursorOk s.tree false s'.cursor) : Post H hole s s' fl where
  nopanic := hnp
  tree := by rw [e]; exact htree
  frame := by rw [e]; exact FrameEq.refl _ _
  nextId := by rw [e]; exact Nat.le_refl _
  root := Or.inr (by rw [e]; exact ⟨rfl, rfl⟩)
  order := by rw [e]
  kont := by
    intro p hp
    obtain ⟨a, b, c⟩ := hk p hp
    rw [e]
    exact ⟨a, b, by rw [c]; intro x hx; cases hx⟩
  cursor := by rw [e]; exact hc

theorem cursorOk_of_noLocks (t : Tree K V) (b : Bool) (c : Option (Option Nat × Int)) (h : cursorLocks c = []) :
    CursorOk t b c := by
  match c, h with
  | none, _ => trivial
  | some (none, _), _ => trivial
  | some (some _, _), h => simp [cursorLocks] at h


theorem occ_of_look {hole : Option Nat} {t : Tree K V} (ho : OccOk hole t) {id : Nat} {sh : Shallow K V}
    (h : t.look id = some sh) : NodeOcc t.order (minOf t.order t.rootId hole id sh.height) sh :=
  ho (id, sh) (look_mem h)

theorem kid_ne_root {t : Tree K V} (hi : IdsOk t) {p j c : Nat} (h : t.kidAt p j = some c) : c ≠ t.rootId :=
  fun e => root_not_kid hi (e ▸ h)

end Gobptree.Conc
