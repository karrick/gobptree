/-
  "No completed Insert or Update is lost, no deleted key reappears": statements on EVERY
  reachable configuration of disciplined programs (every schedule), in terms of the
  client-visible history `history c` and the abstract map `c.tree.abs`.

  The hypothesis on the OTHER calls of the programs is real-time: `SettledBefore (history c) t' i' t i`
  — the call `(t', i')` has not been invoked yet, or it returned before `(t, i)` was invoked.
  A call that is concurrent with `(t, i)`, or was invoked after it returned, is NOT settled: it may
  legitimately overwrite / remove / re-insert the key.

  The argument (`split_at_returned`, `post_clear`): the linearization order splits at the point of
  the returned call, nothing linearized after it writes the key (a writer there would not be
  settled), so the value at the key is the one the call left — last write wins.  Delete only needs
  the calls that STORE at the key to be settled.
-/
import Gobptree.Proofs.CNoLossLin

namespace Gobptree.Conc
open Gobptree Gobptree.Lin

variable {K V : Type}

def cWrites (lt : K → K → Bool) (k : K) : COp K V → Bool
  | .ins k' _ => eqv lt k' k
  | .upd k' _ _ => eqv lt k' k
  | .del k' => eqv lt k' k
  | _ => false

def cPuts (lt : K → K → Bool) (k : K) : COp K V → Bool
  | .ins k' _ => eqv lt k' k
  | .upd k' _ _ => eqv lt k' k
  | _ => false

theorem cWrites_eq (lt : K → K → Bool) (k : K) (cop : COp K V) : cWrites lt k cop = (opOf cop).any (writesKey lt k) := by
  cases cop <;> rfl

theorem cPuts_eq (lt : K → K → Bool) (k : K) (cop : COp K V) : cPuts lt k cop = (opOf cop).any (putsKey lt k) := by
  cases cop <;> rfl

def CallAt (progs : List (List (COp K V))) (t' i' : Nat) (cop : COp K V) : Prop :=
  ∃ p, progs[t']? = some p ∧ p[i']? = some cop

theorem CallAt.inj {progs : List (List (COp K V))} {t i : Nat} {cop cop' : COp K V} (h : CallAt progs t i cop)
    (h' : CallAt progs t i cop') : cop = cop' := by
  obtain ⟨p, h1, h2⟩ := h
  obtain ⟨p', h1', h2'⟩ := h'
  rw [h1] at h1'; cases h1'
  rw [h2] at h2'; cases h2'
  rfl

section Points

variable {lt : K → K → Bool} {init : List (K × V)} {progs : List (List (COp K V))} {c : Config K V}
  {h : List (HEv K V)} {t i : Nat}

theorem split_at_returned (hl : LinInv lt init c h) (hfrom : HistFrom progs h) {cop : COp K V} {op : Op K V}
    (hcall : CallAt progs t i cop) (hop : opOf cop = some op) {out : Out V} (hret : HEv.ret t i out ∈ history c) :
    ∃ (pre post : List (Nat × Nat × Op K V)),
      c.tree.abs = (Spec.run lt init (pre.map (·.2.2) ++ op :: post.map (·.2.2))).1 ∧
      out = (Spec.step lt (Spec.run lt init (pre.map (·.2.2))).1 op).2 ∧
      (∀ x ∈ pre, (x.1, x.2.1) ≠ (t, i) ∧ ∃ cop, CallAt progs x.1 x.2.1 cop ∧ opOf cop = some x.2.2) ∧
      (∀ x ∈ post, (x.1, x.2.1) ≠ (t, i) ∧ ¬ SettledBefore (history c) x.1 x.2.1 t i ∧
        ∃ cop, CallAt progs x.1 x.2.1 cop ∧ opOf cop = some x.2.2) := by
  have hwf := hl.pts.wf
  have hreth : HEv.ret t i out ∈ h := by
    rw [← hl.vis] at hret; exact (mem_visible.1 hret).1
  obtain ⟨L, op0, pre, post, hL, _, hsplit, hpre, hpost⟩ := lin_split hwf (lin_of_ret hwf hreth)
  have hcalls : ∀ x ∈ linOrder h, ∃ cop, CallAt progs x.1 x.2.1 cop ∧ opOf cop = some x.2.2 := by
    intro x hx
    obtain ⟨p, cop, h1, h2, h3⟩ := hfrom _ _ _ (linOrder_inv hx)
    exact ⟨cop, ⟨p, h1, h2⟩, h3⟩
  obtain ⟨cop0, hc0, ho0⟩ := hcalls (t, i, op0) (by rw [hsplit]; exact List.mem_append_right _ List.mem_cons_self)
  cases hc0.inj hcall
  cases ho0.symm.trans hop
  have hne : ∀ (x : Nat × Nat × Op K V) (M : Nat), M ≠ L → h[M]? = some (HEv.lin x.1 x.2.1) → (x.1, x.2.1) ≠ (t, i) := by
    intro x M hML hM e
    rw [(Prod.mk.inj e).1, (Prod.mk.inj e).2] at hM
    exact hML (hwf.lin_unique M L t i hM hL)
  refine ⟨pre, post, ?_, out_of_split hl.pts.spec hsplit hreth, ?_, ?_⟩
  · rw [← hl.pts.replay_map]
    unfold replay
    rw [hsplit, List.map_append, List.map_cons]
  · intro x hx
    obtain ⟨M, hM, hMl, _⟩ := hpre x hx
    exact ⟨hne x M (Nat.ne_of_lt hM) hMl, hcalls x (by rw [hsplit]; exact List.mem_append_left _ hx)⟩
  · intro x hx
    obtain ⟨M, hM, hMl, _⟩ := hpost x hx
    refine ⟨hne x M (Nat.ne_of_gt hM) hMl, ?_, hcalls x (by rw [hsplit]; exact List.mem_append_right _ (List.mem_cons_of_mem _ hx))⟩
    intro hs
    rw [← hl.vis] at hs
    exact Nat.lt_asymm (lin_before_of_settled hwf hL hMl hs) hM

theorem post_clear {Q : COp K V → Bool} {R : Op K V → Bool} (hQR : ∀ cop, Q cop = (opOf cop).any R)
    {H : List (HEv K V)} {post : List (Nat × Nat × Op K V)}
    (hpost : ∀ x ∈ post, (x.1, x.2.1) ≠ (t, i) ∧ ¬ SettledBefore H x.1 x.2.1 t i ∧
      ∃ cop, CallAt progs x.1 x.2.1 cop ∧ opOf cop = some x.2.2)
    (hothers : ∀ t' i' cop, CallAt progs t' i' cop → (t', i') ≠ (t, i) → Q cop = true → SettledBefore H t' i' t i) :
    ∀ o ∈ post.map (·.2.2), R o = false := by
  intro o ho
  obtain ⟨x, hx, rfl⟩ := List.mem_map.1 ho
  obtain ⟨hne, hns, cop, hc, hop⟩ := hpost x hx
  cases hw : R x.2.2 with
  | false => rfl
  | true => exact absurd (hothers _ _ cop hc hne (by rw [hQR, hop]; exact hw)) hns

theorem lookup_after_returned (hswo : SWO lt) (hl : LinInv lt init c h) (hfrom : HistFrom progs h)
    {cop : COp K V} {op : Op K V} (hcall : CallAt progs t i cop) (hop : opOf cop = some op)
    {out : Out V} (hret : HEv.ret t i out ∈ history c) {k : K}
    (hothers : ∀ t' i' cop, CallAt progs t' i' cop → (t', i') ≠ (t, i) → cWrites lt k cop = true →
      SettledBefore (history c) t' i' t i) :
    ∃ m, Spec.lookup lt c.tree.abs k = Spec.lookup lt (Spec.step lt m op).1 k ∧ out = (Spec.step lt m op).2 := by
  obtain ⟨pre, post, habs, hout, _, hpost⟩ := split_at_returned hl hfrom hcall hop hret
  refine ⟨_, ?_, hout⟩
  rw [habs, run_lookup_last_write hswo k _ _ _ _ (post_clear (cWrites_eq lt k) hpost hothers)]

end Points

section Main

variable (lt : K → K → Bool) (P : Params K) (tree : Tree K V) (progs : List (List (COp K V)))
  (hkp : KParams lt P) (ht : TreeOk none tree) (hord : OrdTree lt tree) (hsep : SepTree lt tree)
  (ho : tree.order = P.order) (hp : PadOk P) (hd : Disciplined progs)
  (hdel : 4 ≤ tree.order ∨ NoDelete progs)
include hkp ht hord hsep ho hp hd hdel

theorem lookup_last_write (c : Config K V) (hr : Reachable (Config.init P tree progs) c) (k : K) :
    ∃ h, PointsWF h ∧ PointsSpec lt tree.abs h ∧ visible h = history c ∧
      ∀ (pre post : List (Nat × Nat × Op K V)) (x : Nat × Nat × Op K V), linOrder h = pre ++ x :: post →
        (∀ y ∈ post, writesKey lt k y.2.2 = false) →
        Spec.lookup lt c.tree.abs k =
          Spec.lookup lt (Spec.step lt (Spec.run lt tree.abs (pre.map (·.2.2))).1 x.2.2).1 k := by
  obtain ⟨h, hl⟩ := reachable_lininv lt P tree progs hkp ht hord hsep ho hp hd hdel c hr
  refine ⟨h, hl.pts.wf, hl.pts.spec, hl.vis, ?_⟩
  intro pre post x hsplit hpost
  rw [← hl.pts.replay_map]
  unfold replay
  rw [hsplit, List.map_append, List.map_cons]
  apply run_lookup_last_write hkp.swo
  intro o ho'
  obtain ⟨y, hy, rfl⟩ := List.mem_map.1 ho'
  exact hpost y hy

theorem insert_not_lost (c : Config K V) (hr : Reachable (Config.init P tree progs) c)
    {t i : Nat} {k : K} {v : V} (hcall : CallAt progs t i (.ins k v))
    {out : Out V} (hret : HEv.ret t i out ∈ history c)
    (hothers : ∀ t' i' cop, CallAt progs t' i' cop → (t', i') ≠ (t, i) → cWrites lt k cop = true →
      SettledBefore (history c) t' i' t i) :
    Spec.lookup lt c.tree.abs k = some v := by
  obtain ⟨h, hl, hfrom⟩ := reachable_points lt P tree progs hkp ht hord hsep ho hp hd hdel c hr
  obtain ⟨m, h1, _⟩ := lookup_after_returned hkp.swo hl hfrom hcall rfl hret hothers
  exact h1.trans (step_lookup_insert hkp.swo m v (hkp.swo.eqv_refl k))

theorem update_not_lost (c : Config K V) (hr : Reachable (Config.init P tree progs) c)
    {t i : Nat} {k : K} {f : Option V → V} {y : Bool} (hcall : CallAt progs t i (.upd k f y))
    {arg : Option V} (hret : HEv.ret t i (.callback arg) ∈ history c)
    (hothers : ∀ t' i' cop, CallAt progs t' i' cop → (t', i') ≠ (t, i) → cWrites lt k cop = true →
      SettledBefore (history c) t' i' t i) :
    Spec.lookup lt c.tree.abs k = some (f arg) := by
  obtain ⟨h, hl, hfrom⟩ := reachable_points lt P tree progs hkp ht hord hsep ho hp hd hdel c hr
  obtain ⟨m, h1, h2⟩ := lookup_after_returned hkp.swo hl hfrom hcall rfl hret hothers
  cases h2
  exact h1.trans (step_lookup_update hkp.swo m f (hkp.swo.eqv_refl k))

theorem delete_not_undone (c : Config K V) (hr : Reachable (Config.init P tree progs) c)
    {t i : Nat} {k : K} (hcall : CallAt progs t i (.del k))
    {out : Out V} (hret : HEv.ret t i out ∈ history c)
    (hothers : ∀ t' i' cop, CallAt progs t' i' cop → cPuts lt k cop = true →
      SettledBefore (history c) t' i' t i) :
    Spec.lookup lt c.tree.abs k = none := by
  obtain ⟨h, hl, hfrom⟩ := reachable_points lt P tree progs hkp ht hord hsep ho hp hd hdel c hr
  obtain ⟨pre, post, habs, _, _, hpost⟩ := split_at_returned hl hfrom hcall rfl hret
  rw [habs, run_fst_append, run_cons_fst]
  apply run_lookup_none_of_not_puts hkp.swo k _ _
    (post_clear (cPuts_eq lt k) hpost fun t' i' cop hc _ hw => hothers t' i' cop hc hw)
  exact step_lookup_delete hkp.swo _ (hkp.swo.eqv_refl k)

def NoOtherWrites (lt : K → K → Bool) (k : K) (progs : List (List (COp K V))) (t i : Nat) : Prop :=
  ∀ t' i' cop, CallAt progs t' i' cop → (t', i') ≠ (t, i) → cWrites lt k cop = false

theorem insert_not_lost_alone (c : Config K V) (hr : Reachable (Config.init P tree progs) c)
    {t i : Nat} {k : K} {v : V} (hcall : CallAt progs t i (.ins k v))
    {out : Out V} (hret : HEv.ret t i out ∈ history c) (hno : NoOtherWrites lt k progs t i) :
    Spec.lookup lt c.tree.abs k = some v :=
  insert_not_lost lt P tree progs hkp ht hord hsep ho hp hd hdel c hr hcall hret
    (fun t' i' cop hc hne hw => by rw [hno t' i' cop hc hne] at hw; cases hw)

theorem update_not_lost_alone (c : Config K V) (hr : Reachable (Config.init P tree progs) c)
    {t i : Nat} {k : K} {f : Option V → V} {y : Bool} (hcall : CallAt progs t i (.upd k f y))
    {out : Out V} (hret : HEv.ret t i out ∈ history c) (hno : NoOtherWrites lt k progs t i) :
    Spec.lookup lt c.tree.abs k = some (f (Spec.lookup lt tree.abs k)) := by
  obtain ⟨h, hl, hfrom⟩ := reachable_points lt P tree progs hkp ht hord hsep ho hp hd hdel c hr
  obtain ⟨pre, post, habs, _, hpre, hpost⟩ := split_at_returned hl hfrom hcall rfl hret
  have hnw : ∀ x : Nat × Nat × Op K V, (x.1, x.2.1) ≠ (t, i) →
      (∃ cop, CallAt progs x.1 x.2.1 cop ∧ opOf cop = some x.2.2) → writesKey lt k x.2.2 = false := by
    rintro x hne ⟨cop, hc, hop⟩
    have := hno _ _ cop hc hne
    rwa [cWrites_eq, hop] at this
  have e1 := run_lookup_last_write hkp.swo k tree.abs (pre.map (·.2.2)) (post.map (·.2.2)) (.update k f) (by
    intro o ho'
    obtain ⟨z, hz, rfl⟩ := List.mem_map.1 ho'
    exact hnw z (hpost z hz).1 (hpost z hz).2.2)
  have e2 := run_lookup_of_not_writes hkp.swo k (pre.map (·.2.2)) tree.abs (by
    intro o ho'
    obtain ⟨z, hz, rfl⟩ := List.mem_map.1 ho'
    exact hnw z (hpre z hz).1 (hpre z hz).2)
  rw [habs, e1, step_lookup_update hkp.swo _ f (hkp.swo.eqv_refl k), e2]

theorem delete_not_undone_alone (c : Config K V) (hr : Reachable (Config.init P tree progs) c)
    {t i : Nat} {k : K} (hcall : CallAt progs t i (.del k))
    {out : Out V} (hret : HEv.ret t i out ∈ history c)
    (hno : ∀ t' i' cop, CallAt progs t' i' cop → cPuts lt k cop = false) :
    Spec.lookup lt c.tree.abs k = none :=
  delete_not_undone lt P tree progs hkp ht hord hsep ho hp hd hdel c hr hcall hret
    (fun t' i' cop hc hw => by rw [hno t' i' cop hc] at hw; cases hw)

end Main

end Gobptree.Conc
