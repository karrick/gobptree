/-
  READ FRAME (non-interference of a step with what the thread does not hold), `read_frame`.
  `stepHeld`: what the thread held when it parked plus the mutex it is granted.

  Together with the WRITE frame (`C07_write_frame`: the step changes only nodes in `stepHeld`)
  this is the locking discipline: a step reads and writes own fields of held nodes only.

  Proof: a logical relation.  `TRel S R` relates two trees that agree on the own fields (`look`)
  of the identities in `S` (held or freshly allocated) and, under `R`, on the root pointer.
  The blocks take DEEP nodes from `find`; two deep nodes found under a held identity have the
  same own fields (`find_rel`) but differ below.  Every primitive the blocks apply to nodes
  maps nodes with the same own fields to equal results or to nodes with the same own fields
  (`CReadFrameReb`), children of a held node that are themselves held are related (`KRel`).
  A write-back needs no second argument about the tree: the structural layer proves, for each
  run by itself, that the block keeps every entry outside a small written set (`Step.frame`,
  `StepOut.frame`, `finish_step`); two such frames plus "the written entries are the same in
  the two runs" relate the new trees (`TRel.of_frame`).
-/
import Gobptree.Proofs.CReadFrameStep

namespace Gobptree.Conc
open Gobptree

variable {K V : Type}

/-- **READ FRAME** (`C07_read_frame`).  The allocation counter `nextId` stands for Go's `new` and is
    taken equal in the two configurations.  That the step is DEFINED in both, `hs1`/`hs2`, covers the
    one legitimate dependence on other threads: whether the wanted mutex is free. -/
theorem read_frame (c1 c2 c1' c2' : Config K V) (t : Nat) (th : Thread K V)
    (h1 : c1.threads[t]? = some th) (h2 : c2.threads[t]? = some th) (hP : c1.P = c2.P)
    (hi1 : CInv c1) (hi2 : CInv c2) (hv : SameView (stepHeld th) c1.tree c2.tree)
    (hs1 : c1.step t = some c1') (hs2 : c2.step t = some c2') :
    (∃ th', c1'.threads[t]? = some th' ∧ c2'.threads[t]? = some th') ∧
    (∃ evs, c1'.log = evs ++ Ev.dec t c1.enabledSet :: c1.log ∧
            c2'.log = evs ++ Ev.dec t c2.enabledSet :: c2.log) ∧
    (∃ d, c1'.dead = (c1.dead || d) ∧ c2'.dead = (c2.dead || d)) ∧
    c1'.tree.order = c2'.tree.order ∧ c1'.tree.nextId = c2'.tree.nextId ∧
    (∀ id, (Lk.node id ∈ stepHeld th ∨ c1.tree.nextId ≤ id) → c1'.tree.look id = c2'.tree.look id) ∧
    (Lk.tree ∈ stepHeld th → c1'.tree.rootId = c2'.tree.rootId ∧ c1'.tree.depth = c2'.tree.depth) := by
  obtain ⟨r1, S1⟩ := step_stepped_at hs1 h1
  obtain ⟨r2, S2⟩ := step_stepped_at hs2 h2
  obtain ⟨hth, hsr, hd⟩ := step_rf c1 c2 t th h1 h2 hP hi1 hi2 hv S1.enabled S2.enabled
  rw [← S1.run, hP, ← S2.run] at hth hsr hd
  obtain ⟨evs, hev1, hev2⟩ := hsr.evs
  rw [S1.tree, S2.tree]
  exact ⟨⟨r1.1, S1.own, by rw [hth]; exact S2.own⟩, ⟨evs, S1.log.trans hev1, S2.log.trans hev2⟩,
    ⟨r1.2.2, S1.dead, by rw [hd]; exact S2.dead⟩, hsr.tree.order, hsr.tree.nextId, hsr.tree.look, hsr.tree.root⟩

theorem read_frame_view (c1 c2 c1' c2' : Config K V) (t : Nat) (th : Thread K V)
    (h1 : c1.threads[t]? = some th) (h2 : c2.threads[t]? = some th) (hP : c1.P = c2.P)
    (hi1 : CInv c1) (hi2 : CInv c2) (hv : SameView (stepHeld th) c1.tree c2.tree)
    (hs1 : c1.step t = some c1') (hs2 : c2.step t = some c2') :
    SameView (stepHeld th) c1'.tree c2'.tree ∧
    ∀ th', c1'.threads[t]? = some th' → SameView th'.held c1'.tree c2'.tree := by
  obtain ⟨⟨th', ht1, ht2⟩, _, _, ho, hn, hl, hr⟩ := read_frame c1 c2 c1' c2' t th h1 h2 hP hi1 hi2 hv hs1 hs2
  have hsv : SameView (stepHeld th) c1'.tree c2'.tree := ⟨ho, hn, fun id hid => hl id (Or.inl hid), hr⟩
  refine ⟨hsv, ?_⟩
  intro th'' ht
  obtain ⟨r, S⟩ := step_stepped_at hs1 h1
  cases S.the' ht
  have hsub : ∀ x ∈ r.1.held, x ∈ stepHeld th := by
    rw [S.run]; exact newHeld_sub c1.P t th (stepSt c1 t th) rfl (hi1.s.cfg th S.mem)
  exact ⟨ho, hn, fun id hid => hl id (Or.inl (hsub _ hid)), fun h => hr (hsub _ h)⟩

end Gobptree.Conc

#print axioms Gobptree.Conc.read_frame
#print axioms Gobptree.Conc.read_frame_view
