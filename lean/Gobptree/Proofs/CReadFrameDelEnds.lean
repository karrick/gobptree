/-
  Read frame: the end of Delete's unwinding (the root collapse) in the two runs.
-/
import Gobptree.Proofs.CSDelEnds
import Gobptree.Proofs.CReadFrameBase

namespace Gobptree.Conc
open Gobptree

variable {K V : Type}

/-- whether the root collapses is read off its own fields; if it does, its identity is gone and
    its one child is the root -/
theorem finishTree_rf {S : Nat → Prop} {R : Prop} {T1 T2 : Tree K V} (small : Bool) (hT : TRel S R T1 T2) (hR : R)
    (hSr : S T1.rootId)
    (hok1 : TreeOk' (if small then some T1.rootId else none) T1)
    (hok2 : TreeOk' (if small then some T2.rootId else none) T2) :
    TRel S R (finishTree T1 small) (finishTree T2 small) := by
  obtain ⟨hrid, hdp⟩ := hT.root hR
  have hshr : shallow T1.root = shallow T2.root := hT.root_shallow hR hSr hok1.ids hok2.ids
  obtain ⟨_, ho1, hn1, f1⟩ := finish_step hok1
  obtain ⟨_, ho2, hn2, f2⟩ := finish_step hok2
  have hi1 := hok1.ids.1
  have hi2 := hok2.ids.1
  have hc1 := count_eq T1.root
  have hc2 := count_eq T2.root
  rw [hshr] at hc1
  rcases finishTree_cases_of_par T1 small (hok1.occ _ (self_mem_flat T1.root)).par with
      ⟨e1, hw1⟩ | ⟨hs1, d1, r1, k1, oa, na, ht1, hl1, hk1, e1⟩ <;>
    rcases finishTree_cases_of_par T2 small (hok2.occ _ (self_mem_flat T2.root)).par with
      ⟨e2, hw2⟩ | ⟨hs2, d2, r2, k2, ob, nb, ht2, hl2, hk2, e2⟩
  · rw [e1, e2]; exact hT
  · subst ht2
    rcases hw1 hs2 with h | h
    · rw [hc1] at h; exact absurd (show 1 < r2.runts.length from h) (by rw [hl2]; exact Nat.lt_irrefl 1)
    · rw [h] at hdp; cases hdp
  · subst ht1
    rcases hw2 hs1 with h | h
    · rw [hc2, ← hc1] at h; exact absurd (show 1 < r1.runts.length from h) (by rw [hl1]; exact Nat.lt_irrefl 1)
    · rw [h] at hdp; cases hdp
  · subst ht1 ht2
    have hkid : Node.id k1 = Node.id k2 := by
      have h := congrArg Shallow.kids hshr
      rw [show (shallow (d := d1 + 1) r1).kids = r1.kids.map Node.id from rfl,
        show (shallow (d := d2 + 1) r2).kids = r2.kids.map Node.id from rfl, hk1, hk2] at h
      exact (List.cons.inj h).1
    have gone : ∀ {o d nid : Nat} {r : Inner K (Node K V d)} {k : Node K V d}, r.kids = [k] →
        (Tree.mk o (d + 1) r nid : Tree K V).ids.Nodup → (Tree.mk o d k nid : Tree K V).look r.id = none := by
      intro o d nid r k hk hn
      refine lookup_none_of_not_mem _ _ ?_
      have : (r.id :: ((r.kids.flatMap flat).map Prod.fst)).Nodup := hn
      rw [hk, List.flatMap_cons, List.flatMap_nil, List.append_nil] at this
      exact (List.nodup_cons.1 this).1
    refine TRel.of_frame (fun x => x != r1.id) hT (f1 _ (by show (r1.id != r1.id) = false; exact bne_self_eq_false _))
      (f2 _ (by show (r2.id != r1.id) = false; rw [show r1.id = r2.id from hrid]; exact bne_self_eq_false _)) ?_ (ho1.trans (hT.order.trans ho2.symm))
      (hn1.trans (hT.nextId.trans hn2.symm)) (fun _ => by rw [e1, e2]; exact ⟨hkid, Nat.succ.inj hdp⟩)
    intro x _ hk
    have hx : x = r1.id := by simpa using hk
    rw [hx, e1, e2, gone hk1 hi1, show r1.id = r2.id from hrid, gone hk2 hi2]

end Gobptree.Conc
