/-
  One client operation of a lone thread, from its invocation to its response: the four map
  operations put together (`op_fin`).
-/
import Gobptree.Proofs.CSoloUp2
import Gobptree.Proofs.CSoloRo
import Gobptree.Proofs.CSoloDel4
import Gobptree.Proofs.IdsRun

namespace Gobptree.Conc
open Gobptree

variable {K V : Type}

/-- the client call that stands for a map operation (Update with a non-yielding callback) -/
def copOf : Op K V → COp K V
  | .insert k v => .ins k v
  | .update k f => .upd k f false
  | .delete k => .del k
  | .search k => .get k

def kontOf : Op K V → Kont K V
  | .insert k v => .upTree k (fun _ => v) none
  | .update k f => .upTree k f (some false)
  | .delete k => .delTree k
  | .search k => .roTree false k

/-- results correspond: Search's value; the others return `.ok`; `cbs` are the callback
    arguments the run noted (Update: exactly one, the argument the sequential model reports;
    the others: none) -/
def ResMatches : Out V → Res K V → List (Option V) → Prop
  | .done, .ok, cbs => cbs = []
  | .callback a, .ok, cbs => cbs = [a]
  | .found v, .found v', cbs => v' = v ∧ cbs = []
  | _, _, _ => False

theorem startOp_copOf (s : St K V) (op : Op K V) (h : s.cursor = none) :
    startOp 0 s (copOf op) = (s, .park (.want .tree (kontOf op))) := by
  have hm : misuse s = false := by
    unfold misuse cursorLocks; rw [h]; rfl
  rw [startOp_point 0 s (k := kontOf op) (by cases op <;> rfl), hm]
  rfl

theorem flowOk_kontOf (s : St K V) (op : Op K V) (hh : s.held = []) (hc : s.cursor = none) :
    FlowOk s (.park (.want .tree (kontOf op))) := by
  have hc' : cursorLocks s.cursor = [] := by rw [hc]; rfl
  cases op <;> exact .park_of hc' (by rw [hh]; exact List.Perm.nil) hc' rfl

theorem op_fin (P : Params K) (op : Op K V) (t' : Tree K V) (out : Out V) (s : St K V)
    (hinv : IdInv Ctx.top s.tree.root s.tree.nextId) (hord : s.tree.order = P.order)
    (hseq : Tree.step P s.tree op = .ok (t', out)) :
    ∃ r cbs, Solo P s (s, .park (.want .tree (kontOf op))) t' r cbs ∧ ResMatches out r cbs := by
  have h := Tree.step_inv P s.tree t' op out hseq
  cases op with
  | insert k v =>
    obtain ⟨cb, hup, ho⟩ := h
    subst ho
    exact ⟨.ok, _, up_tree P k (fun _ => v) none (by simp) t' cb s hinv hup, rfl⟩
  | update k f =>
    obtain ⟨cb, hup, ho⟩ := h
    subst ho
    exact ⟨.ok, _, up_tree P k f (some false) (by simp) t' cb s hinv hup, rfl⟩
  | delete k =>
    obtain ⟨hdel, ho⟩ := h
    subst ho
    exact ⟨.ok, _, del_tree P k t' s hinv hord hdel, rfl⟩
  | search k =>
    obtain ⟨v, hs, ht, ho⟩ := h
    subst ho; subst ht
    exact ⟨.found v, _, ro_tree P k v s hinv hs, rfl, rfl⟩

end Gobptree.Conc
