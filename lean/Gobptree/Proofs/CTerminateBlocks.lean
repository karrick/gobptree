/-
  Per-block lemmas for global termination: how a stretch of code (the code between two parks)
  changes the DEPTH of the tree.

  Only two blocks change the depth: `upRootArrive` (a root split, +1; run by an Insert/Update
  that was parked at `want (node root) (upRoot …)`) and `delFinish` (root collapse, -1).  So
  the depth after a block is at most the depth before plus `kontG k` (`resume_depth`, read off
  every block through the case rules of ConcCases.lean).  An Insert/Update can split the root
  only while its continuation is `upTree`/`upRoot` (`kontG = 1`), and no block parks at such a
  continuation again, except `upTree → upRoot` which leaves the tree alone (`Succ.parkG`).
  Hence for every block
      depth after + kontG (park after) ≤ depth before + kontG (continuation resumed).
-/
import Gobptree.Proofs.CSDelUnwind
import Gobptree.Proofs.IdsDelete

namespace Gobptree.Conc
open Gobptree

variable {K V : Type}

/-- 1 iff an Insert/Update with this continuation may still split the root -/
def kontG : Kont K V → Nat
  | .upTree _ _ _ => 1
  | .upRoot _ _ _ _ => 1
  | _ => 0

def parkG : Park K V → Nat
  | .want _ k => kontG k
  | .yielded k => kontG k
  | _ => 0

theorem parkG_kont {p : Park K V} {k : Kont K V} (h : p.kont? = some k) : parkG p = kontG k := by
  cases p <;> cases h <;> rfl

def flowG : Flow K V → Nat
  | .park p => parkG p
  | _ => 0

def OutD (d : Nat) (r : St K V × Flow K V) : Prop := r.1.tree.depth ≤ d

theorem OutD.mono {d d' : Nat} {r : St K V × Flow K V} (h : OutD d r) (hle : d ≤ d') : OutD d' r :=
  Nat.le_trans h hle

@[simp] theorem putLeaf_depth (tr : Tree K V) (l : Leaf K V) : (putLeaf tr l).depth = tr.depth := rfl
@[simp] theorem putInner_depth {d : Nat} (tr : Tree K V) (i : Inner K (Node K V d)) :
    (putInner tr i).depth = tr.depth := rfl

theorem collapseRoot_depth (o n : Nat) : ∀ (d : Nat) (r : Node K V d) (tr : Tree K V),
    collapseRoot o n d r = .ok tr → tr.depth ≤ d
  | 0, _, _, h => by cases h; exact Nat.le_refl _
  | d + 1, r, tr, h => by
    obtain ⟨c, b, -, rfl⟩ := collapseRoot_inner o n r tr h
    exact Nat.le_succ d

theorem roArrive_dep (P : Params K) (t : Nat) (s : St K V) (sc : Bool) (key : K) (hold : Lk) (n : Nat) :
    OutD s.tree.depth (roArrive P t s sc key hold n) :=
  Nat.le_of_eq (congrArg Tree.depth (roArrive_tree P t s sc key hold n))

theorem upLeaf_dep (P : Params K) (t : Nat) (s : St K V) (key : K) (f : Option V → V) (y : Option Bool) (n : Nat)
    (l : Leaf K V) : OutD s.tree.depth (upLeaf P t s key f y n l) :=
  upLeaf_cases P t s key f y n l (Q := OutD s.tree.depth) (Nat.le_refl _) (fun _ _ => Nat.le_refl _)
    (fun _ _ _ => Nat.le_refl _) (fun _ _ => Nat.le_refl _)

theorem upContinue_dep (P : Params K) (t : Nat) (s : St K V) (key : K) (f : Option V → V) (y : Option Bool) (n : Nat) :
    OutD s.tree.depth (upContinue P t s key f y n) :=
  upContinue_cases P t s key f y n (Q := OutD s.tree.depth) (Nat.le_refl _) (upLeaf_dep P t s key f y n)
    (fun _ _ => Nat.le_refl _)

theorem upChildArrive_dep (P : Params K) (t : Nat) (s : St K V) (key : K) (f : Option V → V) (y : Option Bool)
    (parent index child : Nat) : OutD s.tree.depth (upChildArrive P t s key f y parent index child) :=
  upChildArrive_cases P t s key f y parent index child (Q := OutD s.tree.depth) (Nat.le_refl _)
    (fun _ _ _ _ _ => upContinue_dep P t _ key f y child) (fun _ _ _ _ _ _ => Nat.le_refl _)

theorem upRootArrive_dep (P : Params K) (t : Nat) (s : St K V) (key : K) (f : Option V → V) (y : Option Bool)
    (root : Nat) : OutD (s.tree.depth + 1) (upRootArrive P t s key f y root) :=
  upRootArrive_cases P t s key f y root (Q := OutD (s.tree.depth + 1)) (Nat.le_succ _)
    (fun _ h => by
      rcases h with rfl | ⟨_, _, _, _, rfl⟩
      · exact (upContinue_dep P t _ key f y root).mono (Nat.le_succ _)
      · exact upContinue_dep P t _ key f y root)
    (fun _ _ _ _ _ => Nat.le_refl _)

theorem delFinish_dep (t : Nat) (s : St K V) (small : Bool) (root : Nat) :
    OutD s.tree.depth (delFinish t s small root) :=
  delFinish_cases t s small root (Q := OutD s.tree.depth) fun tr h => by
    rcases h with rfl | h
    · exact Nat.le_refl _
    · exact collapseRoot_depth _ _ _ _ _ h

theorem delUnwind_dep (P : Params K) (t : Nat) (key : K) (root : Nat) :
    ∀ (frames : List Frame) (s : St K V) (small : Bool),
      OutD s.tree.depth (delUnwind P t s key frames small root) := by
  intro frames
  induction frames with
  | nil => intro s small; rw [delUnwind_nil]; exact delFinish_dep t s small root
  | cons fr rest ih =>
    intro s small
    exact delUnwind_cons_cases P t s key fr rest small root (Q := OutD s.tree.depth) (Nat.le_refl _)
      (fun _ small' h => (ih _ small').mono (Nat.le_of_eq ((congrArg Tree.depth (frameUnlock_tree t _ fr none)).trans h)))
      (fun _ => Nat.le_refl _)

theorem delRightArrive_dep (P : Params K) (t : Nat) (s : St K V) (key : K) (rest : List Frame) (fr : Frame)
    (right root : Nat) : OutD s.tree.depth (delRightArrive P t s key rest fr right root) :=
  delRightArrive_cases P t s key rest fr right root (Q := OutD s.tree.depth) (Nat.le_refl _)
    (fun _ small' h => (delUnwind_dep P t key root rest _ small').mono
      (Nat.le_of_eq ((congrArg Tree.depth (frameUnlock_tree t _ fr (some right))).trans h)))

theorem delGo_dep (P : Params K) (t : Nat) (s : St K V) (key : K) (frames : List Frame) (n root : Nat) :
    OutD s.tree.depth (delGo P t s key frames n root) :=
  delGo_cases P t s key frames n root (Q := OutD s.tree.depth) (Nat.le_refl _)
    (fun _ small => delUnwind_dep P t key root frames _ small) (fun _ _ => Nat.le_refl _) (fun _ _ => Nat.le_refl _)

theorem resume_depth (P : Params K) (t : Nat) (s : St K V) (k : Kont K V) :
    OutD (s.tree.depth + kontG k) (resume P t s k) := by
  cases k with
  | roNode sc key hold want => exact roArrive_dep P t _ sc key hold want
  | upTree key f y => exact Nat.le_succ _
  | upRoot key f y r => exact upRootArrive_dep P t _ key f y r
  | upRootSib key f y root sib => exact upContinue_dep P t _ key f y sib
  | upChild key f y parent index child => exact upChildArrive_dep P t _ key f y parent index child
  | upSib key f y parent child sib => exact upContinue_dep P t _ key f y sib
  | upCallback key f leaf arg =>
    exact resume_upCallback_cases P t s key f leaf arg (Q := OutD (s.tree.depth + 0)) (Nat.le_refl _)
      (fun _ => Nat.le_refl _)
  | delRoot key r => exact delGo_dep P t _ key [] r r
  | delLeft key frames node index left root =>
    exact resume_delLeft_cases P t s key frames node index left root (Q := OutD (s.tree.depth + 0))
      (Nat.le_refl _) (fun _ => Nat.le_refl _)
  | delChild key frames node index left child root => exact delGo_dep P t _ key _ child root
  | delRight key rest fr right root => exact delRightArrive_dep P t _ key rest fr right root
  | _ => exact Nat.le_refl _

theorem Succ.parkG {k : Kont K V} {p : Park K V} (h : Succ k p) :
    parkG p = 0 ∨ ∃ key f y r, k = .upTree key f y ∧ p = .want (.node r) (.upRoot key f y r) := by
  cases h <;> first | exact Or.inl rfl | exact Or.inr ⟨_, _, _, _, rfl, rfl⟩

theorem resume_dep (P : Params K) (t : Nat) (s : St K V) (k : Kont K V) :
    (resume P t s k).1.tree.depth + flowG (resume P t s k).2 ≤ s.tree.depth + kontG k := by
  have hd : (resume P t s k).1.tree.depth ≤ s.tree.depth + kontG k := resume_depth P t s k
  cases hfl : (resume P t s k).2 with
  | park p =>
    rcases (resume_succ hfl).parkG with h0 | ⟨key, f, y, r, rfl, rfl⟩
    · show _ + parkG p ≤ _
      rw [h0]; exact hd
    · exact Nat.le_refl _
  | done r => exact hd
  | panic => exact hd

def isUp : COp K V → Bool
  | .ins _ _ => true
  | .upd _ _ _ => true
  | _ => false

def opG (op : COp K V) : Nat := if isUp op then 1 else 0

theorem startOp_dep (t : Nat) (s : St K V) (op : COp K V) : flowG (startOp t s op).2 ≤ opG op := by
  cases hfl : (startOp t s op).2 with
  | park p =>
    cases startOp_start hfl with
    | @point op k hk => cases op <;> cases hk <;> exact Nat.le_refl _
    | pause => exact Nat.le_refl _
    | hop leaf n => exact Nat.zero_le _
  | done r => exact Nat.zero_le _
  | panic => exact Nat.zero_le _

end Gobptree.Conc
