/-
  Search routes (`routeB`) before and after rewriting one identity.  Only distinct identities
  and parallel lengths are used here, no ordering.
-/
import Gobptree.Proofs.CKZoomBase

namespace Gobptree.Conc
open Gobptree

variable {K V : Type} {lt : K → K → Bool}

theorem routeB_zero (key : K) (lo hi : Option K) (l : Leaf K V) :
    routeB (V := V) lt key 0 lo hi l = [(l.id, lo, hi)] := rfl

def routeKid (lt : K → K → Bool) (key : K) {d : Nat} (hi : Option K) (i : Inner K (Node K V d)) :
    List (Nat × Option K × Option K) :=
  match i.runts[searchLE lt key i.runts]?, i.kids[searchLE lt key i.runts]? with
  | some s, some c => routeB lt key d (some s) (hiAt i.runts (searchLE lt key i.runts) hi) c
  | _, _ => []

theorem routeB_succ (key : K) {d : Nat} (lo hi : Option K) (i : Inner K (Node K V d)) :
    routeB lt key (d + 1) lo hi i = (i.id, lo, hi) :: routeKid lt key hi i := rfl

theorem routeB_head (key : K) : ∀ (d : Nat) (lo hi : Option K) (n : Node K V d),
    ∃ tl, routeB lt key d lo hi n = (Node.id n, lo, hi) :: tl
  | 0, _, _, _ => ⟨[], rfl⟩
  | _ + 1, _, _, _ => ⟨_, rfl⟩

theorem mem_routeB_ids (key : K) : ∀ (d : Nat) (lo hi : Option K) (n : Node K V d) (e : Nat × Option K × Option K),
    e ∈ routeB lt key d lo hi n → e.1 ∈ idsOf n := by
  intro d
  induction d with
  | zero =>
    intro lo hi n e he
    rw [routeB_zero key lo hi n] at he
    rw [List.mem_singleton.1 he, idsOf_zero n]
    exact List.mem_singleton.2 rfl
  | succ d ih =>
    intro lo hi n e he
    rw [routeB_succ key lo hi n, List.mem_cons] at he
    rw [idsOf_succ n]
    rcases he with rfl | he
    · exact List.mem_cons_self
    · apply List.mem_cons_of_mem
      unfold routeKid at he
      split at he
      · rename_i s c hs hc
        exact List.mem_flatMap.2 ⟨c, List.mem_of_getElem? hc, ih _ _ c e he⟩
      · cases he

theorem mem_routeKid_ids (key : K) {d : Nat} (hi : Option K) (i : Inner K (Node K V d))
    (e : Nat × Option K × Option K) (he : e ∈ routeKid lt key hi i) :
    ∃ j c, j = searchLE lt key i.runts ∧ i.kids[j]? = some c ∧ e.1 ∈ idsOf c := by
  unfold routeKid at he
  split at he
  · rename_i s c hs hc
    exact ⟨_, c, rfl, hc, mem_routeB_ids key d _ _ c e he⟩
  · cases he

theorem routeKid_eq (key : K) {d : Nat} (hi : Option K) (i : Inner K (Node K V d)) (j : Nat) (s : K) (c : Node K V d)
    (hj : searchLE lt key i.runts = j) (hs : i.runts[j]? = some s) (hc : i.kids[j]? = some c) :
    routeKid lt key hi i = routeB lt key d (some s) (hiAt i.runts j hi) c := by
  unfold routeKid
  rw [hj, hs, hc]

theorem routeKid_at (key : K) {d : Nat} (hi : Option K) (i : Inner K (Node K V d))
    (rA rB : List K) (k : K) (A B : List (Node K V d)) (c : Node K V d)
    (hr : i.runts = rA ++ k :: rB) (hk : i.kids = A ++ c :: B)
    (hl : rA.length = A.length) (hlB : rB.length = B.length)
    (hj : searchLE lt key i.runts = A.length) :
    routeKid lt key hi i = routeB lt key d (some k) (nextLo hi (rB.zip B)) c := by
  rw [routeKid_eq key hi i A.length k c hj (by rw [hr]; exact getElem?_pivot hl k)
    (by rw [hk]; exact getElem?_pivot rfl c), hr, ← hl, hiAt_decomp rA rB k B hi hlB]

theorem routeB_kid_mem (key : K) {d : Nat} (lo hi : Option K) (i : Inner K (Node K V d)) (j : Nat) (s : K)
    (c : Node K V d) (hj : searchLE lt key i.runts = j) (hs : i.runts[j]? = some s) (hc : i.kids[j]? = some c) :
    (Node.id c, some s, hiAt i.runts j hi) ∈ routeB lt key (d + 1) lo hi i := by
  obtain ⟨tl, htl⟩ := routeB_head (lt := lt) key d (some s) (hiAt i.runts j hi) c
  rw [routeB_succ, routeKid_eq key hi i j s c hj hs hc, htl]
  exact List.mem_cons_of_mem _ List.mem_cons_self

theorem getElem?_replace_ne {α : Type} (A B : List α) (c c2 : α) (j : Nat) (hj : j ≠ A.length) :
    (A ++ c :: B)[j]? = (A ++ c2 :: B)[j]? := by
  by_cases h : j < A.length
  · rw [List.getElem?_append_left h, List.getElem?_append_left h]
  · have h' : A.length ≤ j := Nat.le_of_not_lt h
    rw [List.getElem?_append_right h', List.getElem?_append_right h']
    obtain ⟨n, hn⟩ : ∃ n, j - A.length = n + 1 :=
      Nat.exists_eq_succ_of_ne_zero (Nat.sub_ne_zero_of_lt (Nat.lt_of_le_of_ne h' (Ne.symm hj)))
    rw [hn]
    rfl

theorem getElem?_ne_mem {α : Type} (A B : List α) (c x : α) (j : Nat) (hj : j ≠ A.length)
    (h : (A ++ c :: B)[j]? = some x) : x ∈ A ∨ x ∈ B := by
  by_cases h1 : j < A.length
  · rw [List.getElem?_append_left h1] at h
    exact Or.inl (List.mem_of_getElem? h)
  · have h' : A.length ≤ j := Nat.le_of_not_lt h1
    rw [List.getElem?_append_right h'] at h
    obtain ⟨n, hn⟩ : ∃ n, j - A.length = n + 1 :=
      Nat.exists_eq_succ_of_ne_zero (Nat.sub_ne_zero_of_lt (Nat.lt_of_le_of_ne h' (Ne.symm hj)))
    rw [hn] at h
    exact Or.inr (List.mem_of_getElem? h)

theorem routeKid_replace_ne (key : K) {d : Nat} (hi : Option K) (id0 : Nat) (runts : List K)
    (A B : List (Node K V d)) (c c2 : Node K V d)
    (hj : searchLE lt key runts ≠ A.length) :
    routeKid lt key hi (Inner.mk id0 runts (A ++ c2 :: B) : Inner K (Node K V d)) =
      routeKid lt key hi (Inner.mk id0 runts (A ++ c :: B) : Inner K (Node K V d)) := by
  unfold routeKid
  simp only
  rw [getElem?_replace_ne A B c2 c _ hj]

theorem route_below (key : K) {d : Nat} (lo hi : Option K) (i : Inner K (Node K V d))
    (rA rB : List K) (k : K) (A B : List (Node K V d)) (c : Node K V d) (id : Nat) (hne : i.id ≠ id)
    (hr : i.runts = rA ++ k :: rB) (hk : i.kids = A ++ c :: B) (hl : rA.length = A.length) (hlB : rB.length = B.length)
    (hA : ∀ a ∈ A, id ∉ idsOf a) (hB : ∀ b ∈ B, id ∉ idsOf b)
    {a b : Option K} (h : (id, a, b) ∈ routeB lt key (d + 1) lo hi i) :
    searchLE lt key i.runts = A.length ∧ (id, a, b) ∈ routeB lt key d (some k) (nextLo hi (rB.zip B)) c := by
  rw [routeB_succ, List.mem_cons] at h
  have h' : (id, a, b) ∈ routeKid lt key hi i := h.resolve_left fun e => hne (congrArg Prod.fst e).symm
  obtain ⟨j, c', hj, hc', hm⟩ := mem_routeKid_ids key hi i _ h'
  have hj' : searchLE lt key i.runts = A.length := by
    apply Classical.byContradiction
    intro hne'
    rw [hk] at hc'
    rcases getElem?_ne_mem A B c c' j (by rw [hj]; exact hne') hc' with h1 | h1
    · exact hA c' h1 hm
    · exact hB c' h1 hm
  exact ⟨hj', by rwa [routeKid_at key hi i rA rB k A B c hr hk hl hlB hj'] at h'⟩

theorem routeB_cons (key : K) : ∀ (d : Nat) (lo hi : Option K) (n : Node K V d), (idsOf n).Nodup →
    ∃ tl, routeB lt key d lo hi n = (Node.id n, lo, hi) :: tl ∧ ∀ e ∈ tl, e.1 ≠ Node.id n
  | 0, _, _, _, _ => ⟨[], rfl, fun _ h => nomatch h⟩
  | d + 1, _, hi, n, hnd => ⟨routeKid lt key hi n, rfl, fun e he heq => by
      obtain ⟨_, c, _, hc, hm⟩ := mem_routeKid_ids key hi n e he
      rw [idsOf_succ n, List.nodup_cons] at hnd
      rw [heq] at hm
      exact hnd.1 (List.mem_flatMap.2 ⟨c, List.mem_of_getElem? hc, hm⟩)⟩

/-- rewriting the node `id` and the route of a key: off the route nothing changes; on it, the route is a
    prefix that avoids `id` followed by the route inside the node, before and after -/
theorem route_zoom (key : K) (id : Nat) {d : Nat} (n : Node K V d) {d' : Nat} (m : Node K V d')
    (hf : findNode id d n = some ⟨d', m⟩) (hnd : (idsOf n).Nodup) (hpar : ParN d n) : ∀ lo hi : Option K,
    ((∀ a b, (id, a, b) ∉ routeB lt key d lo hi n) →
       ∀ f : (d : Nat) → Node K V d → Node K V d,
         routeB lt key d lo hi (modifyNode id f d n) = routeB lt key d lo hi n) ∧
    (∀ a b, (id, a, b) ∈ routeB lt key d lo hi n →
       ∃ pre, (∀ e ∈ pre, e.1 ≠ id) ∧ routeB lt key d lo hi n = pre ++ routeB lt key d' a b m ∧
         ∀ f : (d : Nat) → Node K V d → Node K V d,
           routeB lt key d lo hi (modifyNode id f d n) = pre ++ routeB lt key d' a b (f d' m)) := by
  refine findNode_rec id ?_ ?_ n hf hnd hpar
  · intro hid hndm _ lo hi
    obtain ⟨tl, htl, hne⟩ := routeB_cons (lt := lt) key d' lo hi m hndm
    refine ⟨fun hno => absurd (by rw [htl, hid]; exact List.mem_cons_self) (hno lo hi), ?_⟩
    intro a b hab
    rw [htl, List.mem_cons] at hab
    rcases hab with e | hin
    · injection e with _ e2
      injection e2 with ea eb
      subst ea; subst eb
      refine ⟨[], nofun, rfl, fun f => ?_⟩
      rw [modifyNode_at id f m hid]
      rfl
    · exact absurd hid.symm (hne _ hin)
  · intro d n rA k rB A c B hid _ _ hr hk hl hlB _ hA hB ih lo hi
    have hmod : ∀ f : (d : Nat) → Node K V d → Node K V d, modifyNode id f (d + 1) n =
        (Inner.mk n.id n.runts (A ++ modifyNode id f d c :: B) : Inner K (Node K V d)) :=
      fun f => modifyNode_kid id f n A B c hid hk hA hB
    have hself : n = (Inner.mk n.id n.runts (A ++ c :: B) : Inner K (Node K V d)) := by rw [← hk]
    obtain ⟨ih1, ih2⟩ := ih (some k) (nextLo hi (rB.zip B))
    by_cases hj : searchLE lt key n.runts = A.length
    · have hroute : routeKid lt key hi n = routeB lt key d (some k) (nextLo hi (rB.zip B)) c :=
        routeKid_at key hi n rA rB k A B c hr hk hl hlB hj
      have hroute' : ∀ f : (d : Nat) → Node K V d → Node K V d,
          routeB lt key (d + 1) lo hi (modifyNode id f (d + 1) n) =
            (n.id, lo, hi) :: routeB lt key d (some k) (nextLo hi (rB.zip B)) (modifyNode id f d c) := by
        intro f
        rw [hmod f]
        exact congrArg (List.cons (n.id, lo, hi))
          (routeKid_at key hi (Inner.mk n.id n.runts (A ++ modifyNode id f d c :: B) : Inner K (Node K V d))
            rA rB k A B (modifyNode id f d c) hr rfl hl hlB hj)
      constructor
      · intro hno f
        rw [hroute' f, routeB_succ key lo hi n, hroute]
        rw [ih1 (fun a b hab => hno a b (by
          rw [routeB_succ key lo hi n, hroute]; exact List.mem_cons_of_mem _ hab)) f]
      · intro a b hab
        obtain ⟨pre, hpre, hr1, hr2⟩ :=
          ih2 a b (route_below key lo hi n rA rB k A B c id hid hr hk hl hlB hA hB hab).2
        refine ⟨(n.id, lo, hi) :: pre, ?_, ?_, ?_⟩
        · intro e he
          rcases List.mem_cons.1 he with rfl | he
          · exact hid
          · exact hpre e he
        · rw [routeB_succ key lo hi n, hroute, hr1]; rfl
        · intro f
          rw [hroute' f, hr2 f]; rfl
    · constructor
      · intro _ f
        rw [hmod f, routeB_succ key lo hi (Inner.mk n.id n.runts (A ++ modifyNode id f d c :: B) : Inner K (Node K V d)),
          routeKid_replace_ne key hi _ _ A B c (modifyNode id f d c) hj, ← hself]
        rfl
      · intro a b hab
        exact absurd (route_below key lo hi n rA rB k A B c id hid hr hk hl hlB hA hB hab).1 hj

end Gobptree.Conc
