/-
  The separator invariant across the writes and the last stretch of an Insert/Update block, said of
  the root node (`ISepN`).
-/
import Gobptree.Proofs.CIUpNode
import Gobptree.Proofs.CKPar
import Gobptree.Proofs.CKZoom

namespace Gobptree.Conc
open Gobptree

variable {K V : Type} {lt : K → K → Bool}

/-- a leaf is neither a parent nor an inner child -/
theorem putLeaf_isepN (W : Nat → K → Prop) {t : Tree K V} {l : Node K V 0} (l' : Leaf K V)
    (hf : t.find l'.id = some ⟨0, l⟩) (hids : t.ids.Nodup) (hpar : ParTree t)
    (h : ISepN lt W t.depth t.root) : ISepN lt W (putLeaf t l').depth (putLeaf t l').root := by
  rw [putLeaf_eq]
  exact isepN_modify_same W _ (leafFn l') hf hids hpar h trivial
    ((congrArg Node.id (putLeaf_apply l' l)).trans (findNode_id hf).symm) rfl

theorem putInner_isepN {t : Tree K V} {d : Nat} {p : Node K V (d + 1)} {a0 b0 : Option K}
    (p2 : Inner K (Node K V d)) (hfind : t.find p2.id = some ⟨d + 1, p⟩) (hb : t.boundsOf p2.id = some (a0, b0))
    (hids : t.ids.Nodup) (hpar : ParTree t)
    (Wit Wit' : Nat → K → Prop) (hI : ISepN lt Wit t.depth t.root) (hw : ∀ r x, r ≠ p2.id → Wit r x → Wit' r x)
    (hI2 : ISepN lt Wit' (d + 1) p2)
    (hface : ∀ s0, a0 = some s0 → SepFact lt Wit (d + 1) p s0 → SepFact lt Wit' (d + 1) p2 s0) :
    ISepN lt Wit' (putInner t p2).depth (putInner t p2).root := by
  obtain ⟨f, hfdef, hfm⟩ : ∃ f : (d' : Nat) → Node K V d' → Node K V d',
      putInner t p2 = t.modify p2.id f ∧ f (d + 1) p = p2 := ⟨_, rfl, putInner_apply p2 p⟩
  rw [hfdef]
  obtain ⟨lo', hi', hb', hrest⟩ := isepN_modify Wit Wit' p2.id f hfind hids hpar hw (hfm.symm ▸ hI2) none none hI
  cases hb.symm.trans hb'
  exact (hrest (fun s hs hf => hfm.symm ▸ hface s hs hf)).1

/-- The thread holds a witness about `n` and its key, on a ground `Low` that makes the key route
    to the first kid of `n`: the descent continuing at `n` parks at `upChild key … n 0 …`, which is
    that witness. -/
theorem upContinue_isepN_low (P : Params K) (hK : KParams lt P) (hpad : PadOk P) (t : Nat) (s1 : St K V) (key : K)
    (f : Option V → V) (y : Option Bool) (n : Nat) {hole : Option Nat}
    (hok : TreeOk hole s1.tree) {sh : Shallow K V} (hl : s1.tree.look n = some sh)
    (W : Nat → K → Prop) (Low : Prop) (hlow : Low → 0 < sh.height ∧ searchLE lt key sh.keys = 0)
    (h : ISepN lt (fun r x => W r x ∨ (r = n ∧ x = key ∧ Low)) s1.tree.depth s1.tree.root) :
    ISepN lt (fun r x => W r x ∨ flowWit (upContinue P t s1 key f y n).2 r x)
      (upContinue P t s1 key f y n).1.tree.depth (upContinue P t s1 key f y n).1.tree.root := by
  have out := upContinue_report P t s1 key f y n hole hok hpad hl
  rw [look_eq_find] at hl
  generalize upContinue P t s1 key f y n = res at out
  cases out with
  | @leaf l l' arg T res w out =>
    rw [w.find] at hl
    cases hl
    have h' : ISepN lt W s1.tree.depth s1.tree.root :=
      ISepN.mono (fun r _ x hw => hw.elim id (fun hw => absurd (hlow hw.2.2).1 (Nat.lt_irrefl 0))) h
    have h2 : ISepN lt W T.depth T.root := by
      rw [w.Teq]
      exact putLeaf_isepN W l' (by rw [w.lid]; exact w.find) hok.ids.1 (parTree_of_treeOk hok) h'
    cases out with
    | done => exact ISepN.mono (fun r _ x hw => Or.inl hw) h2
    | noted => exact ISepN.mono (fun r _ x hw => Or.inl hw) h2
    | yield => exact ISepN.mono (fun r _ x hw => Or.inl hw) h'
  | @inner d p c hfind hc =>
    rw [hfind] at hl
    cases hl
    refine ISepN.mono ?_ h
    rintro r - x (hw | ⟨e1, e2, hL⟩)
    · exact Or.inl hw
    · right
      show kontWit (.upChild key f y n (searchLE P.lt key p.runts) (Node.id c)) r x
      rw [hK.lt, show searchLE lt key p.runts = 0 from (hlow hL).2]
      exact ⟨e1, e2⟩

theorem upContinue_isepN (P : Params K) (hK : KParams lt P) (hpad : PadOk P) (t : Nat) (s1 : St K V) (key : K)
    (f : Option V → V) (y : Option Bool) (n : Nat) {hole : Option Nat}
    (hok : TreeOk hole s1.tree) {sh : Shallow K V} (hl : s1.tree.look n = some sh)
    (W : Nat → K → Prop) (h : ISepN lt W s1.tree.depth s1.tree.root) :
    ISepN lt (fun r x => W r x ∨ flowWit (upContinue P t s1 key f y n).2 r x)
      (upContinue P t s1 key f y n).1.tree.depth (upContinue P t s1 key f y n).1.tree.root :=
  upContinue_isepN_low P hK hpad t s1 key f y n hok hl W False (fun h => h.elim)
    (ISepN.mono (fun r _ x hw => Or.inl hw) h)

theorem upContinue_lowN (P : Params K) (hK : KParams lt P) (hpad : PadOk P) (t : Nat) (s1 : St K V) (key : K)
    (f : Option V → V) (y : Option Bool) (n : Nat) {hole : Option Nat} (hok : TreeOk hole s1.tree)
    (W : Nat → K → Prop) {d : Nat} {c c' : Node K V d}
    (hid : Node.id c' = n) (hh : headN d c' = headN d c) (hm : (Node.id c', shallow c') ∈ s1.tree.flat)
    {lo hi : Option K} (hO : Ord lt d lo hi c') (hP : ParN d c')
    (h : ISepN lt (fun r x => W r x ∨ (r = n ∧ x = key ∧ LowN lt key d c)) s1.tree.depth s1.tree.root) :
    ISepN lt (fun r x => W r x ∨ flowWit (upContinue P t s1 key f y n).2 r x)
      (upContinue P t s1 key f y n).1.tree.depth (upContinue P t s1 key f y n).1.tree.root := by
  refine upContinue_isepN_low P hK hpad t s1 key f y n hok (hid ▸ (look_eq_some_iff hok.ids.1 _ _).2 hm) W _ ?_ h
  rintro ⟨s', hs', hlt⟩
  cases d with
  | zero => cases hs'
  | succ d =>
    exact ⟨Nat.succ_pos d, searchLE_zero_of_lt hK.swo key _ (Ord_sorted hK.swo c' hO hP) s' (hh.trans hs') hlt⟩

theorem upCallback_isepN (P : Params K) (hpad : PadOk P) (t : Nat) (s : St K V) (key : K) (f : Option V → V)
    (leaf : Nat) (arg : Option V) {hole : Option Nat} (hok : TreeOk hole s.tree)
    (hk : KontOk s.tree (.upCallback key f leaf arg)) (W : Nat → K → Prop) (hI : ISepN lt W s.tree.depth s.tree.root) :
    ISepN lt (fun r x => W r x ∨ flowWit (resume P t s (.upCallback key f leaf arg)).2 r x)
      (resume P t s (.upCallback key f leaf arg)).1.tree.depth (resume P t s (.upCallback key f leaf arg)).1.tree.root := by
  obtain ⟨l, l', arg', T, w, e⟩ := upCallback_report P t s key f leaf arg hole hok hpad hk
  rw [e]
  show ISepN lt _ T.depth T.root
  rw [w.Teq]
  exact ISepN.mono (fun r _ x hw => Or.inl hw)
    (putLeaf_isepN W l' (by rw [w.lid]; exact w.find) hok.ids.1 (parTree_of_treeOk hok) hI)

theorem isepN_unchanged (W : Nat → K → Prop) (k : Kont K V) (t t' : Tree K V) (fl : Flow K V)
    (hk : ∀ r x, ¬ kontWit k r x) (htree : t' = t)
    (h : ISepN lt (fun r x => W r x ∨ kontWit k r x) t.depth t.root) :
    ISepN lt (fun r x => W r x ∨ flowWit fl r x) t'.depth t'.root := by
  rw [htree]
  exact ISepN.mono (fun r _ x hw => hw.elim Or.inl (fun hw => absurd hw (hk r x))) h

end Gobptree.Conc
