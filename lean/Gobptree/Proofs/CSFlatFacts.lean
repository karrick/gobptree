/-
  "Free theorems" about the flat view of a typed node: the pre-order list starts with the
  node itself, heights are bounded by the depth index, a node's children occur in the
  flat view one level below it, and siblings occur in the order of the `kids` array.
  "Occurs before" is phrased as a two-element sublist `[x, y] <+ l`.
  Then the leaf chain: `Chain` on the leaf entries of a flat view, `ChainV` on their view
  `chainView`, and the two surgeries a window performs on it (`chainV_split`, `chainV_merge`).
-/
import Gobptree.Proofs.CSDefs

namespace Gobptree.Conc
open Gobptree

variable {K V : Type}

theorem getElem?_sublist_flatMap {α β : Type} (f : α → List β) (l : List α) (j : Nat) (a : α) (h : l[j]? = some a) :
    (f a).Sublist (l.flatMap f) := by
  rw [List.flatMap_def]
  exact List.sublist_flatten_of_mem (List.mem_map_of_mem (List.mem_of_getElem? h))

theorem getElem?_pair_sublist_flatMap {α β : Type} (f : α → List β) :
    ∀ (l : List α) (j j' : Nat) (a a' : α), l[j]? = some a → l[j']? = some a' → j < j' →
      (f a ++ f a').Sublist (l.flatMap f) := by
  intro l
  induction l with
  | nil => intro j j' a a' h; simp at h
  | cons c rest ih =>
    intro j j' a a' h h' hlt
    rw [List.flatMap_cons]
    cases j' with
    | zero => omega
    | succ j' =>
      simp only [List.getElem?_cons_succ] at h'
      cases j with
      | zero =>
        simp only [List.getElem?_cons_zero, Option.some.injEq] at h
        subst h
        exact List.Sublist.append (List.Sublist.refl _) (getElem?_sublist_flatMap f rest j' a' h')
      | succ j =>
        simp only [List.getElem?_cons_succ] at h
        exact (ih j j' a a' h h' (by omega)).trans (List.sublist_append_right _ _)

theorem idxOf_cons_ne' {c a : Nat} (l : List Nat) (h : c ≠ a) : (c :: l).idxOf a = l.idxOf a + 1 := by
  rw [List.idxOf_cons, beq_false_of_ne h]; rfl

theorem idxOf_lt_of_pair_sublist {l : List Nat} :
    ∀ {a b : Nat}, [a, b].Sublist l → l.Nodup → l.idxOf a < l.idxOf b := by
  induction l with
  | nil => intro a b h; cases h
  | cons c l ih =>
    intro a b h hn
    rw [List.nodup_cons] at hn
    cases h with
    | cons _ h' =>
      have ha : a ∈ l := h'.subset (by simp)
      have hb : b ∈ l := h'.subset (by simp)
      have hca : c ≠ a := fun e => hn.1 (e ▸ ha)
      have hcb : c ≠ b := fun e => hn.1 (e ▸ hb)
      rw [idxOf_cons_ne' _ hca, idxOf_cons_ne' _ hcb]
      exact Nat.succ_lt_succ (ih h' hn.2)
    | cons_cons _ h' =>
      have hb : b ∈ l := h'.subset (by simp)
      have hcb : c ≠ b := fun e => hn.1 (e ▸ hb)
      rw [List.idxOf_cons_self, idxOf_cons_ne' _ hcb]
      exact Nat.succ_pos _

theorem mem_of_lookup {β : Type} (l : List (Nat × β)) (a : Nat) (b : β) (h : l.lookup a = some b) : (a, b) ∈ l := by
  obtain ⟨l1, l2, rfl, -⟩ := List.lookup_eq_some_iff.1 h
  exact List.mem_append_right _ List.mem_cons_self

theorem lookup_of_mem {β : Type} (l : List (Nat × β)) (a : Nat) (b : β) (hn : (l.map Prod.fst).Nodup)
    (h : (a, b) ∈ l) : l.lookup a = some b := by
  obtain ⟨l1, l2, rfl⟩ := List.append_of_mem h
  refine List.lookup_eq_some_iff.2 ⟨l1, l2, rfl, fun p hp => ?_⟩
  rw [List.map_append, List.map_cons, List.nodup_append] at hn
  exact bne_iff_ne.2 fun e => hn.2.2 p.1 (List.mem_map_of_mem hp) a List.mem_cons_self e.symm

theorem eq_of_nodup_fst {α β : Type} {l : List (α × β)} (hn : (l.map Prod.fst).Nodup) {e e' : α × β}
    (h : e ∈ l) (h' : e' ∈ l) (hid : e.1 = e'.1) : e = e' := by
  induction l with
  | nil => cases h
  | cons p l ih =>
    rw [List.map_cons, List.nodup_cons] at hn
    rcases List.mem_cons.1 h with rfl | m <;> rcases List.mem_cons.1 h' with rfl | m'
    · rfl
    · exact absurd (hid ▸ List.mem_map_of_mem m') hn.1
    · exact absurd (hid ▸ List.mem_map_of_mem m) hn.1
    · exact ih hn.2 m m'

theorem shallow_height : ∀ {d : Nat} (n : Node K V d), (shallow n).height = d
  | 0, _ => rfl
  | _ + 1, _ => rfl

theorem flat_inner {d : Nat} (i : Inner K (Node K V d)) :
    flat (d := d + 1) i = (i.id, shallow (d := d + 1) i) :: i.kids.flatMap (flat (d := d)) := rfl

theorem shallow_inner_kids {d : Nat} (i : Inner K (Node K V d)) :
    (shallow (d := d + 1) i).kids = i.kids.map (Node.id (d := d)) := rfl

theorem shallow_kids_getElem {d : Nat} (i : Inner K (Node K V d)) (j c : Nat) :
    (shallow (d := d + 1) i).kids[j]? = some c ↔ ∃ k, i.kids[j]? = some k ∧ Node.id k = c := by
  rw [shallow_inner_kids, List.getElem?_map]
  exact Option.map_eq_some_iff

theorem flat_leaf (l : Leaf K V) : flat (d := 0) l = [(l.id, shallow (d := 0) l)] := rfl

theorem shallow_leaf_kids (l : Leaf K V) : (shallow (d := 0) l).kids = [] := rfl

theorem flat_head : ∀ {d : Nat} (n : Node K V d), ∃ tl, flat n = (Node.id n, shallow n) :: tl
  | 0, _ => ⟨[], rfl⟩
  | _ + 1, _ => ⟨_, rfl⟩

theorem self_mem_flat {d : Nat} (n : Node K V d) : (Node.id n, shallow n) ∈ flat n := by
  obtain ⟨tl, h⟩ := flat_head n
  rw [h]
  exact List.mem_cons_self

theorem flat_height_le : ∀ {d : Nat} (n : Node K V d) (p : Nat × Shallow K V), p ∈ flat n → p.2.height ≤ d := by
  intro d
  induction d with
  | zero =>
    intro n p hp
    rw [flat_leaf (n : Leaf K V)] at hp
    simp only [List.mem_singleton] at hp
    subst hp
    exact Nat.le_refl _
  | succ d ih =>
    intro n p hp
    rw [flat_inner (n : Inner K (Node K V d))] at hp
    rcases List.mem_cons.mp hp with h | h
    · subst h
      exact Nat.le_refl _
    · obtain ⟨k, _, hk⟩ := List.mem_flatMap.mp h
      exact Nat.le_succ_of_le (ih k p hk)

theorem flat_kid : ∀ {d : Nat} (n : Node K V d) (p : Nat) (sh : Shallow K V) (j c : Nat),
    (p, sh) ∈ flat n → sh.kids[j]? = some c →
    ∃ shc, (c, shc) ∈ flat n ∧ shc.height + 1 = sh.height := by
  intro d
  induction d with
  | zero =>
    intro n p sh j c hp hj
    rw [flat_leaf (n : Leaf K V)] at hp
    simp only [List.mem_singleton, Prod.mk.injEq] at hp
    rw [hp.2, shallow_leaf_kids (n : Leaf K V)] at hj
    simp at hj
  | succ d ih =>
    intro n p sh j c hp hj
    rw [flat_inner (n : Inner K (Node K V d))] at hp ⊢
    rcases List.mem_cons.mp hp with h | h
    · simp only [Prod.mk.injEq] at h
      obtain ⟨_, rfl⟩ := h
      obtain ⟨k, hk, rfl⟩ := (shallow_kids_getElem (n : Inner K (Node K V d)) j c).1 hj
      refine ⟨shallow k, List.mem_cons_of_mem _ ?_, ?_⟩
      · exact List.mem_flatMap.mpr ⟨k, List.mem_of_getElem? hk, self_mem_flat k⟩
      · rw [shallow_height, shallow_height]
    · obtain ⟨k, hk, hpk⟩ := List.mem_flatMap.mp h
      obtain ⟨shc, hc, hh⟩ := ih k p sh j c hpk hj
      exact ⟨shc, List.mem_cons_of_mem _ (List.mem_flatMap.mpr ⟨k, hk, hc⟩), hh⟩

theorem flat_siblings : ∀ {d : Nat} (n : Node K V d) (p : Nat) (sh : Shallow K V) (j j' c c' : Nat),
    (p, sh) ∈ flat n → sh.kids[j]? = some c → sh.kids[j']? = some c' → j < j' →
    ∃ shc shc', [(c, shc), (c', shc')].Sublist (flat n) ∧
      shc.height + 1 = sh.height ∧ shc'.height + 1 = sh.height := by
  intro d
  induction d with
  | zero =>
    intro n p sh j j' c c' hp hj
    rw [flat_leaf (n : Leaf K V)] at hp
    simp only [List.mem_singleton, Prod.mk.injEq] at hp
    rw [hp.2, shallow_leaf_kids (n : Leaf K V)] at hj
    simp at hj
  | succ d ih =>
    intro n p sh j j' c c' hp hj hj' hlt
    rw [flat_inner (n : Inner K (Node K V d))] at hp ⊢
    rcases List.mem_cons.mp hp with h | h
    · simp only [Prod.mk.injEq] at h
      obtain ⟨_, rfl⟩ := h
      obtain ⟨k, hk, rfl⟩ := (shallow_kids_getElem (n : Inner K (Node K V d)) j c).1 hj
      obtain ⟨k', hk', rfl⟩ := (shallow_kids_getElem (n : Inner K (Node K V d)) j' c').1 hj'
      refine ⟨shallow k, shallow k', List.Sublist.cons _ ?_, ?_, ?_⟩
      · refine List.Sublist.trans ?_
          (getElem?_pair_sublist_flatMap (flat (d := d)) _ j j' k k' hk hk' hlt)
        obtain ⟨tl, e⟩ := flat_head k
        obtain ⟨tl', e'⟩ := flat_head k'
        rw [e, e']
        refine List.Sublist.cons_cons _ ?_
        refine List.Sublist.trans ?_ (List.sublist_append_right _ _)
        exact List.Sublist.cons_cons _ (List.nil_sublist _)
      · rw [shallow_height, shallow_height]
      · rw [shallow_height, shallow_height]
    · obtain ⟨k, hk, hpk⟩ := List.mem_flatMap.mp h
      obtain ⟨shc, shc', hs, hh, hh'⟩ := ih k p sh j j' c c' hpk hj hj' hlt
      obtain ⟨i, hi⟩ := List.getElem?_of_mem hk
      exact ⟨shc, shc', List.Sublist.cons _
        (hs.trans (getElem?_sublist_flatMap (flat (d := d)) _ i k hi)), hh, hh'⟩

theorem chain_cons (x : Nat × Shallow K V) (l : List (Nat × Shallow K V)) :
    Chain (x :: l) ↔ x.2.next = l.head?.map Prod.fst ∧ Chain l := by
  cases l with
  | nil => simp [Chain]
  | cons q rest => simp [Chain]

theorem flatLeaves_append (A B : List (Nat × Shallow K V)) :
    flatLeaves (A ++ B) = flatLeaves A ++ flatLeaves B := by
  unfold flatLeaves; exact List.filter_append _ _

theorem flatLeaves_cons_inner (p : Nat × Shallow K V) (A : List (Nat × Shallow K V)) (h : p.2.height ≠ 0) :
    flatLeaves (p :: A) = flatLeaves A := by
  unfold flatLeaves
  rw [List.filter_cons]
  simp [h]

theorem flatLeaves_cons_leaf (p : Nat × Shallow K V) (A : List (Nat × Shallow K V)) (h : p.2.height = 0) :
    flatLeaves (p :: A) = p :: flatLeaves A := by
  unfold flatLeaves
  rw [List.filter_cons]
  simp [h]

@[simp] theorem flatLeaves_nil : flatLeaves ([] : List (Nat × Shallow K V)) = [] := rfl

/-- The chain as the leaf entries show it: `(id, next)` of each, in flat order.  This is all
    `Chain` reads, so the rewrites of a window are stated on it (`ChainStep`, `chain_of_view`). -/
def chainView (l : List (Nat × Shallow K V)) : List (Nat × Option Nat) :=
  (flatLeaves l).map fun p => (p.1, p.2.next)

theorem chainView_nil : chainView ([] : List (Nat × Shallow K V)) = [] := rfl

theorem chainView_append (a b : List (Nat × Shallow K V)) :
    chainView (a ++ b) = chainView a ++ chainView b := by
  unfold chainView
  rw [flatLeaves_append, List.map_append]

theorem chainView_cons_leaf (id : Nat) (sh : Shallow K V) (l : List (Nat × Shallow K V)) (h : sh.height = 0) :
    chainView ((id, sh) :: l) = (id, sh.next) :: chainView l := by
  unfold chainView
  rw [flatLeaves_cons_leaf _ _ h, List.map_cons]

theorem chainView_cons_inner (id : Nat) (sh : Shallow K V) (l : List (Nat × Shallow K V)) (h : 0 < sh.height) :
    chainView ((id, sh) :: l) = chainView l := by
  unfold chainView
  rw [flatLeaves_cons_inner _ _ (Nat.ne_of_gt h)]

/-- `Chain` on views -/
def ChainV : List (Nat × Option Nat) → Prop
  | [] => True
  | [p] => p.2 = none
  | p :: q :: rest => p.2 = some q.1 ∧ ChainV (q :: rest)

theorem chainV_cons (x : Nat × Option Nat) (l : List (Nat × Option Nat)) :
    ChainV (x :: l) ↔ x.2 = l.head?.map Prod.fst ∧ ChainV l := by
  cases l with
  | nil => simp [ChainV]
  | cons q rest => simp [ChainV]

theorem chain_iff_map (l : List (Nat × Shallow K V)) :
    Chain l ↔ ChainV (l.map fun p => (p.1, p.2.next)) := by
  induction l with
  | nil => simp [Chain, ChainV]
  | cons p l ih =>
    cases l with
    | nil => simp [Chain, ChainV]
    | cons q rest =>
      simp only [Chain, List.map_cons, ChainV]
      simp only [List.map_cons] at ih
      rw [ih]

theorem chainOk_iff (t : Tree K V) : ChainOk t ↔ ChainV (chainView t.flat) :=
  chain_iff_map _

/-- The leaves of a window `A` may be replaced by those of `A'` in any chain as soon as the views may. -/
theorem chain_of_view (A A' : List (Nat × Shallow K V))
    (h : ∀ U W, ChainV (U ++ chainView A ++ W) → ChainV (U ++ chainView A' ++ W))
    (X Y : List (Nat × Shallow K V)) : Chain (X ++ flatLeaves A ++ Y) → Chain (X ++ flatLeaves A' ++ Y) := by
  rw [chain_iff_map, chain_iff_map, List.map_append, List.map_append, List.map_append, List.map_append]
  exact h _ _

/-- a leaf `c` splits off a fresh right sibling `f` -/
theorem chainV_split (U W : List (Nat × Option Nat)) (c : Nat) (n : Option Nat) (f : Nat) :
    ChainV (U ++ (c, n) :: W) → ChainV (U ++ (c, some f) :: (f, n) :: W) := by
  induction U with
  | nil =>
    intro h
    simp only [List.nil_append] at h ⊢
    rw [chainV_cons] at h
    rw [chainV_cons, chainV_cons]
    exact ⟨rfl, h.1, h.2⟩
  | cons x U ih =>
    intro h
    simp only [List.cons_append] at h ⊢
    rw [chainV_cons] at h ⊢
    refine ⟨?_, ih h.2⟩
    rw [h.1]
    cases U <;> rfl

/-- a leaf `a` absorbs its right neighbour `b` and takes over its `next` -/
theorem chainV_merge (U W : List (Nat × Option Nat)) (a b : Nat) (n m : Option Nat) :
    ChainV (U ++ (a, n) :: (b, m) :: W) → ChainV (U ++ (a, m) :: W) := by
  induction U with
  | nil =>
    intro h
    simp only [List.nil_append] at h ⊢
    rw [chainV_cons, chainV_cons] at h
    rw [chainV_cons]
    exact h.2
  | cons x U ih =>
    intro h
    simp only [List.cons_append] at h ⊢
    rw [chainV_cons] at h ⊢
    refine ⟨?_, ih h.2⟩
    rw [h.1]
    cases U <;> rfl

theorem chain_append_right : ∀ (X Y : List (Nat × Shallow K V)), Chain (X ++ Y) → Chain Y := by
  intro X
  induction X with
  | nil => intro Y h; exact h
  | cons x X ih =>
    intro Y h
    rw [List.cons_append, chain_cons] at h
    exact ih Y h.2

theorem Chain.next_eq (A : List (Nat × Shallow K V)) (p : Nat × Shallow K V) (B : List (Nat × Shallow K V))
    (hc : Chain (A ++ p :: B)) : p.2.next = B.head?.map Prod.fst :=
  ((chain_cons p B).1 (chain_append_right A _ hc)).1

theorem chain_next (l : List (Nat × Shallow K V)) (p : Nat × Shallow K V) (nx : Nat)
    (hc : Chain l) (hp : p ∈ l) (hn : p.2.next = some nx) : ∃ q, q.1 = nx ∧ [p, q].Sublist l := by
  obtain ⟨A, B, rfl⟩ := List.append_of_mem hp
  have := (Chain.next_eq A p B hc).symm.trans hn
  cases B with
  | nil => cases this
  | cons q B =>
    exact ⟨q, Option.some.inj this, (List.Sublist.cons_cons p (List.Sublist.cons_cons q (List.nil_sublist B))).trans
      (List.sublist_append_right A _)⟩

end Gobptree.Conc
