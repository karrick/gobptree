/-
  Linearizability WITH Delete: every reachable configuration's history of map operations
  (Insert / Update / Delete / Search, cursor sessions alongside) has a linearization, given
  the per-block key-order results `KBlocks`.

  Linearization points: Insert / Update / Search take effect in the scheduler step in which
  they return; a Delete takes effect in the stretch that removes the key from its leaf, which
  may precede the step in which it returns (it may still wait for right siblings while it
  unwinds and rebalances: parked at `delRight …`, status `linearized`).
-/
import Gobptree.Proofs.CLin
import Gobptree.Proofs.CKFull

namespace Gobptree.Conc
open Gobptree Gobptree.Lin

variable {K V : Type}

theorem stepEff_full (B : KBlocks K V) (lt : K → K → Bool) (c : Config K V) (t : Nat) (hk : KFInv lt c) :
    StepEff lt c t := by
  intro th k ht hen hpk
  cases hdel : isDelK k with
  | false => exact stepEff_ku B.ku lt hk.cinv hk.kinv hk.kp ht hpk hdel
  | true =>
    have hkk := Park.kont?_eq_some.2 hpk
    have R := (stepper_pre hk.cinv.s ht hkk).2
    obtain ⟨hpre, h4⟩ := del_stepper_pre hk.cinv ht hen hkk hdel
    have eff : ∀ evs, AbsEffect lt t k { stepSt c t th with evs := evs }
        (resume c.P t { stepSt c t th with evs := evs } k).1 (resume c.P t { stepSt c t th with evs := evs } k).2 :=
      fun evs => (B.kd lt c.P t { stepSt c t th with evs := evs } k (stepHeld th) hdel h4 hk.kp
        ⟨hpre.tree, hpre.order, hpre.pad⟩ R.kok R.pre R.cov hk.kinv.ord (kpos_of_park hk.kinv ht hkk)).1.eff
    exact ⟨eff _, eff [], resume_new_evs c.P t _ k _ hpre (fun _ => ⟨rfl, h4⟩) R.kok⟩

theorem linearizable_full (B : KBlocks K V) (lt : K → K → Bool) (P : Params K) (tree : Tree K V)
    (progs : List (List (COp K V)))
    (hkp : KParams lt P) (ht : TreeOk none tree) (hord : OrdTree lt tree) (hsep : SepTree lt tree)
    (ho : tree.order = P.order) (hp : PadOk P) (hd : Disciplined progs)
    (hdel : 4 ≤ tree.order ∨ NoDelete progs)
    (c : Config K V) (hr : Reachable (Config.init P tree progs) c) :
    Lin.Linearizable lt tree.abs (history c) := by
  obtain ⟨h, hl⟩ := reachable_lininv_of lt P tree progs (fun c hr =>
    have hk := reachable_kfinv B lt P tree progs hkp ht hord hsep ho hp hd hdel c hr
    ⟨hk.cinv, fun t => stepEff_full B lt c t hk⟩) hr
  exact hl.linearizable

#print axioms linearizable_full

end Gobptree.Conc
