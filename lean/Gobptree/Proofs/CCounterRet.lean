/-
  Two facts on the notes a thread logs, kept by every scheduler step (one induction for both):

  * every map operation a thread has moved past has RETURNED in the client-visible history, and a
    thread that has finished (without panic) has run its whole program; hence, once every thread
    has finished, every map operation of every program has returned;
  * the history is thread-sequential (`SeqH`): when call `i` of thread `t` is invoked, every earlier
    map operation of `t` has already returned.

  (The `ret` NOTE is logged unconditionally; that it leaves a `ret` EVENT in the history
  needs the shape of the result — `ok` for Insert/Update/Delete, `found _` for Search — and,
  for an Update, that its callback note has been logged: `DoneR` and the counting invariant
  of `CCbOnce`.)
-/
import Gobptree.Proofs.CCbOnce

namespace Gobptree.Conc
open Gobptree Gobptree.Lin

variable {K V : Type}

theorem hx_ret_note (progs : Nat → List (COp K V)) (t pc : Nat) (r : Res K V) (evs : List (Ev K V))
    (cop : COp K V) (out : Out V) (hc : (progs t)[pc]? = some cop)
    (ho : outOf cop r ((hx progs evs).cb t) = some out) :
    HEv.ret t pc out ∈ (hx progs (Ev.note t (.ret pc r) :: evs)).evs :=
  mem_hx_ret.2 ⟨r, evs, [], rfl, by rw [hc]; exact ho⟩

theorem hx_cb_isSome (progs : Nat → List (COp K V)) (t : Nat) (evs : List (Ev K V)) (h : 0 < cbN t evs) :
    ((hx progs evs).cb t).isSome = true := by
  rw [hx_cb]
  obtain ⟨e, he, hc⟩ := List.countP_pos_iff.1 h
  refine List.findSome?_isSome_iff.2 ⟨e, he, ?_⟩
  cases e with
  | note t' n =>
    cases n with
    | cb a => rw [show t' = t from eq_of_beq hc]; exact congrArg Option.isSome (if_pos rfl)
    | inv i => cases hc
    | ret i r => cases hc
  | acq t' l => cases hc
  | rel t' l => cases hc
  | dec t' l => cases hc

def SeqH (progs : Nat → List (COp K V)) (H : List (HEv K V)) : Prop :=
  ∀ (t b i : Nat) (op : Op K V), H[b]? = some (HEv.inv t i op) → ∀ (i' : Nat) (cop' : COp K V) (op' : Op K V),
    i' < i → (progs t)[i']? = some cop' → opOf cop' = some op' →
    ∃ (a : Nat) (out : Out V), a < b ∧ H[a]? = some (HEv.ret t i' out)

theorem SeqH.nil (progs : Nat → List (COp K V)) : SeqH progs ([] : List (HEv K V)) := by
  intro t b i op h; simp at h

theorem SeqH.append_other {progs : Nat → List (COp K V)} {H : List (HEv K V)} (hs : SeqH progs H) (e : HEv K V)
    (hne : ∀ t i op, e ≠ HEv.inv t i op) : SeqH progs (H ++ [e]) := by
  intro t b i op hb i' cop' op' hlt hc ho
  rcases getElem?_snoc hb with ⟨_, hb'⟩ | ⟨_, he⟩
  · obtain ⟨a, out, ha, hao⟩ := hs t b i op hb' i' cop' op' hlt hc ho
    exact ⟨a, out, ha, getElem?_snoc_of hao⟩
  · exact absurd he.symm (hne t i op)

theorem SeqH.append_inv {progs : Nat → List (COp K V)} {H : List (HEv K V)} (hs : SeqH progs H) {t j : Nat} (op : Op K V)
    (hpast : ∀ i' cop' op', i' < j → (progs t)[i']? = some cop' → opOf cop' = some op' → ∃ out, HEv.ret t i' out ∈ H) :
    SeqH progs (H ++ [HEv.inv t j op]) := by
  intro t' b i op0 hb i' cop' op' hlt hc ho
  rcases getElem?_snoc hb with ⟨_, hb'⟩ | ⟨hbl, he⟩
  · obtain ⟨a, out, ha, hao⟩ := hs t' b i op0 hb' i' cop' op' hlt hc ho
    exact ⟨a, out, ha, getElem?_snoc_of hao⟩
  · cases he
    obtain ⟨out, hout⟩ := hpast i' cop' op' hlt hc ho
    obtain ⟨a, ha, hao⟩ := mem_getElem?_lt hout
    exact ⟨a, out, by omega, getElem?_snoc_of hao⟩

theorem hxStep_seq (progs : Nat → List (COp K V)) (st : HxSt K V) (e : Ev K V) (hs : SeqH progs st.evs)
    (hpast : ∀ t j, e = Ev.note t (.inv j) → ∀ i' cop' op', i' < j → (progs t)[i']? = some cop' →
      opOf cop' = some op' → ∃ out, HEv.ret t i' out ∈ st.evs) :
    SeqH progs (hxStep progs st e).evs := by
  rw [hxStep_evs]
  cases he : hxEmit progs st.cb e with
  | none => show SeqH progs (st.evs ++ []); rw [List.append_nil]; exact hs
  | some x =>
    cases x with
    | inv t j op => exact hs.append_inv op (hpast t j (hxEmit_inv.1 he).1)
    | ret t j out => exact hs.append_other _ (by intro _ _ _ h; cases h)
    | lin t j => exact hs.append_other _ (by intro _ _ _ h; cases h)

section Loop

variable (progs : Nat → List (COp K V)) (t : Nat)

def CurOk (prog : List (COp K V)) (s : St K V) (pc : Nat) : Flow K V → Prop
  | .panic => True
  | .park p => p ≠ .finished
  | .done r => ∀ cop op, prog[pc]? = some cop → opOf cop = some op →
      (outOf cop r ((hx progs s.evs).cb t)).isSome = true

/-- `H0`: the history at the start of the scheduler step; `H`: the history extracted so far.
    `seq` is an implication because the other two fields are kept without it: `step_ret` holds of a
    configuration whose history is not known to be thread-sequential. -/
structure PastR (prog : List (COp K V)) (H0 H : List (HEv K V)) (pc : Nat) : Prop where
  mono : ∀ x ∈ H0, x ∈ H
  past : ∀ i cop op, i < pc → prog[i]? = some cop → opOf cop = some op → ∃ out, HEv.ret t i out ∈ H
  seq  : SeqH progs H0 → SeqH progs H

structure LoopR (prog : List (COp K V)) (H0 : List (HEv K V)) (s : St K V) (fl : Flow K V) (pc : Nat) : Prop where
  pastr : PastR progs t prog H0 (hx progs s.evs).evs pc
  cur   : CurOk progs t prog s pc fl

structure FinalR (prog : List (COp K V)) (H0 : List (HEv K V)) (r : Thread K V × St K V × Bool) : Prop where
  pastr : PastR progs t prog H0 (hx progs r.2.1.evs).evs r.1.pc
  fin   : r.1.park = .finished → prog.length ≤ r.1.pc

variable {progs t}

theorem LoopR.mono {prog : List (COp K V)} {H0 : List (HEv K V)} {s : St K V} {fl : Flow K V} {pc : Nat}
    (h : LoopR progs t prog H0 s fl pc) : ∀ x ∈ H0, x ∈ (hx progs s.evs).evs :=
  h.pastr.mono

theorem LoopR.past {prog : List (COp K V)} {H0 : List (HEv K V)} {s : St K V} {fl : Flow K V} {pc : Nat}
    (h : LoopR progs t prog H0 s fl pc) : ∀ i cop op, i < pc → prog[i]? = some cop → opOf cop = some op →
      ∃ out, HEv.ret t i out ∈ (hx progs s.evs).evs :=
  h.pastr.past

theorem PastR.inv {prog : List (COp K V)} {H0 : List (HEv K V)} {evs : List (Ev K V)} {j : Nat}
    (hprog : prog = progs t) (h : PastR progs t prog H0 (hx progs evs).evs j) :
    PastR progs t prog H0 (hx progs (Ev.note t (.inv j) :: evs)).evs j := by
  have hm : ∀ x, x ∈ (hx progs evs).evs → x ∈ (hx progs (Ev.note t (.inv j) :: evs)).evs :=
    fun x => hx_mono progs evs x [Ev.note t (.inv j)]
  refine ⟨fun x hx' => hm x (h.mono x hx'), fun i cop op hi hc ho => ?_, ?_⟩
  · obtain ⟨out, hout⟩ := h.past i cop op hi hc ho
    exact ⟨out, hm _ hout⟩
  · intro h0
    rw [hx_cons]
    apply hxStep_seq progs _ _ (h.seq h0)
    intro t' j' he i' cop' op' hlt hc ho
    cases he
    exact h.past i' cop' op' hlt (by rw [hprog]; exact hc) ho

theorem PastR.ret {prog : List (COp K V)} {H0 : List (HEv K V)} {evs : List (Ev K V)} {pc : Nat} {r : Res K V}
    (hprog : prog = progs t) (h : PastR progs t prog H0 (hx progs evs).evs pc)
    (hcur : ∀ cop op, prog[pc]? = some cop → opOf cop = some op →
      (outOf cop r ((hx progs evs).cb t)).isSome = true) :
    PastR progs t prog H0 (hx progs (Ev.note t (.ret pc r) :: evs)).evs (pc + 1) := by
  have hm : ∀ x, x ∈ (hx progs evs).evs → x ∈ (hx progs (Ev.note t (.ret pc r) :: evs)).evs :=
    fun x => hx_mono progs evs x [Ev.note t (.ret pc r)]
  refine ⟨fun x hx' => hm x (h.mono x hx'), fun i cop op hi hc ho => ?_, ?_⟩
  · by_cases hlt : i < pc
    · obtain ⟨out, hout⟩ := h.past i cop op hlt hc ho
      exact ⟨out, hm _ hout⟩
    · have hip : i = pc := by omega
      subst hip
      obtain ⟨out, hout⟩ := Option.isSome_iff_exists.1 (hcur cop op hc ho)
      exact ⟨out, hx_ret_note progs t i r evs cop out (by rw [← hprog]; exact hc) hout⟩
  · intro h0
    rw [hx_cons]
    exact hxStep_seq progs _ _ (h.seq h0) (by intro _ _ he; cases he)

theorem begin_ret {prog : List (COp K V)} {H0 : List (HEv K V)} {s : St K V} {j : Nat} {cop : COp K V}
    (hprog : prog = progs t) (h : PastR progs t prog H0 (hx progs s.evs).evs j) (hcop : prog[j]? = some cop) :
    LoopR progs t prog H0 (startOp t (s.note t (.inv j)) cop).1 (startOp t (s.note t (.inv j)) cop).2 j := by
  obtain ⟨new, e, q, fl⟩ := startOp_tr t (s.note t (.inv j)) cop
  refine ⟨by rw [e, hx_silent progs _ new q]; exact h.inv hprog, ?_⟩
  revert fl
  cases (startOp t (s.note t (.inv j)) cop).2 with
  | panic => intro _; trivial
  | done r =>
    intro fl cop' op hc ho
    rw [hcop] at hc; cases hc
    have hn : opOf cop = none := fl
    rw [hn] at ho; cases ho
  | park p =>
    intro fl
    obtain ⟨k, hk, _⟩ := fl
    intro hp
    rw [hp] at hk; cases hk

theorem resume_loopr (P : Params K) {prog : List (COp K V)} {H0 : List (HEv K V)} {s : St K V} {k : Kont K V}
    {pc : Nat} {cop : COp K V}
    (h : PastR progs t prog H0 (hx progs s.evs).evs pc)
    (hcnt : cbN t s.evs = retU progs t s.evs + kCb k) (hcop : prog[pc]? = some cop) (hkf : KontFor cop k) :
    LoopR progs t prog H0 (resume P t s k).1 (resume P t s k).2 pc := by
  obtain ⟨new, e, q, hfl, _⟩ := resume_trace P t s k
  obtain ⟨h1, _, h3⟩ := hx_quiet progs t s.evs new q
  refine ⟨by rw [e, h1]; exact h, ?_⟩
  revert hfl
  cases (resume P t s k).2 with
  | panic => intro _; trivial
  | park p =>
    intro hfl
    obtain ⟨_, _, k', hk', _, _⟩ := hfl
    intro hp
    rw [hp] at hk'; cases hk'
  | done r =>
    intro hfl
    have hdr : DoneR t k new r := hfl
    intro cop' op hc ho
    rw [hcop] at hc; cases hc
    rw [e, h3]
    cases cop with
    | ins key v =>
      have hsig : kontSig k = .up key (fun _ => v) none := hkf
      have hres := (hdr.up hsig).1
      subst hres
      rfl
    | upd key g y =>
      have hsig : kontSig k = .up key g (some y) := hkf
      have hres := (hdr.up hsig).1
      subst hres
      have h2 := (hdr.up hsig).2
      cases hca : cbArg k with
      | none =>
        rw [hca] at h2
        have hsome := h2 rfl
        cases hl : lastCb t new with
        | none => rw [hl] at hsome; cases hsome
        | some a => rfl
      | some arg =>
        rw [hca] at h2
        simp only at h2
        rw [h2]
        have hk1 : kCb k = 1 := by
          cases k <;> first | rfl | cases hca
        have hpos : 0 < cbN t s.evs := by rw [hcnt, hk1]; exact Nat.succ_pos _
        have := hx_cb_isSome progs t s.evs hpos
        cases hcb : (hx progs s.evs).cb t with
        | none => rw [hcb] at this; cases this
        | some a => rfl
    | get key =>
      have hsig : kontSig k = .ro false key := hkf
      obtain ⟨v, hv⟩ := hdr.ro_false hsig
      subst hv
      rfl
    | del key =>
      have hsig : kontSig k = .del key := hkf
      have hres := hdr.del hsig
      subst hres
      rfl
    | ns key => cases ho
    | scan => cases ho
    | pair => cases ho
    | close => cases ho
    | pause => cases ho

end Loop

structure RetOk (c : Config K V) (t : Nat) (th : Thread K V) : Prop where
  past : ∀ i cop op, i < th.pc → th.prog[i]? = some cop → opOf cop = some op →
    ∃ out, HEv.ret t i out ∈ history c
  fin  : th.park = .finished → th.prog.length ≤ th.pc

theorem step_ret_seq (c c' : Config K V) (t : Nat) (hstep : c.step t = some c') (hinv : CInv c)
    (hC : ∀ j b, c.threads[j]? = some b → CbOk c j b)
    (hI : ∀ j b, c.threads[j]? = some b → RetOk c j b) :
    (∀ j b, c'.threads[j]? = some b → RetOk c' j b) ∧
      (SeqH (progOf c) (history c) → SeqH (progOf c') (history c')) := by
  obtain ⟨th, r, F⟩ := step_run hstep hinv
  have hcb := hC t th F.get
  have h0 : PastR (progOf c) t th.prog (history c) (hx (progOf c) (stepSt c t th).evs).evs th.pc := by
    rw [F.hx0]; exact ⟨fun _ h => h, (hI t th F.get).past, id⟩
  have hpc : th.park = .start → th.pc = 0 := fun hp => by have := hcb.pf; rw [hp] at this; exact this
  have main : FinalR (progOf c) t th.prog (history c) r := by
    have hdied := F.alive
    rw [F.run] at hdied ⊢
    refine runThread_induct c.P t th (stepSt c t th) (LoopR (progOf c) t th.prog (history c))
      (fun r => r.2.2 = false → FinalR (progOf c) t th.prog (history c) r)
      (fun s p pc hl _ => ⟨hl.pastr, fun hp => absurd hp hl.cur⟩) (fun s pc _ h => by cases h)
      (fun s r pc hl hlen _ => ⟨hl.pastr.ret F.prog hl.cur, fun _ => hlen⟩)
      (fun s r pc op hl hop => begin_ret (s := s.note t (.ret pc r)) F.prog (hl.pastr.ret F.prog hl.cur) hop)
      (fun hp => absurd hp F.nf) ?_ ?_ ?_ hdied
    · intro hp hop _
      exact ⟨h0, fun _ => by show th.prog.length ≤ th.pc; rw [hpc hp]; exact List.getElem?_eq_none_iff.1 hop⟩
    · intro op hp hop
      rw [hpc hp] at h0
      exact begin_ret F.prog h0 hop
    · intro k hk
      obtain ⟨⟨cop, hcop, hkf⟩, hcnt⟩ := hcb.resumed hinv F.get (Park.kont?_eq_some.1 hk)
      exact resume_loopr c.P h0 hcnt hcop hkf
  refine ⟨F.each ⟨by rw [F.history, F.rprog]; exact main.pastr.past, by rw [F.rprog]; exact main.fin⟩ ?_,
    fun hS => by rw [F.progs, F.history]; exact main.pastr.seq hS⟩
  intro j b _ hjo
  have := hI j b hjo
  refine ⟨fun i cop op hi hc ho => ?_, this.fin⟩
  obtain ⟨out, hout⟩ := this.past i cop op hi hc ho
  exact ⟨out, by rw [F.history]; exact main.pastr.mono _ hout⟩

theorem step_ret (c c' : Config K V) (t : Nat) (hstep : c.step t = some c') (hinv : CInv c)
    (hC : ∀ j b, c.threads[j]? = some b → CbOk c j b)
    (hI : ∀ j b, c.threads[j]? = some b → RetOk c j b) :
    ∀ j b, c'.threads[j]? = some b → RetOk c' j b :=
  (step_ret_seq c c' t hstep hinv hC hI).1

theorem reachable_progs (P : Params K) (tree : Tree K V) (progs : List (List (COp K V)))
    (c : Config K V) (hr : Reachable (Config.init P tree progs) c) :
    c.threads.map (·.prog) = progs := by
  induction hr with
  | refl => simp [Config.init, List.map_map, Function.comp_def]
  | @step c1 c2 t _ hs ih =>
    obtain ⟨th, r, S⟩ := step_stepped hs
    rw [S.map_prog, ih]

theorem reachable_retok_seq (P : Params K) (tree : Tree K V) (progs : List (List (COp K V)))
    (ht : TreeOk none tree) (ho : tree.order = P.order) (hp : PadOk P) (hd : Disciplined progs)
    (hdel : 4 ≤ tree.order ∨ NoDelete progs)
    (c : Config K V) (hr : Reachable (Config.init P tree progs) c) :
    (∀ t th, c.threads[t]? = some th → RetOk c t th) ∧ SeqH (progOf c) (history c) := by
  induction hr with
  | refl =>
    refine ⟨fun j b hj => ?_, SeqH.nil _⟩
    obtain ⟨p, _, rfl⟩ := mem_init_threads (List.mem_of_getElem? hj)
    exact ⟨fun i _ _ hi => absurd hi (Nat.not_lt_zero i), fun h => by cases h⟩
  | @step c1 c2 t hr1 hs ih =>
    obtain ⟨h1, h2⟩ := step_ret_seq c1 c2 t hs (reachable_cinv P tree progs ht ho hp hd hdel c1 hr1)
      (reachable_cbok P tree progs ht ho hp hd hdel c1 hr1) ih.1
    exact ⟨h1, h2 ih.2⟩

theorem reachable_retok (P : Params K) (tree : Tree K V) (progs : List (List (COp K V)))
    (ht : TreeOk none tree) (ho : tree.order = P.order) (hp : PadOk P) (hd : Disciplined progs)
    (hdel : 4 ≤ tree.order ∨ NoDelete progs)
    (c : Config K V) (hr : Reachable (Config.init P tree progs) c) :
    ∀ t th, c.threads[t]? = some th → RetOk c t th :=
  (reachable_retok_seq P tree progs ht ho hp hd hdel c hr).1

theorem finished_all_returned (P : Params K) (tree : Tree K V) (progs : List (List (COp K V)))
    (ht : TreeOk none tree) (ho : tree.order = P.order) (hp : PadOk P) (hd : Disciplined progs)
    (hdel : 4 ≤ tree.order ∨ NoDelete progs)
    (c : Config K V) (hr : Reachable (Config.init P tree progs) c) (hu : c.unfinished = false) :
    ∀ t p i cop op, progs[t]? = some p → p[i]? = some cop → opOf cop = some op →
      ∃ out, HEv.ret t i out ∈ history c := by
  intro t p i cop op hpt hpi hop
  have hprogs := reachable_progs P tree progs c hr
  have hth : ∃ th, c.threads[t]? = some th ∧ th.prog = p := by
    rw [← hprogs, List.getElem?_map] at hpt
    cases h : c.threads[t]? with
    | none => rw [h] at hpt; cases hpt
    | some th => rw [h] at hpt; exact ⟨th, rfl, by simpa using hpt⟩
  obtain ⟨th, hth, rfl⟩ := hth
  have hok := reachable_retok P tree progs ht ho hp hd hdel c hr t th hth
  have hfin : th.park = .finished := by
    unfold Config.unfinished at hu
    have := List.any_eq_false.1 hu th (List.mem_of_getElem? hth)
    cases hpk : th.park <;> simp [hpk] at this ⊢
  have hlen := hok.fin hfin
  have hi : i < th.prog.length := (List.getElem?_eq_some_iff.1 hpi).1
  exact hok.past i cop op (by omega) hpi hop

end Gobptree.Conc
