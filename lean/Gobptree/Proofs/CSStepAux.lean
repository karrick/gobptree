/-
  Auxiliary facts for the step-level assembly: mutual exclusion in usable form, the hole of
  a configuration, and who holds `rootMutex` (a thread with a hole, a stepping Delete).
-/
import Gobptree.Proofs.CSThread

namespace Gobptree.Conc
open Gobptree

variable {K V : Type}

theorem owner_mem {c : Config K V} (ho : OwnerOk c) {j : Nat} {b : Thread K V} {l : Lk}
    (hj : c.threads[j]? = some b) (hb : l ∈ b.held) : (l, j) ∈ c.owner := by
  apply List.count_pos_iff.mp
  rw [ho.1 l j]; unfold heldOf; rw [hj]
  exact List.count_pos_iff.mpr hb

theorem held_excl {c : Config K V} (ho : OwnerOk c) {i j : Nat} {a b : Thread K V} {l : Lk}
    (hi : c.threads[i]? = some a) (hj : c.threads[j]? = some b) (ha : l ∈ a.held) (hb : l ∈ b.held) : i = j :=
  (Prod.mk.inj (eq_of_nodup_fst ho.2 (owner_mem ho hi ha) (owner_mem ho hj hb) rfl)).2

theorem free_not_held {c : Config K V} (ho : OwnerOk c) {l : Lk} (hf : c.holder l = none)
    {j : Nat} {b : Thread K V} (hj : c.threads[j]? = some b) : l ∉ b.held :=
  fun hb => holder_isNone (by rw [hf]; rfl) (l, j) (owner_mem ho hj hb) rfl

theorem holeOf_eq_of_others_none : ∀ (ths : List (Thread K V)) (t : Nat) (a : Thread K V),
    ths[t]? = some a → (∀ j b, ths[j]? = some b → j ≠ t → parkHole b.park = none) →
    holeOf ths = parkHole a.park := by
  intro ths
  induction ths with
  | nil => intro t a h; cases h
  | cons x xs ih =>
    intro t a h hn
    unfold holeOf
    rw [List.findSome?_cons]
    cases t with
    | zero =>
      have : x = a := by simpa using h
      subst this
      cases hx : parkHole x.park with
      | some v => rfl
      | none =>
        simp only
        rw [List.findSome?_eq_none_iff.2]
        intro b hb
        obtain ⟨j, hj, e⟩ := List.getElem_of_mem hb
        have := hn (j + 1) b (by simp [List.getElem?_eq_getElem hj, e]) (by omega)
        exact this
    | succ t =>
      have hx : parkHole x.park = none := hn 0 x rfl (by omega)
      rw [hx]
      simp only
      exact ih t a (by simpa using h) (fun j b hj hne => hn (j + 1) b (by simpa using hj) (by omega))

theorem holeOf_all_none (ths : List (Thread K V)) (h : ∀ b ∈ ths, parkHole b.park = none) : holeOf ths = none := by
  unfold holeOf
  exact List.findSome?_eq_none_iff.2 h

theorem holeOf_set_none (ths : List (Thread K V)) (t : Nat) (a a' : Thread K V)
    (h : ths[t]? = some a) (h1 : parkHole a.park = none) (h2 : parkHole a'.park = none) :
    holeOf (ths.set t a') = holeOf ths := by
  have e : ∀ l : List (Thread K V), holeOf l = (l.map fun th => parkHole th.park).findSome? id :=
    fun l => by rw [List.findSome?_map]; rfl
  rw [e, e, map_set_eq h (h2.trans h1.symm)]

theorem parkHole_of_not_del {p : Park K V} (h : isDelPark p = false) : parkHole p = none := by
  cases p with
  | want l k => cases k <;> first | rfl | cases h
  | _ => rfl

theorem hole_holds_tree {th : Thread K V} (hok : ThreadOk th) {x : Nat} (h : parkHole th.park = some x) :
    Lk.tree ∈ th.held := by
  apply hok.1.mem_iff.2
  apply List.mem_append_right
  cases hp : th.park with
  | want l k =>
    rw [hp] at h
    cases k <;> first | cases h | skip
    simp [parkHeld, kontHeld]
  | _ => rw [hp] at h; cases h

theorem del_stepHeld_tree {th : Thread K V} (hok : ThreadOk th) (hdel : isDelPark th.park = true) :
    Lk.tree ∈ stepHeld th := by
  cases hk : th.park.kont? with
  | none => rw [(Park.kont?_none hk).2.2.1] at hdel; cases hdel
  | some k =>
    obtain ⟨_, hheld, hlock⟩ := parked_of hok hk
    rw [isDelPark_kont hk] at hdel
    -- the first park of a Delete waits for `rootMutex`, every later one holds it
    cases k with
    | delTree => exact mem_stepHeld.2 (Or.inr (hlock.symm.trans rfl))
    | delRoot | delLeft | delChild | delRight =>
      exact mem_stepHeld_of_held ((hheld _).2 (List.mem_append_left _ (List.mem_cons_self ..)))
    | _ => cases hdel

end Gobptree.Conc
