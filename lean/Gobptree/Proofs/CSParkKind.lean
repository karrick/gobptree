/-
  No block of the small-step model ever parks at `.start` or `.finished`: whenever the code
  between two parks ends in `.park p`, `p` is a `.want` or a `.yielded`.
-/
import Gobptree.Proofs.CSBlock

namespace Gobptree.Conc
open Gobptree

variable {K V : Type}

theorem parkLive_iff_kont {p : Park K V} : parkLive p ↔ ∃ k, p.kont? = some k := by
  cases p with
  | want l k => exact ⟨fun _ => ⟨k, rfl⟩, fun _ => trivial⟩
  | yielded k => exact ⟨fun _ => ⟨k, rfl⟩, fun _ => trivial⟩
  | start => exact ⟨False.elim, fun ⟨_, h⟩ => by cases h⟩
  | finished => exact ⟨False.elim, fun ⟨_, h⟩ => by cases h⟩

theorem parkLive_of_ne {p : Park K V} (h1 : p ≠ .start) (h2 : p ≠ .finished) : parkLive p := by
  cases p with
  | start => exact absurd rfl h1
  | finished => exact absurd rfl h2
  | want l k => trivial
  | yielded k => trivial

theorem Succ.live {k : Kont K V} {p : Park K V} (h : Succ k p) : parkLive p := by
  cases h <;> exact True.intro

theorem Start.live {op : COp K V} {p : Park K V} (h : Start op p) : parkLive p := by
  cases h <;> exact True.intro

theorem resume_park_live (P : Params K) (t : Nat) (s : St K V) (k : Kont K V) (p : Park K V)
    (h : (resume P t s k).2 = .park p) : parkLive p :=
  (resume_succ h).live

theorem startOp_park_live (t : Nat) (s : St K V) (op : COp K V) (p : Park K V)
    (h : (startOp t s op).2 = .park p) : parkLive p :=
  (startOp_start h).live

end Gobptree.Conc
