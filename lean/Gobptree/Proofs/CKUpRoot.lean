/-
  The root block of Insert/Update (`upRootArrive`), with the root split: below the new root
  every node of the old tree but the old root keeps both its intervals.
-/
import Gobptree.Proofs.CKUpSplit
import Gobptree.Proofs.CKUpRO

namespace Gobptree.Conc
open Gobptree

variable {K V : Type} {lt : K → K → Bool}

/-! ### the result of an Insert/Update block, relative to its initial state -/

def KRes (lt : K → K → Bool) (t : Nat) (key : K) (f : Option V → V) (H : List Lk) (s s' : St K V) (fl : Flow K V) :
    Prop :=
  OrdTree lt s'.tree ∧ UpAbs lt t key f s s' fl ∧ (∀ p, fl = .park p → parkKPos lt s'.tree p) ∧
  StableRoutes lt H s.tree s'.tree

theorem KRes.of_acq {t : Nat} {key : K} {f : Option V → V} {H : List Lk} {s s' : St K V} {fl : Flow K V} (l : Lk)
    (h : KRes lt t key f H (s.acq t l) s' fl) : KRes lt t key f H s s' fl := by
  obtain ⟨h1, ⟨a, b, c⟩, h3, h4⟩ := h
  refine ⟨h1, ⟨a, b, ?_⟩, h3, h4⟩
  intro arg ha
  rcases c arg ha with h | h
  · exact Or.inl ((cbIn_acq t t arg l s.evs).1 h)
  · exact Or.inr h

theorem KRes.unchanged {t : Nat} {key : K} {f : Option V → V} {H : List Lk} {s s' : St K V} {fl : Flow K V}
    (hord : OrdTree lt s.tree) (htree : s'.tree = s.tree) (hevs : s'.evs = s.evs)
    (hdone : ∀ r, fl ≠ .done r) (hk : ∀ p, fl ≠ .park p) : KRes lt t key f H s s' fl := by
  refine ⟨by rw [htree]; exact hord, ⟨fun r hr => absurd hr (hdone r), fun p hp => absurd hp (hk p), ?_⟩,
    fun p hp => absurd hp (hk p), by rw [htree]; exact StableRoutes.refl H _⟩
  intro arg ha
  rw [hevs] at ha
  exact Or.inl ha

theorem Stable.refl (H : List Lk) (t : Tree K V) : Stable lt H t t := fun _ _ _ => ⟨fun h => h, fun h => h⟩

theorem KRes.continue (P : Params K) (hK : KParams lt P) (hpad : PadOk P) {t : Nat} {key : K} {f : Option V → V}
    {H : List Lk} {s s1 : St K V} (y : Option Bool) (n : Nat) {hole : Option Nat}
    (hok : TreeOk hole s1.tree) (hord : OrdTree lt s1.tree) (hin : InBounds lt s1.tree key n)
    (habs : s1.tree.abs = s.tree.abs) (hevs : ∀ arg, CbIn t arg s1.evs → CbIn t arg s.evs)
    (hst : Stable lt H s.tree s1.tree) :
    KRes lt t key f H s (upContinue P t s1 key f y n).1 (upContinue P t s1 key f y n).2 :=
  (upContinue_keff P hK hpad t s1 key f y n hok hord hin).compose habs hevs hst

/-- `ls` is the (possibly lowered) first separator -/
theorem rootSplit_facts (h : SWO lt) (tr : Tree K V) (ls : K) (l r : Node K V tr.depth) (s s0 : K)
    (sp : SplitOrd lt tr.depth none none tr.root l r tr.nextId s s0) (hls : lt s0 ls = false) :
    OrdTree lt (splitRoot tr ls s l r) ∧ (splitRoot tr ls s l r).abs = tr.abs ∧
    (∀ cl x, x ≠ tr.rootId → x ≠ tr.nextId → x ≠ tr.nextId + 1 →
      (splitRoot tr ls s l r).gbounds cl x = tr.gbounds cl x) := by
  have hlr : lt ls s = true := h.lt_of_le_of_lt hls sp.s0_s
  refine ⟨?_, ?_, ?_⟩
  · show Ord lt (tr.depth + 1) none none (Inner.mk (tr.nextId + 1) [ls, s] [l, r] : Inner K (Node K V tr.depth))
    refine ⟨fun _ _ => trivial, ?_⟩
    show Kids lt (fun a b c => Ord lt tr.depth a b c) none [(ls, l), (s, r)]
    exact ⟨Ord_mono_lo h (show loLe lt (some ls) (some s0) from hls) sp.ordl, hlr, sp.ordr, trivial, trivial⟩
  · rw [Tree.abs_eq_pairs, Tree.abs_eq_pairs, sp.pairs]
    show [l, r].flatMap (Node.pairs (d := tr.depth)) = _
    simp
  · intro cl x h1 h2 h3
    show gbounds cl x (tr.depth + 1) none none
      (Inner.mk (tr.nextId + 1) [ls, s] [l, r] : Inner K (Node K V tr.depth)) = gbounds cl x tr.depth none none tr.root
    rw [gbounds_succ_ne cl x none none _ (fun e => h3 e.symm), sp.bounds cl x none none h1 h2]
    show (gbounds cl x tr.depth (lowG cl none ls) (some s) l).or (firstE (gbounds cl x tr.depth) none [(s, r)]) = _
    rw [firstE_cons_or, firstE_nil, Option.or_none]
    cases cl with
    | true => rfl
    | false =>
      show (gbounds false x tr.depth (some ls) (some s) l).or (gbounds false x tr.depth (some s) none r) = _
      rw [gbounds_false_lo x (some ls) none (some s) l (fun e => h1 (e.symm.trans sp.idl))]

theorem UpRootSplit.ord {P : Params K} (hK : KParams lt P) {H : List Lk} {hole : Option Nat} {s : St K V} {key : K}
    {l r : Node K V s.tree.depth} {ls rs ls' : K} {T2 : Tree K V} (hpre : Pre P hole s) (hord : OrdTree lt s.tree)
    (sp : UpRootSplit P H hole s key l r ls rs ls' T2) :
    SplitOrd lt s.tree.depth none none s.tree.root l r s.tree.nextId rs ls ∧
    ls' = lowKey lt key [] ls ∧ lt ls ls' = false ∧ lt key ls' = false := by
  have hok := hpre.tree
  obtain ⟨rs', ls0, so⟩ := split_ord hK.swo hok.half_pos sp.out.cut hord (parTree_of_treeOk hok)
  cases so.smr.symm.trans sp.smr
  cases so.sml.symm.trans sp.sml
  refine ⟨so, ?_⟩
  rw [sp.low, hK.lt]
  unfold lowKey
  by_cases c : lt key ls = true
  · rw [if_pos c, if_pos ⟨rfl, c⟩]
    exact ⟨rfl, hK.swo.asymm c, hK.swo.irrefl _⟩
  · rw [if_neg c, if_neg (fun h => c h.2)]
    exact ⟨rfl, hK.swo.irrefl _, by simpa using c⟩

theorem upRootArrive_kres (P : Params K) (hK : KParams lt P) (t : Nat) (s : St K V) (key : K) (f : Option V → V)
    (y : Option Bool) (root : Nat) (H : List Lk) (hole : Option Nat) (hpre : Pre P hole s)
    (hord : OrdTree lt s.tree) (hk : KontOk s.tree (.upRoot key f y root)) (hHt : Lk.tree ∈ H)
    (hHr : Lk.node root ∈ H) :
    KRes lt t key f H s (upRootArrive P t s key f y root).1 (upRootArrive P t s key f y root).2 := by
  obtain ⟨hroot, out⟩ := upRootArrive_report P t s key f y root H hole hpre hk hHt hHr
  have hok := hpre.tree
  have hids := hok.ids.1
  have hpar := parTree_of_treeOk hok
  have hrel : ∀ (s' : St K V) arg, CbIn t arg (s'.rel t Lk.tree).evs → CbIn t arg s'.evs :=
    fun s' arg ha => (cbIn_rel t t arg Lk.tree s'.evs).1 ha
  generalize upRootArrive P t s key f y root = res at out
  cases out with
  | stay _ _ =>
    refine KRes.continue P hK hpre.pad y root (s1 := s.rel t .tree) hok hord ?_ rfl (hrel s) (Stable.refl H _)
    rw [hroot]
    exact root_inBounds _ key
  | @split l r ls rs ls' T2 sp =>
    obtain ⟨so, -, hle, hkey⟩ := sp.ord hK hpre hord
    rw [hK.lt]
    obtain ⟨hO2, habs2, hgb2⟩ := rootSplit_facts hK.swo s.tree ls' l r rs ls so hle
    have hs2 : Sorted lt [ls', rs] :=
      List.pairwise_cons.2 ⟨fun b hb => by cases List.mem_singleton.1 hb; exact hK.swo.lt_of_le_of_lt hle so.s0_s,
        List.pairwise_singleton _ _⟩
    have hok2 := sp.step.tree
    rw [sp.T2eq] at hok2 ⊢
    have hst : Stable lt H s.tree (splitRoot s.tree ls' rs l r) := by
      refine stable_of_widen hK.swo (fun cl x hx => OW.of_eq hK.swo ?_) hids hpar hord hok2.ids.1
        (parTree_of_treeOk hok2) hO2
      rw [not_or, Classical.not_not] at hx
      have hlt := hok.ids.2 x hx.2
      exact hgb2 cl x (fun e => hx.1 (by rw [e, ← hroot]; exact hHr)) (Nat.ne_of_lt hlt)
        (Nat.ne_of_lt (Nat.lt_succ_of_lt hlt))
    by_cases c : (!lt key rs) = true
    · rw [if_pos c]
      have c' : lt key rs = false := by simpa using c
      refine ⟨hO2, ⟨(fun r' hr' => by cases hr'), fun _ _ => habs2, fun arg ha => Or.inl ha⟩, ?_, ?_⟩
      · intro p hp
        cases hp
        show InBounds lt (splitRoot s.tree ls' rs l r) key (Node.id r)
        exact ⟨_, _, routeB_kid_mem key none none
          (Inner.mk (s.tree.nextId + 1) [ls', rs] [l, r] : Inner K (Node K V s.tree.depth)) 1 rs r
          (searchLE_eq_of hK.swo key [ls'] [] rs hs2 c' (fun _ h => nomatch h)) rfl rfl, c'⟩
      · intro key' id _ hH
        exact hst key' id hH
    · rw [if_neg c]
      have c' : lt key rs = true := by simpa using c
      refine KRes.continue P hK hpre.pad y root
        (s1 := (s.setTree (splitRoot s.tree ls' rs l r)).rel t .tree) hok2 hO2 ?_ habs2 (hrel _) hst
      have hidl : root = Node.id l := hroot.trans so.idl.symm
      rw [hidl]
      exact ⟨_, _, routeB_kid_mem key none none
        (Inner.mk (s.tree.nextId + 1) [ls', rs] [l, r] : Inner K (Node K V s.tree.depth)) 0 ls' l
        (searchLE_eq_of hK.swo key [] [rs] ls' hs2 hkey
          (fun y hy => by cases List.mem_singleton.1 hy; exact c')) rfl rfl, hkey⟩

end Gobptree.Conc
