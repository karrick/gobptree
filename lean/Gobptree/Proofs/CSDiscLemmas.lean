/-
  The client-discipline automaton (`CSDisc`) is sound for the code of the small-step model:
  what a continuation's `kontAbs` promises for the end of its operation is what `resume`
  delivers, and an operation the automaton allows is not a client fault.

  Method: the code of a point operation (Search, Insert/Update, Delete) leaves `cursor` and
  `exhausted` alone and can only park with a continuation of a point operation again
  (`resume_cursor_same`, `Succ`); the first is read off the effect of a block, the second off its
  successor parks (ConcFlow.lean).
-/
import Gobptree.Proofs.CSDisc
import Gobptree.Proofs.ConcCursorOps
import Gobptree.Proofs.CSDefs

namespace Gobptree.Conc
open Gobptree

variable {K V : Type}

theorem resume_cursor_same (P : Params K) (t : Nat) (s : St K V) (k : Kont K V) (h : setsCursor k = false) :
    (resume P t s k).1.cursor = s.cursor ∧ (resume P t s k).1.exhausted = s.exhausted := by
  have hb := (resume_block P t s k).1
  rw [h] at hb
  have he : (s.enter t k).cursor = s.cursor ∧ (s.enter t k).exhausted = s.exhausted := by
    unfold St.enter; split <;> exact ⟨rfl, rfl⟩
  exact ⟨hb.cursor.1.trans he.1, hb.cursor.2.trans he.2⟩

theorem Succ.abs {k : Kont K V} {p : Park K V} (h : Succ k p) (st' : CSt) (c c' : Option (Option Nat × Int))
    (e e' : Bool) (ha : kontAbs st' k c e) : parkAbs st' p c' e' := by
  cases h with
  | roTree sc key r => cases sc <;> exact ha
  | roNode sc key hold n c => cases sc <;> exact ha
  | _ => exact ha

theorem Succ.not_hop {k : Kont K V} {p : Park K V} (h : Succ k p) : isHop p = false := by
  cases h <;> rfl

theorem kontAbs_closed {k : Kont K V} (hs : setsCursor k = false) {st' : CSt} {c : Option (Option Nat × Int)}
    {e : Bool} (ha : kontAbs st' k c e) (hpre : KontPre c k) : AbsC st' c e := by
  cases k with
  | roTree sc key =>
    cases sc with
    | true => have : st' = .F := ha; subst this; trivial
    | false => have : st' = .N := ha; subst this; exact hpre
  | roNode sc key hold want =>
    cases sc with
    | true => cases hs
    | false => have : st' = .N := ha; subst this; exact hpre
  | hop cur next => cases hs
  | paused => exact ha
  | _ => have : st' = .N := ha; subst this; exact hpre

theorem resume_abs (P : Params K) (t : Nat) (s : St K V) (k : Kont K V) (st' : CSt)
    (ha : kontAbs st' k s.cursor s.exhausted) (hpre : KontPre s.cursor k) :
    flowAbs st' (resume P t s k).2 (resume P t s k).1.cursor (resume P t s k).1.exhausted := by
  cases hfl : (resume P t s k).2 with
  | panic => trivial
  | park p => exact (resume_succ hfl).abs st' _ _ _ _ ha
  | done r =>
    show AbsC st' _ _
    cases hs : setsCursor k with
    | false =>
      obtain ⟨h1, h2⟩ := resume_cursor_same P t s k hs
      rw [h1, h2]
      exact kontAbs_closed hs ha hpre
    | true =>
      cases k with
      | roNode sc key hold want =>
        have hsc : sc = true := hs
        subst hsc
        have : st' = .F := ha
        subst this; trivial
      | hop cur next =>
        have : st' = .S := ha
        subst this
        intro leaf i hci _
        simp only [resume, Option.some.injEq, Prod.mk.injEq] at hci
        omega
      | _ => cases hs

theorem discStep_first {op : COp K V} {k : Kont K V} (hk : firstKont op = some k) {st st' : CSt}
    (hd : discStep st op = some st') :
    st = .N ∧ (∀ c e, kontAbs st' k c e) ∧ ∀ s : St K V, opFault s op = misuse s := by
  cases op <;> cases hk <;> cases st <;> cases hd <;> exact ⟨rfl, fun _ _ => rfl, fun _ => rfl⟩

theorem startOp_abs (t : Nat) (s : St K V) (op : COp K V) (st st' : CSt)
    (ha : AbsC st s.cursor s.exhausted) (hd : discStep st op = some st')
    (hci : ∀ leaf i, s.cursor = some (some leaf, i) → -1 ≤ i) :
    opFault s op = false ∧
    flowAbs st' (startOp t s op).2 (startOp t s op).1.cursor (startOp t s op).1.exhausted := by
  refine startOp_cases t s op (Q := fun r => opFault s op = false ∧ flowAbs st' r.2 r.1.cursor r.1.exhausted)
    ?_ ?_ ?_ ?_
  · -- a point operation is allowed in state `N` only, where no cursor is open
    intro k hk hm
    obtain ⟨rfl, _, _⟩ := discStep_first hk hd
    rw [(misuse_false_iff s).2 ha] at hm
    cases hm
  · intro k hk hc
    obtain ⟨_, hk', hf⟩ := discStep_first hk hd
    exact ⟨(hf s).trans ((misuse_false_iff s).2 hc), hk' _ _⟩
  · rintro (rfl | rfl | rfl) r hout
    · refine ⟨rfl, ?_⟩
      have hS : flowAbs .S r.2 r.1.cursor r.1.exhausted := by
        cases hout with
        | skip _ h => exact fun l i hc he => (h l i hc he).elim
        | panicNoLeaf => trivial
        | scanEnd => exact fun l' i' h _ => nomatch h
        | scanHop => exact rfl
        | scanNext hc =>
          intro l' i' h _
          cases h
          have := hci _ _ hc
          omega
      cases st with
      | N =>
        cases hd
        have hc : cursorLocks s.cursor = [] := ha
        rw [hout.of_closed (.inl rfl) hc]
        exact hc
      | F => cases hd; exact hS
      | S => cases hd; exact hS
    · cases st with
      | N =>
        cases hd
        have hc : cursorLocks s.cursor = [] := ha
        have hno : ∀ leaf i, s.cursor ≠ some (some leaf, i) := fun leaf i hcur => by rw [hcur] at hc; cases hc
        refine ⟨?_, ?_⟩
        · simp only [opFault]
          split
          · rename_i leaf i hcur hex; exact absurd hcur (hno _ _)
          · rfl
        · rw [hout.of_closed (.inr rfl) hc]
          exact hc
      | F => cases hd
      | S =>
        cases hd
        have hS : ∀ leaf i, s.cursor = some (some leaf, i) → s.exhausted = false → 0 ≤ i := ha
        refine ⟨?_, ?_⟩
        · simp only [opFault]
          split
          · rename_i leaf i hcur hex
            have := hS leaf i hcur hex
            simp only [decide_eq_false_iff_not]
            omega
          · rfl
        · cases hout with
          | skip => exact hS
          | pair => exact hS
          | _ => trivial
    · have hN : flowAbs .N r.2 r.1.cursor r.1.exhausted := by
        cases hout with
        | closeNone hc => show cursorLocks s.cursor = []; rw [hc]; rfl
        | close => exact rfl
        | skip hop => exact nomatch hop
        | panicNoLeaf hop => exact nomatch hop
      cases st <;> cases hd <;> exact ⟨rfl, hN⟩
  · rintro rfl
    cases st <;> cases hd <;> exact ⟨rfl, ha⟩

theorem startOp_tree (t : Nat) (s : St K V) (op : COp K V) : (startOp t s op).1.tree = s.tree :=
  startOp_cases t s op (Q := fun r => r.1.tree = s.tree) (fun _ _ _ => rfl) (fun _ _ _ => rfl) (fun _ _ h => h.tree) (fun _ => rfl)

theorem threadLoop_tree (t : Nat) (th : Thread K V) :
    ∀ (fuel : Nat) (s : St K V) (fl : Flow K V) (pc : Nat), (threadLoop t th fuel s fl pc).2.1.tree = s.tree := by
  intro fuel s fl pc
  exact threadLoop_induct t th (fun s' _ _ => s'.tree = s.tree) (fun r => r.2.1.tree = s.tree)
    (fun _ _ _ h => h) (fun _ _ h => h) (fun _ _ _ h => h)
    (fun _ _ _ op h _ => (startOp_tree t _ op).trans h) fuel s fl pc rfl

end Gobptree.Conc
