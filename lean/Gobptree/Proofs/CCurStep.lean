/-
  C04, block level: what each cursor call does to the part of the map that lies ahead of the
  cursor.  `NewScanner` lands so that exactly `Spec.from … start` lies ahead; a `Scan` that
  returns `true` consumes the first pair ahead; a `Scan` that returns `false` had nothing
  ahead; `Pair` returns an entry of the map.  Each happens inside ONE stretch of the thread.
-/
import Gobptree.Proofs.CCurStatic
import Gobptree.Proofs.CKUpRO
import Gobptree.Proofs.ConcBlocks
import Gobptree.Proofs.CKStep

namespace Gobptree.Conc
open Gobptree

variable {K V : Type} {lt : K → K → Bool}

theorem Tree.ahead_eq {hole : Option Nat} {t : Tree K V} (hok : TreeOk hole t) {leaf : Nat} {sh : Shallow K V}
    (hl : t.look leaf = some sh) (h0 : sh.height = 0) (i : Int) :
    t.ahead leaf i = (shPairs sh).drop (i + 1).toNat ++
      (match sh.next with | none => [] | some nx => t.ahead nx (-1)) := by
  obtain ⟨A, B, hAB⟩ := List.append_of_mem (leaf_mem_flatLeaves hl h0)
  have hn := flatLeaves_nodup hok.ids
  have hc : Chain (flatLeaves t.flat) := hok.chain
  unfold Tree.ahead
  rw [hAB] at hn hc ⊢
  have hnx : sh.next = B.head?.map Prod.fst := Chain.next_eq A (leaf, sh) B hc
  rw [aheadIn_nodup leaf i sh A B hn, hnx]
  cases B with
  | nil => rfl
  | cons q B' =>
    have e : A ++ (leaf, sh) :: q :: B' = (A ++ [(leaf, sh)]) ++ (q.1, q.2) :: B' := by simp
    show _ = _ ++ aheadIn q.1 (-1) _
    rw [e] at hn ⊢
    rw [aheadIn_nodup q.1 (-1) q.2 _ B' hn]
    rfl

theorem drop_past {sh : Shallow K V} (hlen : sh.keys.length = sh.vals.length) {i : Int}
    (hi : (sh.keys.length : Int) ≤ i + 1) : (shPairs sh).drop (i + 1).toNat = [] := by
  apply List.drop_eq_nil_of_le
  rw [shPairs_length hlen]; exact (Int.le_toNat (Int.le_trans (Int.ofNat_zero_le _) hi)).2 hi

theorem ahead_step {hole : Option Nat} {t : Tree K V} (hok : TreeOk hole t) {leaf : Nat} {sh : Shallow K V}
    (hl : t.look leaf = some sh) (h0 : sh.height = 0) {i : Int} (hi : -1 ≤ i) (hlt : i + 1 < (sh.keys.length : Int)) :
    ∃ k v, sh.keys[(i + 1).toNat]? = some k ∧ sh.vals[(i + 1).toNat]? = some v ∧
      t.ahead leaf i = (k, v) :: t.ahead leaf (i + 1) := by
  have hlen := leaf_lens hok hl h0
  obtain ⟨n, hn⟩ := Int.eq_ofNat_of_zero_le (show (0 : Int) ≤ i + 1 from Int.add_le_add_right hi 1)
  rw [hn] at hlt ⊢
  have hjk : n < sh.keys.length := Int.ofNat_lt.1 hlt
  have hjv : n < sh.vals.length := hlen ▸ hjk
  have hj : n < (shPairs sh).length := by rw [shPairs_length hlen]; exact hjk
  have e : ((n : Int) + 1).toNat = n + 1 := rfl
  show ∃ k v, sh.keys[n]? = some k ∧ sh.vals[n]? = some v ∧ _
  refine ⟨_, _, List.getElem?_eq_getElem hjk, List.getElem?_eq_getElem hjv, ?_⟩
  rw [Tree.ahead_eq hok hl h0 i, Tree.ahead_eq hok hl h0 n, hn, e, show (n : Int).toNat = n from rfl,
    List.drop_eq_getElem_cons hj]
  exact congrArg (· :: _) List.getElem_zip

theorem ahead_past_end {hole : Option Nat} {t : Tree K V} (hok : TreeOk hole t) {leaf : Nat} {sh : Shallow K V}
    (hl : t.look leaf = some sh) (h0 : sh.height = 0) {i : Int} (hi : (sh.keys.length : Int) ≤ i + 1) :
    t.ahead leaf i = match sh.next with | none => [] | some nx => t.ahead nx (-1) := by
  rw [Tree.ahead_eq hok hl h0 i, drop_past (leaf_lens hok hl h0) hi]
  rfl

theorem succ_nonempty {hole : Option Nat} {t : Tree K V} (hok : TreeOk hole t) {leaf nx : Nat} {sh shn : Shallow K V}
    (hl : t.look leaf = some sh) (h0 : sh.height = 0) (hnx : sh.next = some nx) (hln : t.look nx = some shn) :
    0 < shn.keys.length := by
  apply leaf_nonempty hok hln
  intro hroot
  subst hroot
  -- a root that is a leaf is the only leaf, and its `next` is `none`
  obtain ⟨shn', hln', hn0⟩ := next_is_leaf hok.ids hok.chain hl h0 hnx
  rw [hln] at hln'; cases hln'
  have hfl := root_leaf_flat hok.ids hln hn0
  have hm := leaf_mem_flatLeaves hl h0
  have hc : Chain (flatLeaves t.flat) := hok.chain
  rw [hfl] at hm hc
  cases List.mem_singleton.1 hm
  exact absurd (hnx.symm.trans hc) (by simp)

theorem pair_mem_abs {hole : Option Nat} {t : Tree K V} (hok : TreeOk hole t) {leaf : Nat} {sh : Shallow K V}
    (hl : t.look leaf = some sh) (h0 : sh.height = 0) {j : Nat} {k : K} {v : V}
    (hk : sh.keys[j]? = some k) (hv : sh.vals[j]? = some v) : (k, v) ∈ t.abs := by
  obtain ⟨PA, PB, habs, _⟩ := Tree.ahead_split hok.ids hl h0
  rw [habs]
  exact List.mem_append_left _ (List.mem_append_right _ (List.mem_of_getElem? (shPairs_getElem?.2 ⟨hk, hv⟩)))

theorem curPos_gt (h : SWO lt) {hole : Option Nat} {t : Tree K V} (hok : TreeOk hole t) (hord : OrdTree lt t)
    {leaf : Nat} {sh : Shallow K V} (hl : t.look leaf = some sh) (h0 : sh.height = 0)
    {j : Nat} {c : K} (hj : sh.keys[j]? = some c) : CurPos lt t (.gt c) leaf j := by
  have hs := leaf_sorted h hok hord hl h0
  refine ⟨sh, hl, h0, ?_, j, rfl, hj⟩
  intro j' k hk
  obtain ⟨hjl, ej⟩ := List.getElem?_eq_some_iff.1 hj
  obtain ⟨hjl', ej'⟩ := List.getElem?_eq_some_iff.1 hk
  show lt c k = true ↔ (j : Int) < (j' : Int)
  subst ej; subst ej'
  constructor
  · intro hlt
    rcases Nat.lt_trichotomy j j' with hc | he | hc
    · exact Int.ofNat_lt.2 hc
    · subst he; rw [h.irrefl] at hlt; cases hlt
    · rw [h.asymm (hs.getElem_lt hc hjl)] at hlt; cases hlt
  · intro hlt
    exact hs.getElem_lt (Int.ofNat_lt.1 hlt) hjl'

theorem CurPosW.park_at_end {t : Tree K V} {b : Bound K} {leaf : Nat} {i : Int} (hp : CurPosW lt t b leaf i)
    (hc : CursorOk t true (some (some leaf, i + 1))) : CurPosW lt t b leaf (i + 1) := by
  obtain ⟨sh, hl, h0, hidx, hb⟩ := hp
  obtain ⟨sh', hl', _, _, hlen⟩ := hc
  rw [hl] at hl'; cases hl'
  have hlen : i + 1 = (sh.keys.length : Int) := hlen
  refine ⟨sh, hl, h0, ?_, hb⟩
  intro j k hk
  obtain ⟨hjl, _⟩ := List.getElem?_eq_some_iff.1 hk
  rw [hidx j k hk]
  have hj1 : (j : Int) < i + 1 := hlen ▸ Int.ofNat_lt.2 hjl
  exact ⟨fun h' => absurd hj1 (Int.not_lt.2 (Int.add_one_le_of_lt h')), fun h' => absurd h' (Int.lt_asymm hj1)⟩

theorem pred_lt_cast {n j : Nat} : ((n : Int) - 1 < (j : Int)) ↔ n ≤ j := by omega

theorem startIndex_spec (h : SWO lt) (P : Params K) (hP : P.lt = lt) (key : K) (l : Leaf K V) (hs : Sorted lt l.keys) :
    ∀ (j : Nat) (k : K), l.keys[j]? = some k → ((!lt k key) = true ↔ ((startIndex P {} key l : Nat) : Int) - 1 < (j : Int)) := by
  intro j k hk
  rw [pred_lt_cast, ← Gobptree.startIndex_spec h P hP key l hs j k hk]
  cases lt k key <;> decide

theorem roArrive_scanner_cases (P : Params K) (t : Nat) (s : St K V) (key : K) (hold : Lk) (n : Nat) :
    roArrive P t s true key hold n = (s.rel t hold, .panic) ∨
    (∃ c, roArrive P t s true key hold n =
      (s.rel t hold, .park (.want (.node c) (.roNode true key (.node n) c)))) ∨
    (∃ l : Leaf K V, s.tree.find n = some ⟨0, l⟩ ∧
      roArrive P t s true key hold n =
        ({ (s.rel t hold) with cursor := some (some n, (startIndex P {} key l : Int) - 1), exhausted := false },
          .done .ok)) := by
  cases hfind : s.tree.find n with
  | none => exact .inl (roArrive_none hfind)
  | some a =>
    rcases descend_cases a with ⟨l, rfl, _⟩ | ⟨d, p, rfl, _, _, _⟩
    · exact .inr (.inr ⟨l, rfl, roArrive_scanner hfind⟩)
    · rw [roArrive_kid hfind]
      cases (p.kids[searchLE P.lt key p.runts]?).map Node.id with
      | none => exact .inl rfl
      | some c => exact .inr (.inl ⟨c, rfl⟩)

theorem resume_newScanner (P : Params K) (hK : KParams lt P) (t : Nat) (s : St K V) (key : K) (hold : Lk) (want : Nat)
    {hole : Option Nat} (hok : TreeOk hole s.tree) (hord : OrdTree lt s.tree)
    (hk : KontOk s.tree (.roNode true key hold want)) (hpos : KPos lt s.tree (.roNode true key hold want))
    {sh : Shallow K V} (hl : s.tree.look want = some sh) (h0 : sh.height = 0) :
    ∃ l : Leaf K V, s.tree.find want = some ⟨0, l⟩ ∧
      (resume P t s (.roNode true key hold want)).2 = .done .ok ∧
      (resume P t s (.roNode true key hold want)).1.tree = s.tree ∧
      (resume P t s (.roNode true key hold want)).1.cursor = some (some want, (startIndex P {} key l : Int) - 1) ∧
      CurPos lt s.tree (.ge key) want ((startIndex P {} key l : Int) - 1) ∧
      s.tree.ahead want ((startIndex P {} key l : Int) - 1) = Spec.from lt s.tree.abs key := by
  obtain ⟨l, hf, hsh, _⟩ := leaf_of_look hl h0
  have hon := roNode_onRoute hok true key hold want hk hpos
  have hs : Sorted lt l.keys := by
    have := leaf_sorted hK.swo hok hord hl h0
    rw [hsh] at this; exact this
  have hcp : CurPos lt s.tree (.ge key) want ((startIndex P {} key l : Int) - 1) := by
    refine ⟨sh, hl, h0, ?_, hon⟩
    intro j k hjk
    rw [hsh] at hjk
    exact startIndex_spec hK.swo P hK.lt key l hs j k hjk
  have hres : resume P t s (.roNode true key hold want) =
      ({ ((s.acq t (.node want)).rel t hold) with
          cursor := some (some want, (startIndex P {} key l : Int) - 1), exhausted := false }, .done .ok) :=
    roArrive_scanner (s := s.acq t (.node want)) hf
  rw [hres]
  exact ⟨l, hf, rfl, rfl, rfl, hcp, hcp.weaken.aheadSpec hK.swo hok hord⟩

theorem find_bind_leaf {t : Tree K V} {leaf : Nat} {sh : Shallow K V} (hl : t.look leaf = some sh) (h0 : sh.height = 0) :
    ∃ l : Leaf K V, (t.find leaf).bind leafOf? = some l ∧ l.keys = sh.keys ∧ l.vals = sh.vals ∧ l.next = sh.next := by
  obtain ⟨l, hf, hsh, _⟩ := leaf_of_look hl h0
  subst hsh
  exact ⟨l, by rw [hf]; rfl, rfl, rfl, rfl⟩

theorem startOp_scan_eq (t : Nat) (s : St K V) {leaf : Nat} {i : Int} {sh : Shallow K V}
    (hc : s.cursor = some (some leaf, i)) (he : s.exhausted = false)
    (hl : s.tree.look leaf = some sh) (h0 : sh.height = 0) :
    startOp t s .scan =
      if i + 1 = (sh.keys.length : Int) then
        match sh.next with
        | none => ({ (s.rel t (.node leaf)) with cursor := some (none, i + 1), exhausted := true }, .done (.bool false))
        | some n => ({ s with cursor := some (some leaf, i + 1) }, .park (.want (.node n) (.hop leaf n)))
      else ({ s with cursor := some (some leaf, i + 1) }, .done (.bool true)) := by
  obtain ⟨l, hf, hk, _, hn⟩ := find_bind_leaf hl h0
  obtain ⟨tree, owner, held, cursor, exhausted, evs⟩ := s
  simp only at hc he hf
  subst hc; subst he
  cases hnx : sh.next with
  | none =>
    rw [hnx] at hn
    simp only [startOp, hf, hk, hn]
  | some n =>
    rw [hnx] at hn
    simp only [startOp, hf, hk, hn]

theorem startOp_pair_eq (t : Nat) (s : St K V) {leaf : Nat} {i : Int} {sh : Shallow K V}
    (hc : s.cursor = some (some leaf, i)) (he : s.exhausted = false)
    (hl : s.tree.look leaf = some sh) (h0 : sh.height = 0) (hi : 0 ≤ i) {k : K} {v : V}
    (hk : sh.keys[i.toNat]? = some k) (hv : sh.vals[i.toNat]? = some v) :
    startOp t s .pair = (s, .done (.pair k v)) := by
  obtain ⟨l, hf, hlk, hlv, _⟩ := find_bind_leaf hl h0
  obtain ⟨tree, owner, held, cursor, exhausted, evs⟩ := s
  simp only at hc he hf
  subst hc; subst he
  simp only [startOp, hf, hlk, hlv, hk, hv, if_neg (Int.not_lt.2 hi)]

theorem startOp_closed (t : Nat) (s : St K V) {op : COp K V} (hop : op = .scan ∨ op = .pair)
    (h : ¬ ∃ leaf i, s.cursor = some (some leaf, i) ∧ s.exhausted = false) : startOp t s op = (s, .done .skip) := by
  rcases hop with rfl | rfl <;>
  · simp only [startOp]
    split
    · rename_i leaf i hc he
      exact absurd ⟨leaf, i, hc, he⟩ h
    · rfl

theorem scan_inleaf (t : Nat) (s : St K V) {hole : Option Nat} (hok : TreeOk hole s.tree)
    {leaf : Nat} {i : Int} {sh : Shallow K V}
    (hc : s.cursor = some (some leaf, i)) (he : s.exhausted = false)
    (hl : s.tree.look leaf = some sh) (h0 : sh.height = 0) (hi : -1 ≤ i) (hlt : i + 1 < (sh.keys.length : Int)) :
    startOp t s .scan = ({ s with cursor := some (some leaf, i + 1) }, .done (.bool true)) ∧
    ∃ k v, sh.keys[(i + 1).toNat]? = some k ∧ sh.vals[(i + 1).toNat]? = some v ∧
      s.tree.ahead leaf i = (k, v) :: s.tree.ahead leaf (i + 1) := by
  refine ⟨?_, ahead_step hok hl h0 hi hlt⟩
  rw [startOp_scan_eq t s hc he hl h0, if_neg (Int.ne_of_lt hlt)]

theorem scan_park (t : Nat) (s : St K V) {hole : Option Nat} (hok : TreeOk hole s.tree)
    {leaf n : Nat} {i : Int} {sh : Shallow K V}
    (hc : s.cursor = some (some leaf, i)) (he : s.exhausted = false)
    (hl : s.tree.look leaf = some sh) (h0 : sh.height = 0) (hend : i + 1 = (sh.keys.length : Int))
    (hnx : sh.next = some n) :
    startOp t s .scan = ({ s with cursor := some (some leaf, i + 1) }, .park (.want (.node n) (.hop leaf n))) ∧
    s.tree.ahead leaf (i + 1) = s.tree.ahead leaf i := by
  constructor
  · rw [startOp_scan_eq t s hc he hl h0, if_pos hend, hnx]
  · rw [ahead_past_end hok hl h0 (i := i + 1) (hend ▸ Int.le_add_of_nonneg_right (by decide)),
      ahead_past_end hok hl h0 (i := i) (Int.le_of_eq hend.symm)]

theorem scan_exhaust (t : Nat) (s : St K V) {hole : Option Nat} (hok : TreeOk hole s.tree)
    {leaf : Nat} {i : Int} {sh : Shallow K V}
    (hc : s.cursor = some (some leaf, i)) (he : s.exhausted = false)
    (hl : s.tree.look leaf = some sh) (h0 : sh.height = 0) (hend : i + 1 = (sh.keys.length : Int))
    (hnx : sh.next = none) :
    startOp t s .scan =
      ({ (s.rel t (.node leaf)) with cursor := some (none, i + 1), exhausted := true }, .done (.bool false)) ∧
    s.tree.ahead leaf i = [] := by
  constructor
  · rw [startOp_scan_eq t s hc he hl h0, if_pos hend, hnx]
  · rw [ahead_past_end hok hl h0 (Int.le_of_eq hend.symm), hnx]

theorem pair_spec (t : Nat) (s : St K V) {hole : Option Nat} (hok : TreeOk hole s.tree)
    {leaf : Nat} {i : Int} {sh : Shallow K V}
    (hc : s.cursor = some (some leaf, i)) (he : s.exhausted = false)
    (hl : s.tree.look leaf = some sh) (h0 : sh.height = 0) (hi : 0 ≤ i) (hlt : i < (sh.keys.length : Int)) :
    ∃ k v, startOp t s .pair = (s, .done (.pair k v)) ∧
      sh.keys[i.toNat]? = some k ∧ sh.vals[i.toNat]? = some v ∧ (k, v) ∈ s.tree.abs := by
  have hlen := leaf_lens hok hl h0
  have hjk : i.toNat < sh.keys.length := (Int.toNat_lt hi).2 hlt
  have hjv : i.toNat < sh.vals.length := hlen ▸ hjk
  refine ⟨sh.keys[i.toNat], sh.vals[i.toNat], ?_, List.getElem?_eq_getElem hjk, List.getElem?_eq_getElem hjv,
    pair_mem_abs hok hl h0 (List.getElem?_eq_getElem hjk) (List.getElem?_eq_getElem hjv)⟩
  exact startOp_pair_eq t s hc he hl h0 hi (List.getElem?_eq_getElem hjk) (List.getElem?_eq_getElem hjv)

theorem resume_hop (h : SWO lt) (P : Params K) (t : Nat) (s : St K V) (cur next : Nat) {hole : Option Nat}
    (hok : TreeOk hole s.tree) (hord : OrdTree lt s.tree) (hk : KontOk s.tree (.hop cur next)) :
    (resume P t s (.hop cur next)).2 = .done (.bool true) ∧
    (resume P t s (.hop cur next)).1.tree = s.tree ∧
    (resume P t s (.hop cur next)).1.cursor = some (some next, 0) ∧
    ∃ shn k v, s.tree.look next = some shn ∧ shn.height = 0 ∧ shn.keys[0]? = some k ∧ shn.vals[0]? = some v ∧
      CurPos lt s.tree (.gt k) next 0 ∧
      ∀ i : Int, CursorOk s.tree true (some (some cur, i)) →
        s.tree.ahead cur i = (k, v) :: s.tree.ahead next 0 := by
  refine ⟨rfl, rfl, rfl, ?_⟩
  obtain ⟨sh, hl, h0, hnx⟩ : ∃ sh, s.tree.look cur = some sh ∧ sh.height = 0 ∧ sh.next = some next := hk
  obtain ⟨shn, hln, hn0⟩ := next_is_leaf hok.ids hok.chain hl h0 hnx
  have hne := succ_nonempty hok hl h0 hnx hln
  obtain ⟨k, v, hk0, hv0, hah⟩ := ahead_step hok hln hn0 (i := -1) (Int.le_refl _) (Int.ofNat_lt.2 hne)
  refine ⟨shn, k, v, hln, hn0, hk0, hv0, curPos_gt h hok hord hln hn0 (j := 0) hk0, ?_⟩
  intro i hi
  obtain ⟨sh', hl', _, _, hlen⟩ := hi
  rw [hl] at hl'; cases hl'
  rw [ahead_past_end hok hl h0 (hlen ▸ Int.le_add_of_nonneg_right (by decide)), hnx]
  exact hah

/-- **carrying a cursor position across another thread's step, with the SAME bound**: the
    cursor's leaf is held by its thread, so its own fields are unchanged; its place on the route
    of the bound's key is preserved by the stepping thread's stretch -/
theorem KeptK.curPosW {T T' : Tree K V} {b : Thread K V} (F : KeptK lt T T' b) (hok : ThreadOk b)
    {leaf : Nat} {i : Int} (hcur : b.cursor = some (some leaf, i)) {bd : Bound K}
    (hp : CurPosW lt T bd leaf i) : CurPosW lt T' bd leaf i := by
  have hown : Owns T b leaf := owns_cursor hok (by rw [hcur]; exact List.mem_singleton.2 rfl)
  obtain ⟨sh, hl, h0, hidx, hb⟩ := hp
  refine ⟨sh, by rw [F.look leaf hown]; exact hl, h0, hidx, ?_⟩
  cases bd with
  | ge s => exact (F.route s leaf hown).1 hb
  | gt cc => exact hb

/-- the cursor of the resumed state lies inside its leaf.  For every continuation but Delete's this is
    part of what the block re-establishes; Delete runs with no cursor open and assigns none. -/
theorem resume_cursorOk (P : Params K) (t : Nat) (s : St K V) (k : Kont K V) (H : List Lk) {hole : Option Nat}
    (hpre : Pre P hole s) (hk : KontOk s.tree k) (hc : CursorOk s.tree (isHopK k) s.cursor)
    (hkp : KontPre s.cursor k) (hcov : Covers H s.cursor k) :
    CursorOk (resume P t s k).1.tree false (resume P t s k).1.cursor := by
  cases hd : isDelK k with
  | false => exact (resume_post_U P t s k H hole hd hpre hk hc hkp hcov).1.cursor
  | true =>
    have hset : setsCursor k = false := by
      cases k with
      | roNode _ _ _ _ | hop _ _ => cases hd
      | _ => rfl
    rw [(resume_cursor_same P t s k hset).1]
    exact cursorOk_of_noLocks _ _ _ (closed_of_kontPre hd hkp)

/-- the first stretch of a step that resumes `k` ends on the tree of the configuration the step leads
    to, with the cursor inside its leaf: no invariant beyond the structural one is needed for that -/
theorem CStep.resumed_cursorOk {c c' : Config K V} {t : Nat} {th : Thread K V} {r : Thread K V × St K V × Bool}
    (F : CStep c c' t th r) {k : Kont K V} (hp : th.park.kont? = some k) :
    (resume c.P t (stepSt c t th) k).1.tree = c'.tree ∧
      CursorOk c'.tree false (resume c.P t (stepSt c t th) k).1.cursor := by
  obtain ⟨hpre, R⟩ := F.ready hp
  rw [F.tree_resume hp]
  exact ⟨rfl, resume_cursorOk c.P t (stepSt c t th) k (stepHeld th) hpre R.kok R.cur R.pre R.cov⟩

end Gobptree.Conc
