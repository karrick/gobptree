/-
  Leaf-level correctness: on a sorted leaf, `Leaf.search`, `Leaf.upsert` and
  `Leaf.deleteKey` are the specification's operations on the leaf's pairs.

  Everything goes through `locate`: the leaf is `kA ++ k :: kB` / `vA ++ v :: vB`
  with the pivot `k` at the index found by `searchGE`, `kA` below the key and
  `kB` above it.  The operations act at the pivot (Slice.lean), and so do the
  specification's (`lookup_pivot`, `insert_pivot`, `erase_pivot`).
-/
import Gobptree.Proofs.Search
import Gobptree.Proofs.Slice
import Gobptree.Proofs.LeafOps
import Gobptree.Proofs.SpecSorted
import Gobptree.Proofs.SpecLemmas

namespace Gobptree

variable {K V : Type} {lt : K → K → Bool}

theorem sorted_append_singleton {l : List K} {key : K} (hs : Sorted lt l)
    (hall : ∀ k ∈ l, lt k key = true) : Sorted lt (l ++ [key]) :=
  List.pairwise_append.mpr
    ⟨hs, List.pairwise_singleton _ _, fun a ha _ hb => List.mem_singleton.mp hb ▸ hall a ha⟩

theorem allLt_zip {ks : List K} (vs : List V) {key : K} (hk : ∀ a ∈ ks, lt a key = true) :
    AllLt lt (ks.zip vs) key :=
  fun p hp => hk p.1 (List.of_mem_zip hp).1

/-- The pivot itself is below the key only in the clamped case, when it is the last entry. -/
theorem locate (h : SWO lt) (key : K) (keys : List K) (vals : List V)
    (hs : Sorted lt keys) (hlen : keys.length = vals.length) (hne : keys ≠ []) :
    ∃ kA k kB vA v vB, keys = kA ++ k :: kB ∧ vals = vA ++ v :: vB ∧
      kA.length = searchGE lt key keys ∧ vA.length = searchGE lt key keys ∧
      AllLt lt (kA.zip vA) key ∧ AllGt lt (kB.zip vB) key ∧
      (lt k key = true → kB = []) := by
  have hg := searchGE_lt_length (lt := lt) key keys hne
  obtain ⟨kA, k, kB, rfl, hkA⟩ := split_at keys _ hg
  obtain ⟨vA, v, vB, rfl, hvA⟩ := split_at vals (searchGE lt key (kA ++ k :: kB)) (hlen ▸ hg)
  have hend : lt k key = true → kB = [] := by
    intro hk
    cases kB with
    | nil => rfl
    | cons b kB =>
      have hat := searchGE_at h key _ hs (by rw [← hkA]; simp)
      obtain ⟨_, e⟩ := List.getElem?_eq_some_iff.mp (getElem?_pivot (b := b :: kB) hkA k)
      rw [e, hk] at hat
      exact absurd hat (by decide)
  refine ⟨kA, k, kB, vA, v, vB, rfl, rfl, hkA, hvA, allLt_zip vA fun a ha => ?_, fun p hp => ?_, hend⟩
  · obtain ⟨i, hi, rfl⟩ := List.getElem_of_mem ha
    have := searchGE_before h key _ hs i (by omega) (by simp; omega)
    rwa [List.getElem_append_left hi] at this
  · have hkb : lt k p.1 = true := (List.pairwise_cons.mp (List.pairwise_append.mp hs).2.1).1 _ (List.of_mem_zip hp).1
    cases hk : lt k key with
    | true => rw [hend hk] at hp; cases hp
    | false => exact h.lt_of_le_of_lt hk hkb

section pivot
variable {A B : List (K × V)} {key k : K} {v : V}

theorem lookup_pivot (hA : AllLt lt A key) (hB : AllGt lt B key) :
    Spec.lookup lt (A ++ (k, v) :: B) key = if eqv lt key k then some v else none := by
  rw [Spec.lookup_append_left _ _ _ hA]
  cases he : eqv lt key k with
  | true => simp [Spec.lookup, he]
  | false =>
    have hB' : B.find? (fun p => eqv lt key p.1) = none :=
      List.find?_eq_none.mpr fun p hp => by simp [eqv, hB p hp]
    simp [Spec.lookup, he, hB']

theorem insert_pivot (h : SWO lt) (hA : AllLt lt A key) (w : V) :
    Spec.insert lt (A ++ (k, v) :: B) key w =
      A ++ (if lt key k then (key, w) :: (k, v) :: B
            else if lt k key then (k, v) :: Spec.insert lt B key w else (k, w) :: B) := by
  rw [Spec.insert_append_left h _ _ _ _ hA]; rfl

theorem erase_pivot (hA : AllLt lt A key) (hB : AllGt lt B key) :
    Spec.erase lt (A ++ (k, v) :: B) key = if eqv lt key k then A ++ B else A ++ (k, v) :: B := by
  rw [Spec.erase_append, Spec.erase_of_allLt A key hA]
  show A ++ List.filter _ ((k, v) :: B) = _
  rw [List.filter_cons, show List.filter _ B = B from Spec.erase_of_allGt B key hB]
  cases eqv lt key k <;> rfl

end pivot

theorem Leaf.search_ok (h : SWO lt) (P : Params K) (hP : P.lt = lt) (l : Leaf K V) (key : K)
    (hs : Sorted lt l.keys) (hlen : l.keys.length = l.vals.length) :
    Leaf.search P l key = .ok (Spec.lookup lt (l.keys.zip l.vals) key) := by
  subst hP
  rw [Leaf.search_eq P l key hlen]
  obtain ⟨id, keys, vals, next⟩ := l
  by_cases hne : keys = []
  · subst hne; rfl
  obtain ⟨kA, k, kB, vA, v, vB, rfl, rfl, hkA, hvA, hA, hB, -⟩ := locate h key keys vals hs hlen hne
  dsimp only
  rw [getElem?_pivot hkA, getElem?_pivot hvA, List.zip_append (hkA.trans hvA.symm),
    List.zip_cons_cons, lookup_pivot hA hB]

theorem Sorted.below_last (h : SWO lt) {keys : List K} {key : K} (hs : Sorted lt keys)
    (hb : ∀ last, keys.getLast? = some last → lt last key = true) : ∀ a ∈ keys, lt a key = true := by
  intro a ha
  have hne : keys ≠ [] := List.ne_nil_of_mem ha
  have hl := hb _ (List.getLast?_eq_some_getLast hne)
  rw [← List.dropLast_concat_getLast hne] at ha hs
  rcases List.mem_append.1 ha with ha | ha
  · exact h.trans _ _ _ ((List.pairwise_append.1 hs).2.2 a ha _ (List.mem_singleton_self _)) hl
  · rw [List.mem_singleton.1 ha]; exact hl

theorem Leaf.upsert_meaning (h : SWO lt) {P : Params K} (hP : P.lt = lt) {l l' : Leaf K V} {key : K}
    {f : Option V → V} {arg : Option V} (hs : Sorted lt l.keys) (hlen : l.keys.length = l.vals.length)
    (hu : Leaf.upsert P l key f = .ok (l', arg)) :
    arg = Spec.lookup lt (l.keys.zip l.vals) key ∧
      l'.keys.zip l'.vals = Spec.insert lt (l.keys.zip l.vals) key (f arg) := by
  subst hP
  obtain ⟨id, keys, vals, next⟩ := l
  obtain ⟨ks, vs, rfl, ⟨hb, rfl, rfl, rfl⟩ | ⟨hnb, k, hk, hc⟩⟩ := Leaf.upsert_inv hu
  · have hA := allLt_zip vals (Sorted.below_last h hs hb)
    have e1 := Spec.lookup_append_left (keys.zip vals) [] key hA
    have e2 := Spec.insert_append_left h (keys.zip vals) [] key (f none) hA
    rw [List.append_nil] at e1 e2
    exact ⟨e1.symm, (List.zip_append hlen).trans e2.symm⟩
  have hne : keys ≠ [] := fun e => by subst e; cases hk
  obtain ⟨kA, k0, kB, vA, v, vB, rfl, rfl, hkA, hvA, hA, hB, hend⟩ := locate h key keys vals hs hlen hne
  have hAv : kA.length = vA.length := hkA.trans hvA.symm
  cases Option.some.inj ((getElem?_pivot hkA k0).symm.trans hk)
  show _ ∧ List.zip ks vs = _
  rw [List.zip_append hAv, List.zip_cons_cons, lookup_pivot hA hB,
    insert_pivot h hA]
  obtain ⟨he, old, ho, rfl, rfl, rfl⟩ | ⟨he, -, rfl, rfl, rfl⟩ := hc
  · cases Option.some.inj ((getElem?_pivot hvA v).symm.trans ho)
    obtain ⟨h1, h2⟩ : P.lt key k = false ∧ P.lt k key = false := by simpa [eqv] using he
    rw [he, h1, h2, set_pivot hvA, List.zip_append hAv]
    exact ⟨rfl, rfl⟩
  · -- the key is not beyond the last one, so not beyond the pivot, and it is not equivalent to it
    have h2 : P.lt k key = false := by
      cases hc : P.lt k key with
      | false => rfl
      | true =>
        obtain rfl := hend hc
        exact absurd (fun last e => by rw [List.getLast?_concat] at e; exact Option.some.inj e ▸ hc) hnb
    have h1 : P.lt key k = true := by simpa [eqv, h2] using he
    rw [he, h1, List.take_left' hkA, List.take_left' hvA, List.drop_left' hkA, List.drop_left' hvA,
      List.zip_append hAv]
    exact ⟨rfl, rfl⟩

theorem Leaf.upsert_ok (h : SWO lt) (P : Params K) (hP : P.lt = lt) (hpad : ∀ k, P.pad (some k) ≠ none)
    (l : Leaf K V) (key : K) (f : Option V → V)
    (hs : Sorted lt l.keys) (hlen : l.keys.length = l.vals.length) :
    ∃ l' : Leaf K V, Leaf.upsert P l key f = .ok (l', Spec.lookup lt (l.keys.zip l.vals) key) ∧
      l'.id = l.id ∧ l'.next = l.next ∧
      Sorted lt l'.keys ∧ l'.keys.length = l'.vals.length ∧
      l'.keys.zip l'.vals = Spec.insert lt (l.keys.zip l.vals) key (f (Spec.lookup lt (l.keys.zip l.vals) key)) ∧
      l.keys.length ≤ l'.keys.length ∧ l'.keys.length ≤ l.keys.length + 1 ∧
      (∀ k ∈ l'.keys, k ∈ l.keys ∨ k = key) := by
  obtain ⟨l', arg, hu⟩ := Leaf.upsert_total P hpad l key f hlen
  obtain ⟨hid, hnext, n, hn, hkl, hvl⟩ := Leaf.upsert_lengths hu
  obtain ⟨rfl, hz⟩ := Leaf.upsert_meaning h hP hs hlen hu
  have hlen' : l'.keys.length = l'.vals.length := by rw [hkl, hvl, hlen]
  -- order and membership are those of the specification's `insert`
  refine ⟨l', hu, hid, hnext, sorted_of_zip (Nat.le_of_eq hlen') (hz ▸ Spec.insert_sorted h _ _ _ (KSorted_zip _ _ hs)),
    hlen', hz, by rw [hkl]; exact Nat.le_add_right _ _, by rw [hkl]; exact Nat.add_le_add_left hn _, fun k hk => ?_⟩
  rw [← List.map_fst_zip (Nat.le_of_eq hlen'), hz] at hk
  obtain ⟨p, hp, rfl⟩ := List.mem_map.1 hk
  rcases Spec.insert_mem_key _ _ _ p hp with e | ⟨q, hq, e⟩
  · exact .inr e
  · exact .inl (e ▸ (List.of_mem_zip hq).1)

theorem Leaf.deleteKey_meaning (h : SWO lt) {P : Params K} (hP : P.lt = lt) {l l' : Leaf K V} {m : Nat} {key : K}
    {small : Bool} (hs : Sorted lt l.keys) (hlen : l.keys.length = l.vals.length)
    (hd : Leaf.deleteKey P l m key = .ok (l', small)) :
    l'.keys.zip l'.vals = Spec.erase lt (l.keys.zip l.vals) key := by
  subst hP
  obtain ⟨id, keys, vals, next⟩ := l
  by_cases hne : keys = []
  · subst hne
    obtain ⟨rfl, -⟩ | ⟨k, hk, -⟩ := Leaf.deleteKey_inv hd
    · rfl
    · cases hk
  obtain ⟨kA, k, kB, vA, v, vB, rfl, rfl, hkA, hvA, hA, hB, -⟩ := locate h key keys vals hs hlen hne
  have hAv : kA.length = vA.length := hkA.trans hvA.symm
  have her := erase_pivot hA hB (k := k) (v := v)
  rw [← List.zip_cons_cons, ← List.zip_append hAv] at her
  rw [her]
  obtain ⟨rfl, -, he⟩ | ⟨k', hk, he, -, rfl, -⟩ := Leaf.deleteKey_inv hd
  · rw [he k (getElem?_pivot hkA k)]; rfl
  · cases Option.some.inj ((getElem?_pivot hkA k).symm.trans hk)
    show List.zip (List.take _ _ ++ List.drop _ _) (List.take _ _ ++ List.drop _ _) = _
    rw [he, take_drop_pivot hkA, take_drop_pivot hvA]
    exact List.zip_append hAv

theorem Leaf.deleteKey_ok (h : SWO lt) (P : Params K) (hP : P.lt = lt)
    (l : Leaf K V) (minSize : Nat) (key : K)
    (hs : Sorted lt l.keys) (hlen : l.keys.length = l.vals.length) :
    ∃ (l' : Leaf K V) (small : Bool), Leaf.deleteKey P l minSize key = .ok (l', small) ∧
      (small = true → l'.keys.length < minSize) ∧
      (small = false → l' = l ∨ minSize ≤ l'.keys.length) ∧
      l'.id = l.id ∧ l'.next = l.next ∧
      Sorted lt l'.keys ∧ l'.keys.length = l'.vals.length ∧
      l'.keys.zip l'.vals = Spec.erase lt (l.keys.zip l.vals) key ∧
      l'.keys.length ≤ l.keys.length ∧ l.keys.length ≤ l'.keys.length + 1 ∧
      (∀ k ∈ l'.keys, k ∈ l.keys) := by
  obtain ⟨l', small, hd⟩ := Leaf.deleteKey_total P l minSize key hlen
  have hz := Leaf.deleteKey_meaning h hP hs hlen hd
  obtain ⟨hid, hnext, hc⟩ := Leaf.deleteKey_lengths hd
  have hlen' : l'.keys.length = l'.vals.length := by
    obtain ⟨rfl, -⟩ | ⟨hk, hv, -⟩ := hc
    · exact hlen
    · exact Nat.succ.inj (hk.trans (hlen.trans hv.symm))
  -- order and membership are those of the specification's `erase`
  refine ⟨l', small, hd, ?_, ?_, hid, hnext,
    sorted_of_zip (Nat.le_of_eq hlen') (hz ▸ Spec.erase_sorted _ _ (KSorted_zip _ _ hs)), hlen', hz, ?_, ?_, fun k hk => ?_⟩
  · obtain ⟨-, rfl⟩ | ⟨-, -, rfl⟩ := hc
    · nofun
    · exact of_decide_eq_true
  · obtain ⟨rfl, -⟩ | ⟨-, -, rfl⟩ := hc
    · exact fun _ => .inl rfl
    · exact fun e => .inr (Nat.le_of_not_lt (of_decide_eq_false e))
  · obtain ⟨rfl, -⟩ | ⟨hk, -⟩ := hc
    · exact Nat.le_refl _
    · exact hk ▸ Nat.le_succ _
  · obtain ⟨rfl, -⟩ | ⟨hk, -⟩ := hc
    · exact Nat.le_succ _
    · exact Nat.le_of_eq hk.symm
  · rw [← List.map_fst_zip (Nat.le_of_eq hlen'), hz] at hk
    obtain ⟨p, hp, rfl⟩ := List.mem_map.1 hk
    exact (List.of_mem_zip (List.mem_filter.1 hp).1).1

theorem startIndex_spec (h : SWO lt) (P : Params K) (hP : P.lt = lt) (key : K) (l : Leaf K V) (hs : Sorted lt l.keys)
    (j : Nat) (k : K) (hk : l.keys[j]? = some k) : lt k key = false ↔ startIndex P {} key l ≤ j := by
  subst hP
  obtain ⟨hj, rfl⟩ := List.getElem?_eq_some_iff.1 hk
  have hbefore : j < searchGE P.lt key l.keys → P.lt l.keys[j] key = true := fun hlt => searchGE_before h key _ hs j hlt hj
  obtain ⟨e, hat⟩ | ⟨e, k0, hk0, hat⟩ := startIndex_cases P key l <;> rw [e]
  · refine ⟨fun hf => Nat.le_of_not_lt fun hlt => ?_, fun hle => ?_⟩
    · rw [hbefore hlt] at hf; cases hf
    have hg : searchGE P.lt key l.keys < l.keys.length := Nat.lt_of_le_of_lt hle hj
    have h0 := hat _ (List.getElem?_eq_getElem hg)
    rcases Nat.lt_or_eq_of_le hle with hlt | heq
    · exact h.asymm (h.lt_of_le_of_lt h0 (hs.getElem_lt hlt hj))
    · subst heq; exact h0
  · obtain ⟨hg, rfl⟩ := List.getElem?_eq_some_iff.1 hk0
    refine ⟨fun hf => Nat.lt_of_not_le fun hle => ?_, fun hle => ?_⟩
    · rcases Nat.lt_or_eq_of_le hle with hlt | heq
      · rw [hbefore hlt] at hf; cases hf
      · subst heq; rw [hat] at hf; cases hf
    · -- the clamp: the key at the search index is below the start only if it is the last
      rw [searchGE_at h key _ hs (Nat.lt_of_le_of_lt hle hj)] at hat
      cases hat

end Gobptree
