/-
  The log is not read: `resume` on a state and on the same state with an empty log emit the same
  new events — an instance of the read-frame theorem with every node in the frame.
-/
import Gobptree.Proofs.CReadFrameDel
import Gobptree.Proofs.CReadFrameUp

namespace Gobptree.Conc
open Gobptree

variable {K V : Type}

theorem srel_clear (s : St K V) : SRel (fun _ => True) True s.evs [] s { s with evs := [] } :=
  ⟨⟨rfl, rfl, fun _ _ => rfl, fun _ => ⟨rfl, rfl⟩⟩, rfl, rfl, rfl, ⟨[], rfl, rfl⟩, fun _ _ _ => trivial⟩

theorem resume_new_evs (P : Params K) (t : Nat) (s : St K V) (k : Kont K V) (hole : Option Nat)
    (hpre : Pre P hole s) (hhole : isDelK k = true → hole = kontHole k ∧ 4 ≤ s.tree.order) (hk : KontOk s.tree k) :
    ∃ e, (resume P t s k).1.evs = e ++ s.evs ∧ (resume P t { s with evs := [] } k).1.evs = e := by
  have hpre0 : Pre P hole { s with evs := [] } := ⟨hpre.tree, hpre.order, hpre.pad⟩
  have key : BRel (fun _ => True) True s.evs [] (resume P t s k) (resume P t { s with evs := [] } k) := by
    cases hd : isDelK k with
    | false =>
      exact resume_rf_U P t k hole hole hd (srel_clear s) hpre hpre0 hk hk (fun _ _ => trivial) (fun _ _ => trivial)
        (fun _ => trivial)
    | true =>
      obtain ⟨rfl, h4⟩ := hhole hd
      exact resume_rf_D P t k hd (srel_clear s) h4 h4 hpre hpre0 hk hk (fun _ _ => trivial) (fun _ _ => trivial)
        (fun _ => trivial)
  obtain ⟨e, h1, h2⟩ := key.1.evs
  exact ⟨e, h1, by rw [h2, List.append_nil]⟩

end Gobptree.Conc
