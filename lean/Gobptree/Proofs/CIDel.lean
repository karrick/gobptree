/-
  Delete's continuations keep the separator invariant (with the same witness set: a Delete
  lowers nothing and provides no witness) and keep EVERY thread on its route, readers
  included: `resume_isep_D`, the separator half of `resume_dstep`.
-/
import Gobptree.Proofs.CKDel

namespace Gobptree.Conc
open Gobptree

variable {K V : Type} {lt : K → K → Bool}

/-- `IStep` of a whole stretch, between its two states, with the identities held as the exempt set -/
structure IOut (lt : K → K → Bool) (Wit : Nat → K → Prop) (H : List Lk) (s s' : St K V) : Prop where
  sep : SepTreeN lt Wit s'.tree
  routes : RStab lt (fun x => Lk.node x ∈ H) s.tree s'.tree

/-- from the working forms to the interface of `ResumeID`: the node-level invariant is the flat one, and
    routes kept (`RStab`, this layer) with bounds kept (`StableBounds`, the key-order layer) are `StableRoutes` -/
theorem id_finish {Wit : Nat → K → Prop} {H : List Lk} {s s' : St K V}
    (hidsF : s'.tree.ids.Nodup) (hparF : ParTree s'.tree) (o : IOut lt Wit H s s')
    (hb : StableBounds lt H s.tree s'.tree) :
    ISepW lt Wit s'.tree ∧ StableRoutes lt H s.tree s'.tree :=
  ⟨(sepTreeN_iff_isepW hidsF hparF).1 o.sep, fun key id hlt hH => ⟨o.routes key id hH, hb key id hlt hH⟩⟩

theorem resume_isep_D : ResumeID K V := by
  intro lt P t s k H Wit hd h4 hkp hpre hk hkpre hcov hO hpos hWit hisep
  have hkd := resume_kpost_D lt P t s k H hd h4 hkp hpre hk hkpre hcov hO hpos
  have hpost := resume_post_D P t s k H hd h4 hpre hk hkpre hcov
  have st := (resume_dstep P t s k H hd h4 hkp hpre hk hcov hO hpos).1.sep Wit hWit
    ((sepTreeN_iff_isepW hpre.tree.ids.1 (parTree_of_treeOk hpre.tree)).2 hisep)
  exact id_finish hpost.tree.ids.1 (parTree_of_treeOk hpost.tree) ⟨st.sep, st.routes⟩ hkd.2

end Gobptree.Conc

open Gobptree.Conc in
#print axioms resume_isep_D
