/-
  Delete's unwinding (`delUnwind`, `delRightArrive`) and descent (`delGo`): no panic, the
  tree invariant with the hole the outcome prescribes, frame, continuation.
-/
import Gobptree.Proofs.CSDelEnds
import Gobptree.Proofs.CSUpBase

namespace Gobptree.Conc
open Gobptree

variable {K V : Type}

/-- the outcome of one of Delete's blocks: `Post`, and besides nothing is allocated, the cursor is
    left alone and a parked result is again one of Delete's continuations -/
structure DPost (keep : Nat → Bool) (s s' : St K V) (fl : Flow K V) : Prop where
  nopanic : fl ≠ .panic
  tree : TreeOk (flowHole fl) s'.tree
  frame : FrameEq keep s.tree.flat s'.tree.flat
  nextId : s'.tree.nextId = s.tree.nextId
  order : s'.tree.order = s.tree.order
  cursor : s'.cursor = s.cursor
  kont : ∀ p, fl = .park p → ∃ l k, p = .want l k ∧ isDelK k = true ∧ KontOk s'.tree k

theorem DPost.trans {keep : Nat → Bool} {s s1 s' : St K V} {fl : Flow K V} (h : DPost keep s1 s' fl)
    (hf : FrameEq keep s.tree.flat s1.tree.flat) (hn : s1.tree.nextId = s.tree.nextId)
    (ho : s1.tree.order = s.tree.order) (hc : s1.cursor = s.cursor) : DPost keep s s' fl :=
  ⟨h.nopanic, h.tree, hf.trans h.frame, h.nextId.trans hn, h.order.trans ho, h.cursor.trans hc, h.kont⟩

theorem DPost.of_unlock {keep : Nat → Bool} {s s1 s' : St K V} {fl : Flow K V} {t : Nat} {fr : Frame} {r : Option Nat}
    (h : DPost keep (frameUnlock t s1 fr r) s' fl)
    (hf : FrameEq keep s.tree.flat s1.tree.flat) (hn : s1.tree.nextId = s.tree.nextId)
    (ho : s1.tree.order = s.tree.order) (hc : s1.cursor = s.cursor) : DPost keep s s' fl := by
  refine h.trans ?_ ?_ ?_ ?_
  · rw [frameUnlock_tree]; exact hf
  · rw [frameUnlock_tree]; exact hn
  · rw [frameUnlock_tree]; exact ho
  · rw [frameUnlock_cursor]; exact hc

/-- what the unwinding carries from frame to frame: the tree is in order except that `top` may be
    underfull (`small`), and `frames` is still the descent path from the root down to `top` -/
structure UInv (P : Params K) (root : Nat) (s : St K V) (frames : List Frame) (small : Bool) (top : Nat) : Prop where
  ok : TreeOk' (if small then some top else none) s.tree
  order : s.tree.order = P.order
  rootEq : root = s.tree.rootId
  frames : FramesOk s.tree root frames top
  small : small = true → isSmall s.tree top

theorem framesHeld_cons_sub {H : List Lk} {fr : Frame} {rest : List Frame}
    (hH : ∀ l ∈ framesHeld (fr :: rest), l ∈ H) :
    (∀ l ∈ framesHeld rest, l ∈ H) ∧ Lk.node fr.child ∈ H ∧ ∀ l, fr.left = some l → Lk.node l ∈ H := by
  refine ⟨fun l hl => hH l (by simp [framesHeld, hl]), hH _ (by simp [framesHeld]), ?_⟩
  intro l hl
  apply hH
  simp [framesHeld, hl, optLock]

theorem window_held_of_frame {T : Tree K V} {fr : Frame} {rest : List Frame} {H : List Lk} (hfr : FrameOk T fr)
    (hH : ∀ l ∈ framesHeld (fr :: rest), l ∈ H)
    (hright : ∀ x, T.kidAt fr.node (fr.index + 1) = some x → Lk.node x ∈ H)
    {j x : Nat} (hx : T.kidAt fr.node j = some x) (h1 : fr.index ≤ j + 1) (h2 : j ≤ fr.index + 1) : Lk.node x ∈ H := by
  obtain ⟨_, hHchild, hHleft⟩ := framesHeld_cons_sub hH
  have hcases : j = fr.index ∨ j + 1 = fr.index ∨ j = fr.index + 1 := by omega
  rcases hcases with rfl | hj | rfl
  · rw [hfr.1] at hx
    cases hx
    exact hHchild
  · have hl := hfr.2
    cases hfl : fr.left with
    | none => rw [hfl] at hl; exact absurd hj (Nat.ne_of_gt (hl ▸ Nat.succ_pos j))
    | some l =>
      rw [hfl] at hl
      rw [← hj, Nat.add_sub_cancel, hx] at hl
      rw [Option.some.inj hl.2]
      exact hHleft _ hfl
  · exact hright x hx

theorem UInv.of_tree_eq {P : Params K} {root : Nat} {s s1 : St K V} {frames : List Frame} {small : Bool} {top : Nat}
    (h : UInv P root s frames small top) (e : s1.tree = s.tree) : UInv P root s1 frames small top := by
  obtain ⟨h1, h2, h3, h4, h5⟩ := h
  rw [← e] at h1 h2 h3 h4 h5
  exact ⟨h1, h2, h3, h4, h5⟩

theorem UInv.unlock {P : Params K} {root : Nat} {s : St K V} {fr : Frame} {rest : List Frame} {top : Nat} (t : Nat)
    (h : UInv P root s (fr :: rest) false top) : UInv P root (frameUnlock t s fr none) rest false fr.node :=
  UInv.of_tree_eq ⟨h.ok, h.order, h.rootEq, h.frames.2.2, fun e => by cases e⟩ (frameUnlock_tree t s fr none)

theorem UInv.after_leaf {P : Params K} {root n : Nat} {s : St K V} {frames : List Frame} {l l' : Leaf K V} {small : Bool}
    (hids : IdsOk s.tree) (hord : s.tree.order = P.order) (hroot : root = s.tree.rootId)
    (hfr : FramesOk s.tree root frames n) (hf : s.tree.find n = some ⟨0, l⟩)
    (out : LeafOut s.tree n (putLeaf s.tree l') small) :
    UInv P root (s.setTree (putLeaf s.tree l')) frames small n := by
  have hlook : s.tree.look n = some (shallow (d := 0) l) := (find_facts hf).2.1
  refine ⟨out.ok, out.order.trans hord, hroot.trans out.root.symm, ?_, out.small⟩
  refine framesOk_transfer hids root frames n _ hfr hlook fun x sh hx hlt => ?_
  rw [← hx]
  exact out.look x (ne_of_height hlook hx hlt).symm

theorem kidAt_eq_none_of_find {T : Tree K V} {n d j : Nat} {i : Inner K (Node K V d)}
    (hf : T.find n = some ⟨d + 1, i⟩) (hj : i.kids.length ≤ j) : T.kidAt n j = none := by
  rw [kidAt_of_find hf, List.getElem?_eq_none hj]
  rfl

structure RebAt (P : Params K) (root : Nat) (H : List Lk) (s : St K V) (rest : List Frame) (fr : Frame) {d : Nat}
    (i : Inner K (Node K V d)) (child : Node K V d) (i' : Inner K (Node K V d)) (small' : Bool) : Prop where
  inv : UInv P root s (fr :: rest) true fr.child
  find : s.tree.find fr.node = some ⟨d + 1, i⟩
  kid : i.kids[fr.index]? = some child
  eval : rebalance P {} (P.order >>> 1) i fr.index child = .ok (i', small')
  heldNode : Lk.node fr.node ∈ H
  heldKids : ∀ j x, s.tree.kidAt fr.node j = some x → fr.index ≤ j + 1 → j ≤ fr.index + 1 → Lk.node x ∈ H
  next : UInv P root (s.setTree (putInner s.tree i')) rest small' fr.node
  frame : ∀ keep : Nat → Bool, (∀ x, Lk.node x ∈ H → keep x = false) →
    FrameEq keep s.tree.flat (putInner s.tree i').flat
  out : StepOut s.tree fr.node fr.index (putInner s.tree i') small'
  gone : ∀ x sh j, s.tree.kidAt fr.node j = some x → (putInner s.tree i').look x = some sh →
    x = fr.node ∨ ∃ j', (putInner s.tree i').kidAt fr.node j' = some x
  rebIn : RebIn P.order i fr.index child

theorem rebAt_of_inv (P : Params K) (hp : PadOk P) {root : Nat} {s : St K V} {fr : Frame} {rest : List Frame}
    {H : List Lk} (hroot : Lk.node root ∈ H) (hH : ∀ l ∈ framesHeld (fr :: rest), l ∈ H)
    (hinv : UInv P root s (fr :: rest) true fr.child)
    (hright : ∀ x, s.tree.kidAt fr.node (fr.index + 1) = some x → Lk.node x ∈ H)
    {d : Nat} {i : Inner K (Node K V d)} (hf : s.tree.find fr.node = some ⟨d + 1, i⟩) :
    ∃ child i' small', RebAt P root H s rest fr i child i' small' := by
  obtain ⟨_, hfr, hrest⟩ := hinv.frames
  have hok : TreeOk' (some fr.child) s.tree := hinv.ok
  obtain ⟨child, i', small', hc, hin, heval, out, gone⟩ :=
    rebalance_step P hp hok hinv.order hf hfr.1 (hinv.small rfl)
  obtain ⟨_, hlookn, _⟩ := find_facts hf
  have hWn := frames_top_held hroot rest fr.node hrest (framesHeld_cons_sub hH).1
  have hWk := fun j x hx h1 h2 => window_held_of_frame (j := j) (x := x) hfr hH hright hx h1 h2
  refine ⟨child, i', small', hinv, hf, hc, heval, hWn, hWk,
    ⟨out.ok, out.order.trans hinv.order, hinv.rootEq.trans out.root.symm, ?_, out.small⟩,
    fun keep hkeep => out.frame keep (hkeep _ hWn) fun j x hx h1 h2 => hkeep x (hWk j x hx h1 h2),
    out, gone, hinv.order ▸ hin⟩
  refine framesOk_transfer hok.ids root rest fr.node _ hrest hlookn fun x sh hx hlt => ?_
  rw [← hx]
  refine out.look x (ne_of_height hlookn hx hlt).symm fun j hj => ?_
  obtain ⟨shx, hlx, hh⟩ := kid_look hok.ids hj hlookn
  rw [hx] at hlx
  cases hlx
  exact absurd hlt (Nat.not_lt.2 (Nat.le_of_lt (hh ▸ Nat.lt_succ_self _)))

/-- **the one induction over the activation records of a Delete.**  To prove `Q s r` of the result
    `r` of unwinding from `s`, with `I` carried along, say what happens at the end (`delFinish`),
    at a level that is only unlocked, at a park for the right sibling, and at a rebalancing
    (`RebAt`: the step is evaluated and its structural facts are given); the second part is the
    same loop entered after the right sibling was acquired -/
theorem delUnwind_induct (P : Params K) (hp : PadOk P) (t : Nat) (key : K) (root : Nat) (H : List Lk)
    (hroot : Lk.node root ∈ H) {I : St K V → Prop} {Q : St K V → St K V × Flow K V → Prop}
    (hfin : ∀ s small, TreeOk' (if small then some s.tree.rootId else none) s.tree → Lk.node s.tree.rootId ∈ H →
      I s → Q s (delFinish t s small root))
    (hskip : ∀ s fr, I s → I (frameUnlock t s fr none) ∧ ∀ r, Q (frameUnlock t s fr none) r → Q s r)
    (hpark : ∀ s rest fr right, UInv P root s (fr :: rest) true fr.child →
      s.tree.kidAt fr.node (fr.index + 1) = some right → I s →
      Q s (s, .park (.want (.node right) (.delRight key rest fr right root))))
    (hreb : ∀ s rest fr (right : Option Nat) {d : Nat} {i : Inner K (Node K V d)} {child : Node K V d}
      {i' : Inner K (Node K V d)} {small' : Bool}, RebAt P root H s rest fr i child i' small' → I s →
      I (frameUnlock t (s.setTree (putInner s.tree i')) fr right) ∧
        ∀ r, Q (frameUnlock t (s.setTree (putInner s.tree i')) fr right) r → Q s r) :
    (∀ (frames : List Frame) (s : St K V) (small : Bool) (top : Nat), UInv P root s frames small top →
      (∀ l ∈ framesHeld frames, l ∈ H) → I s → Q s (delUnwind P t s key frames small root)) ∧
    (∀ (s : St K V) (rest : List Frame) (fr : Frame) (right : Nat), UInv P root s (fr :: rest) true fr.child →
      (∀ l ∈ framesHeld (fr :: rest), l ∈ H) → s.tree.kidAt fr.node (fr.index + 1) = some right →
      Lk.node right ∈ H → I s → Q s (delRightArrive P t s key rest fr right root)) := by
  have loop : ∀ (frames : List Frame) (s : St K V) (small : Bool) (top : Nat), UInv P root s frames small top →
      (∀ l ∈ framesHeld frames, l ∈ H) → I s → Q s (delUnwind P t s key frames small root) := by
    intro frames
    induction frames with
    | nil =>
      intro s small top hinv _ hI
      rw [delUnwind_nil]
      have htop : top = s.tree.rootId := (show top = root from hinv.frames).trans hinv.rootEq
      exact hfin s small (htop ▸ hinv.ok) (hinv.rootEq ▸ hroot) hI
    | cons fr rest ih =>
      intro s small top hinv hH hI
      obtain ⟨hHrest, -, -⟩ := framesHeld_cons_sub hH
      obtain ⟨htop, hfr, -⟩ := hinv.frames
      cases small with
      | false =>
        rw [delUnwind_false]
        exact (hskip s fr hI).2 _ (ih _ false fr.node (hinv.unlock t) hHrest (hskip s fr hI).1)
      | true =>
        subst htop
        obtain ⟨d, i, hf, -, -⟩ := inner_of_kidAt hfr.1
        have hok : TreeOk' (some fr.child) s.tree := hinv.ok
        obtain ⟨_, _, _, hin, _⟩ := rebIn_of_tree hok hf hfr.1 (hinv.small rfl)
        have hlen : i.runts.length = i.kids.length := hin.lens.1
        by_cases hR : fr.index + 1 < i.runts.length
        · obtain ⟨r, hr⟩ : ∃ r, i.kids[fr.index + 1]? = some r :=
            ⟨i.kids[fr.index + 1]'(hlen ▸ hR), List.getElem?_eq_getElem _⟩
          rw [delUnwind_right hf hR hr]
          exact hpark s rest fr _ hinv (kidAt_of_kid hf hr) hI
        · obtain ⟨child, i', small', ra⟩ := rebAt_of_inv P hp hroot hH hinv
            (fun x hx => by
              rw [kidAt_eq_none_of_find hf (hlen ▸ Nat.le_of_not_lt hR)] at hx
              cases hx) hf
          rw [delUnwind_reb hf hR ra.kid ra.eval]
          obtain ⟨hI', hQ⟩ := hreb s rest fr none ra hI
          exact hQ _ (ih _ small' fr.node (ra.next.of_tree_eq (frameUnlock_tree t _ fr none)) hHrest hI')
  refine ⟨loop, fun s rest fr right hinv hH hr hrH hI => ?_⟩
  obtain ⟨hHrest, -, -⟩ := framesHeld_cons_sub hH
  obtain ⟨d, i, hf, -, -⟩ := inner_of_kidAt hinv.frames.2.1.1
  obtain ⟨child, i', small', ra⟩ := rebAt_of_inv P hp hroot hH hinv
    (by intro x hx; rw [hr] at hx; cases hx; exact hrH) hf
  rw [delRightArrive_eq hf ra.kid ra.eval]
  obtain ⟨hI', hQ⟩ := hreb s rest fr (some right) ra hI
  exact hQ _ (loop rest _ small' fr.node (ra.next.of_tree_eq (frameUnlock_tree t _ fr (some right))) hHrest hI')

theorem delUnwind_dpost (P : Params K) (hp : PadOk P) (t : Nat) (key : K) (root : Nat) (H : List Lk)
    (keep : Nat → Bool) (hkeep : ∀ x, Lk.node x ∈ H → keep x = false) (hroot : Lk.node root ∈ H) :
    (∀ (frames : List Frame) (s : St K V) (small : Bool) (top : Nat), UInv P root s frames small top →
      (∀ l ∈ framesHeld frames, l ∈ H) → True →
      DPost keep s (delUnwind P t s key frames small root).1 (delUnwind P t s key frames small root).2) ∧
    (∀ (s : St K V) (rest : List Frame) (fr : Frame) (right : Nat), UInv P root s (fr :: rest) true fr.child →
      (∀ l ∈ framesHeld (fr :: rest), l ∈ H) → s.tree.kidAt fr.node (fr.index + 1) = some right →
      Lk.node right ∈ H → True →
      DPost keep s (delRightArrive P t s key rest fr right root).1 (delRightArrive P t s key rest fr right root).2) :=
  delUnwind_induct P hp t key root H hroot (I := fun _ => True)
    (Q := fun (s : St K V) r => DPost keep s r.1 r.2)
    (fun s small hok hrH _ => by
      obtain ⟨h1, h2, h3⟩ := delFinish_tree t s small root
      obtain ⟨htree, hord, hnid, hframe⟩ := finish_step hok
      rw [← h1] at htree hord hnid hframe
      exact ⟨by rw [h3]; simp, by rw [h3]; exact htree, hframe keep (hkeep _ hrH), hnid, hord, h2,
        by rw [h3]; intro p hp; cases hp⟩)
    (fun s fr _ => ⟨trivial, fun r h => h.of_unlock (FrameEq.refl keep _) rfl rfl rfl⟩)
    (fun s rest fr right hinv hr _ => by
      have hok : TreeOk' (some fr.child) s.tree := hinv.ok
      refine ⟨by simp, hok.unprime (by intro c hc; cases hc; exact kid_ne_root hok.ids hinv.frames.2.1.1),
        FrameEq.refl _ _, rfl, rfl, rfl, ?_⟩
      intro p hp
      cases hp
      exact ⟨_, _, rfl, rfl, hinv.rootEq, hinv.frames, hr, hinv.small rfl⟩)
    (fun s rest fr right _ _ _ _ _ ra _ => ⟨trivial, fun r h => h.of_unlock (ra.frame keep hkeep) ra.out.nextId ra.out.order rfl⟩)

/-- **the descent of a Delete at node `n`, by what `find n` returns.**  At a leaf the key is
    deleted and the unwinding starts (`hleaf`: the evaluation, `LeafOut` and the loop invariant are
    given); at an inner node the thread parks for the left sibling of the child on the route
    (`hleft`) or, at index 0, for the child (`hchild`) -/
theorem delGo_descend (P : Params K) (t : Nat) (key : K) (root : Nat) (H : List Lk) (hroot : Lk.node root ∈ H)
    {Q : St K V × Flow K V → Prop} (s : St K V) (frames : List Frame) (n : Nat)
    (hok : TreeOk none s.tree) (h4 : 4 ≤ s.tree.order) (hord : s.tree.order = P.order)
    (hrootEq : root = s.tree.rootId) (hfr : FramesOk s.tree root frames n) (hH : ∀ l ∈ framesHeld frames, l ∈ H)
    (hleaf : ∀ {l l' : Leaf K V} {small : Bool}, s.tree.find n = some ⟨0, l⟩ →
      Leaf.deleteKey P l (P.order >>> 1) key = .ok (l', small) → LeafOut s.tree n (putLeaf s.tree l') small →
      UInv P root (s.setTree (putLeaf s.tree l')) frames small n → Lk.node n ∈ H →
      Q (delUnwind P t (s.setTree (putLeaf s.tree l')) key frames small root))
    (hleft : ∀ {d : Nat} {p : Inner K (Node K V d)} (l c : Nat), s.tree.find n = some ⟨d + 1, p⟩ →
      searchLE P.lt key p.runts > 0 → s.tree.kidAt n (searchLE P.lt key p.runts - 1) = some l →
      s.tree.kidAt n (searchLE P.lt key p.runts) = some c →
      Q (s, .park (.want (.node l) (.delLeft key frames n (searchLE P.lt key p.runts) l root))))
    (hchild : ∀ {d : Nat} {p : Inner K (Node K V d)} (c : Nat), s.tree.find n = some ⟨d + 1, p⟩ →
      searchLE P.lt key p.runts = 0 → s.tree.kidAt n (searchLE P.lt key p.runts) = some c →
      Q (s, .park (.want (.node c) (.delChild key frames n (searchLE P.lt key p.runts) none c root)))) :
    Q (delGo P t s key frames n root) := by
  have hok' : TreeOk' none s.tree := hok.prime h4
  obtain ⟨sht, hlook⟩ := frames_top_present hok.ids hok.chain (frames := frames) (top := n) (by rw [← hrootEq]; exact hfr)
  obtain ⟨⟨d', m⟩, hf, -, -⟩ := find_some_of_look hlook
  cases d' with
  | zero =>
    obtain ⟨l', small, heval, out⟩ := leaf_step P hok' hord hf key
    rw [delGo_leaf hf heval]
    exact hleaf hf heval out (UInv.after_leaf hok.ids hord hrootEq hfr hf out) (frames_top_held hroot frames n hfr hH)
  | succ d =>
    have hlook' : s.tree.look n = some (shallow (d := d + 1) m) := (find_facts hf).2.1
    have hp' := (par_inner (m : Inner K (Node K V d))).1 (hok'.occ _ (look_mem hlook')).par
    have hne : (m : Inner K (Node K V d)).runts ≠ [] := by
      intro e; rw [e] at hp'; exact absurd hp'.2 (Nat.not_succ_le_zero 0)
    have hidx := searchLE_lt_length (lt := P.lt) key (m : Inner K (Node K V d)).runts hne
    obtain ⟨c, hc⟩ : ∃ c, (m : Inner K (Node K V d)).kids[searchLE P.lt key (m : Inner K (Node K V d)).runts]? = some c :=
      ⟨_, List.getElem?_eq_getElem (hp'.1 ▸ hidx)⟩
    have hkc : s.tree.kidAt n (searchLE P.lt key (m : Inner K (Node K V d)).runts) = some (Node.id c) :=
      kidAt_of_kid hf hc
    by_cases hpos : searchLE P.lt key (m : Inner K (Node K V d)).runts > 0
    · obtain ⟨l, hl⟩ : ∃ l, (m : Inner K (Node K V d)).kids[searchLE P.lt key (m : Inner K (Node K V d)).runts - 1]? = some l :=
        ⟨_, List.getElem?_eq_getElem (hp'.1 ▸ Nat.lt_of_le_of_lt (Nat.sub_le _ _) hidx)⟩
      rw [delGo_left hf hpos hl]
      exact hleft _ _ hf hpos (kidAt_of_kid hf hl) hkc
    · rw [delGo_zero hf hpos hc]
      exact hchild _ hf (Nat.eq_zero_of_not_pos hpos) hkc

theorem delGo_post (P : Params K) (hp : PadOk P) (t : Nat) (key : K) (root : Nat) (H : List Lk)
    (keep : Nat → Bool) (hkeep : ∀ x, Lk.node x ∈ H → keep x = false) (hroot : Lk.node root ∈ H)
    (s : St K V) (frames : List Frame) (n : Nat)
    (hok : TreeOk none s.tree) (h4 : 4 ≤ s.tree.order) (hord : s.tree.order = P.order)
    (hrootEq : root = s.tree.rootId)
    (hfr : FramesOk s.tree root frames n) (hH : ∀ l ∈ framesHeld frames, l ∈ H) :
    DPost keep s (delGo P t s key frames n root).1 (delGo P t s key frames n root).2 :=
  delGo_descend P t key root H hroot (Q := fun r => DPost keep s r.1 r.2) s frames n hok h4 hord hrootEq hfr hH
    (fun _ _ out hinv hnH => ((delUnwind_dpost P hp t key root H keep hkeep hroot).1 frames _ _ n hinv hH trivial).trans
      (out.frame keep (hkeep n hnH)) out.nextId out.order rfl)
    (fun l c _ hpos hkl hkc => ⟨by simp, hok, FrameEq.refl _ _, rfl, rfl, rfl, fun p hp => by
      cases hp
      exact ⟨_, _, rfl, rfl, hrootEq, hfr, hpos, hkl, c, hkc⟩⟩)
    (fun c _ h0 hkc => ⟨by simp, hok, FrameEq.refl _ _, rfl, rfl, rfl, fun p hp => by
      cases hp
      exact ⟨_, _, rfl, rfl, hrootEq, hfr, hkc, h0⟩⟩)

end Gobptree.Conc
