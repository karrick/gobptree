/-
  READ FRAME, assembly: from the per-continuation results to one scheduler step.
-/
import Gobptree.Proofs.CReadFrameDel
import Gobptree.Proofs.CSStep2
import Gobptree.Proofs.CReadFrameUp

namespace Gobptree.Conc
open Gobptree

variable {K V : Type}

/-- identities the thread may read or write during the step: nodes it holds, nodes it creates -/
def stepIds (th : Thread K V) (n0 : Nat) (id : Nat) : Prop := Lk.node id ∈ stepHeld th ∨ n0 ≤ id

/-- the two runs enter the step in related states: identities not yet allocated are absent from
    both trees, and the cursor's leaf is held -/
theorem stepSt_rf {c1 c2 : Config K V} (t : Nat) {th : Thread K V} (hok : ThreadOk th)
    (hi1 : IdsOk c1.tree) (hi2 : IdsOk c2.tree) (hv : SameView (stepHeld th) c1.tree c2.tree) :
    SRel (stepIds th c1.tree.nextId) (Lk.tree ∈ stepHeld th) (Ev.dec t c1.enabledSet :: c1.log)
      (Ev.dec t c2.enabledSet :: c2.log) (stepSt c1 t th) (stepSt c2 t th) := by
  obtain ⟨hvo, hvn, hvl, hvr⟩ := hv
  refine ⟨⟨hvo, hvn, ?_, hvr⟩, rfl, rfl, rfl, ⟨[], rfl, rfl⟩, ?_⟩
  · rintro id (hid | hid)
    · exact hvl id hid
    · show c1.tree.look id = c2.tree.look id
      rw [look_none_of_nextId_le hi1 hid, look_none_of_nextId_le hi2 (hvn ▸ hid)]
  · intro leaf i hc
    have hc' : th.cursor = some (some leaf, i) := hc
    refine Or.inl (mem_stepHeld_of_held (hok.1.mem_iff.2 (List.mem_append_left _ ?_)))
    rw [hc']
    simp [cursorLocks]

theorem step_rf (c1 c2 : Config K V) (t : Nat) (th : Thread K V)
    (h1 : c1.threads[t]? = some th) (h2 : c2.threads[t]? = some th) (hP : c1.P = c2.P)
    (hi1 : CInv c1) (hi2 : CInv c2) (hv : SameView (stepHeld th) c1.tree c2.tree)
    (hen1 : th.enabled c1 = true) (hen2 : th.enabled c2 = true) :
    TRes (stepIds th c1.tree.nextId) (Lk.tree ∈ stepHeld th) (Ev.dec t c1.enabledSet :: c1.log)
      (Ev.dec t c2.enabledSet :: c2.log) (runThread c1.P t th (stepSt c1 t th)) (runThread c1.P t th (stepSt c2 t th)) := by
  have hS1 := hi1.s
  have hS2 := hi2.s
  have hr0 := stepSt_rf t (hS1.cfg th (List.mem_of_getElem? h1)) hS1.tree.ids hS2.tree.ids hv
  apply runThread_rf c1.P t th hr0
  intro k hp
  have hk := Park.kont?_eq_some.2 hp
  obtain ⟨hpre1, R1⟩ := stepper_pre hS1 h1 hk
  obtain ⟨hpre2, R2⟩ := stepper_pre hS2 h2 hk
  obtain ⟨hheld, hlock, _⟩ := R1.cov
  have hheld' : ∀ x, Lk.node x ∈ kontHeld k → stepIds th c1.tree.nextId x := fun x hx => Or.inl (hheld _ hx)
  have hlock' : ∀ x, kontLock k = some (Lk.node x) → stepIds th c1.tree.nextId x := fun x hx => Or.inl (hlock _ hx)
  have hRt : (Lk.tree ∈ kontHeld k ∨ kontLock k = some .tree) → Lk.tree ∈ stepHeld th := by
    rintro (h | h)
    · exact hheld _ h
    · exact hlock _ h
  cases hdel : isDelK k with
  | false =>
    exact resume_rf_U c1.P t k _ _ hdel hr0 hpre1 ⟨hpre2.tree, hP ▸ hpre2.order, hP ▸ hpre2.pad⟩ R1.kok R2.kok
      hheld' hlock' hRt
  | true =>
    obtain ⟨hd1, h41⟩ := del_stepper_pre hi1 h1 hen1 hk hdel
    obtain ⟨hd2, h42⟩ := del_stepper_pre hi2 h2 hen2 hk hdel
    exact resume_rf_D c1.P t k hdel hr0 h41 h42 hd1 ⟨hd2.tree, hP ▸ hd2.order, hP ▸ hd2.pad⟩ R1.kok R2.kok
      hheld' hlock' hRt

end Gobptree.Conc
