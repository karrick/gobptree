/-
  Event lemmas for the linearizability proof.  What a stretch of continuation `k` logs and how
  it ends, by the kind of operation `k` belongs to (`kontSig`): only lock events and callback
  notes of its own thread, a park inside the same operation, the callback note exactly where an
  Update invokes its callback (`resume_trace`; `startOp_tr` for the first stretch of a call).
  That the code of a block does not read the log it appends to is `resume_new_evs`
  (CLogIndep.lean).
-/
import Gobptree.Proofs.CHist
import Gobptree.Proofs.CKBlock

namespace Gobptree.Conc
open Gobptree

variable {K V : Type}

def St.addEvs (s : St K V) (es : List (Ev K V)) : St K V := { s with evs := s.evs ++ es }

@[simp] theorem addEvs_tree (s : St K V) (es : List (Ev K V)) : (s.addEvs es).tree = s.tree := rfl
@[simp] theorem addEvs_cursor (s : St K V) (es : List (Ev K V)) : (s.addEvs es).cursor = s.cursor := rfl
@[simp] theorem addEvs_evs (s : St K V) (es : List (Ev K V)) : (s.addEvs es).evs = s.evs ++ es := rfl
theorem addEvs_acq (s : St K V) (es : List (Ev K V)) (t : Nat) (l : Lk) : (s.addEvs es).acq t l = (s.acq t l).addEvs es := rfl
theorem addEvs_rel (s : St K V) (es : List (Ev K V)) (t : Nat) (l : Lk) : (s.addEvs es).rel t l = (s.rel t l).addEvs es := rfl
theorem addEvs_note (s : St K V) (es : List (Ev K V)) (t : Nat) (n : Note K V) : (s.addEvs es).note t n = (s.note t n).addEvs es := rfl

/-- the client-visible signature of a continuation: kind of operation, key, callback -/
inductive KSig (K V : Type) where
  | ro (sc : Bool) (key : K)
  | up (key : K) (f : Option V → V) (y : Option Bool)
  | del (key : K)
  | other

def kontSig : Kont K V → KSig K V
  | .roTree sc key => .ro sc key
  | .roNode sc key _ _ => .ro sc key
  | .upTree key f y => .up key f y
  | .upRoot key f y _ => .up key f y
  | .upRootSib key f y _ _ => .up key f y
  | .upChild key f y _ _ _ => .up key f y
  | .upSib key f y _ _ _ => .up key f y
  | .upCallback key f _ _ => .up key f (some true)
  | .delTree key => .del key
  | .delRoot key _ => .del key
  | .delLeft key _ _ _ _ _ => .del key
  | .delChild key _ _ _ _ _ _ => .del key
  | .delRight key _ _ _ _ => .del key
  | _ => .other

/-- continuations of a Delete whose key has already been removed from its leaf -/
def postK : Kont K V → Bool
  | .delRight _ _ _ _ _ => true
  | _ => false

def postP : Park K V → Bool
  | .want _ k => postK k
  | _ => false

theorem postLeaf_park (p : Park K V) : postLeaf (.park p) ↔ postP p = true := by
  cases p with
  | want l k => cases k <;> simp [postLeaf, postP, postK]
  | _ => simp [postLeaf, postP]

theorem postK_sig {k : Kont K V} (h : postK k = true) : ∃ key, kontSig k = .del key := by
  cases k with
  | delRight key rest fr right root => exact ⟨key, rfl⟩
  | _ => cases h

def cbArg : Kont K V → Option (Option V)
  | .upCallback _ _ _ arg => some arg
  | _ => none

def parkCb : Park K V → Nat
  | .yielded (.upCallback _ _ _ _) => 1
  | _ => 0

def kCb : Kont K V → Nat
  | .upCallback _ _ _ _ => 1
  | _ => 0

def updK (k : Kont K V) : Bool :=
  match kontSig k with
  | .up _ _ (some _) => true
  | _ => false

theorem updK_of_sig {k : Kont K V} {key : K} {f : Option V → V} {y : Option Bool} (hs : kontSig k = .up key f y) :
    updK k = y.isSome := by
  unfold updK; rw [hs]; cases y <;> rfl

theorem kCb_of_cbArg {k : Kont K V} (h : cbArg k = none) : kCb k = 0 := by
  cases k <;> first | rfl | cases h

theorem parkCb_zero_of {p : Park K V} {k : Kont K V} (h1 : p.kont? = some k) (h2 : cbArg k = none) :
    parkCb p = 0 := by
  cases p with
  | start => rfl
  | finished => rfl
  | want l k' => rfl
  | yielded k' =>
    cases h1
    cases k <;> first | rfl | cases h2

/-- a block parks inside the same operation; if inside the callback, the callback note with
    the remembered argument is the newest one of the stretch, and the only one -/
def ParkTr (t : Nat) (sg : KSig K V) (new : List (Ev K V)) (p : Park K V) : Prop :=
  ∃ k', p.kont? = some k' ∧ kontSig k' = sg ∧ (∀ arg, cbArg k' = some arg → lastCb t new = some arg) ∧
    cbN t new = parkCb p

theorem ParkTr.mono {t : Nat} {sg : KSig K V} {new : List (Ev K V)} {p : Park K V} (pre : List (Ev K V))
    (hq : pre.all silentB = true) (h : ParkTr t sg new p) : ParkTr t sg (new ++ pre) p := by
  obtain ⟨k', h1, h2, h3, h4⟩ := h
  refine ⟨k', h1, h2, ?_, by rw [cbN_append, cbN_of_silent t hq]; exact h4⟩
  intro arg ha
  rw [lastCb_append, h3 arg ha]

/-- outcome of an Insert/Update block: one that completes has logged the callback note of an
    Update (`y = some _`), and no other -/
def FlowU (t : Nat) (key : K) (f : Option V → V) (y : Option Bool) (new : List (Ev K V)) : Flow K V → Prop
  | .panic => True
  | .park p => ParkTr t (.up key f y) new p
  | .done res => res = .ok ∧ (y.isSome = true → (lastCb t new).isSome = true) ∧ cbN t new = b2n y.isSome

theorem FlowU.mono {t : Nat} {key : K} {f : Option V → V} {y : Option Bool} {new : List (Ev K V)} {fl : Flow K V}
    (pre : List (Ev K V)) (hq : pre.all silentB = true) (h : FlowU t key f y new fl) :
    FlowU t key f y (new ++ pre) fl := by
  cases fl with
  | panic => trivial
  | park p => exact ParkTr.mono pre hq h
  | done res =>
    refine ⟨h.1, ?_, by rw [cbN_append, cbN_of_silent t hq]; exact h.2.2⟩
    intro hy
    have := h.2.1 hy
    rw [lastCb_append]
    cases hl : lastCb t new with
    | none => rw [hl] at this; cases this
    | some a => rfl

def TrU (t : Nat) (key : K) (f : Option V → V) (y : Option Bool) (s : St K V) (r : St K V × Flow K V) : Prop :=
  ∃ new, r.1.evs = new ++ s.evs ∧ new.all (quietB t) = true ∧ FlowU t key f y new r.2

theorem TrU.of_pre {t : Nat} {key : K} {f : Option V → V} {y : Option Bool} {s s1 : St K V} {r : St K V × Flow K V}
    (pre : List (Ev K V)) (h1 : s1.evs = pre ++ s.evs) (hq : pre.all silentB = true)
    (h : TrU t key f y s1 r) : TrU t key f y s r := by
  obtain ⟨new, e, q, fl⟩ := h
  refine ⟨new ++ pre, ?_, ?_, fl.mono pre hq⟩
  · rw [e, h1, List.append_assoc]
  · rw [List.all_append, q, quiet_of_silent t hq]; rfl

theorem ParkTr.plain {t : Nat} {k' : Kont K V} {l : Lk} {new : List (Ev K V)} (hq : new.all silentB = true)
    (hc : cbArg k' = none) : ParkTr t (kontSig k') new (.want l k') :=
  ⟨k', rfl, rfl, (by rw [hc]; intro a ha; cases ha), cbN_of_silent t hq⟩

theorem upLeaf_tr (P : Params K) (t : Nat) (s : St K V) (key : K) (f : Option V → V) (y : Option Bool) (n : Nat)
    (l : Leaf K V) : TrU t key f y s (upLeaf P t s key f y n l) := by
  refine upLeaf_cases P t s key f y n l (Q := TrU t key f y s) ⟨[], rfl, rfl, trivial⟩ ?_ ?_ ?_
  · rintro rfl arg
    refine ⟨[Ev.note t (.cb arg)], rfl, by simp [quietB], .upCallback key f n arg, rfl, rfl, ?_, by simp [cbN, isCb, parkCb]⟩
    intro a ha
    simp only [cbArg, Option.some.injEq] at ha
    simp [lastCb, cbOf, ha]
  · rintro rfl arg l'
    exact ⟨[Ev.rel t (.node n), Ev.note t (.cb arg)], rfl, by simp [quietB], rfl, by simp [lastCb, cbOf], by simp [cbN, isCb, b2n]⟩
  · rintro rfl l'
    exact ⟨[Ev.rel t (.node n)], rfl, by simp [quietB], rfl, by simp, rfl⟩

theorem upContinue_tr (P : Params K) (t : Nat) (s : St K V) (key : K) (f : Option V → V) (y : Option Bool) (n : Nat) :
    TrU t key f y s (upContinue P t s key f y n) :=
  upContinue_cases P t s key f y n (Q := TrU t key f y s) ⟨[], rfl, rfl, trivial⟩ (upLeaf_tr P t s key f y n)
    (fun _ _ => ⟨[], rfl, rfl, ParkTr.plain rfl rfl⟩)

theorem upChildArrive_tr (P : Params K) (t : Nat) (s : St K V) (key : K) (f : Option V → V) (y : Option Bool)
    (parent index child : Nat) : TrU t key f y s (upChildArrive P t s key f y parent index child) :=
  upChildArrive_cases P t s key f y parent index child (Q := TrU t key f y s) ⟨[], rfl, rfl, trivial⟩
    (fun _ _ _ _ _ => TrU.of_pre [Ev.rel t (.node parent)] rfl rfl (upContinue_tr P t _ key f y child))
    (fun _ _ _ _ _ _ => ⟨[], rfl, rfl, ParkTr.plain rfl rfl⟩)

theorem upRootArrive_tr (P : Params K) (t : Nat) (s : St K V) (key : K) (f : Option V → V) (y : Option Bool)
    (root : Nat) : TrU t key f y s (upRootArrive P t s key f y root) :=
  upRootArrive_cases P t s key f y root (Q := TrU t key f y s) ⟨[], rfl, rfl, trivial⟩
    (fun _ _ => TrU.of_pre [Ev.rel t .tree] rfl rfl (upContinue_tr P t _ key f y root))
    (fun _ _ _ _ _ => ⟨[], rfl, rfl, ParkTr.plain rfl rfl⟩)

def FlowRO (t : Nat) (sc : Bool) (key : K) (new : List (Ev K V)) : Flow K V → Prop
  | .panic => True
  | .park p => ParkTr t (.ro sc key) new p
  | .done res => sc = false → ∃ v, res = .found v

theorem roArrive_tr (P : Params K) (t : Nat) (s : St K V) (sc : Bool) (key : K) (hold : Lk) (n : Nat) :
    ∃ new, (roArrive P t s sc key hold n).1.evs = new ++ s.evs ∧ new.all silentB = true ∧
      FlowRO t sc key new (roArrive P t s sc key hold n).2 :=
  roArrive_cases P t s sc key hold n
    (Q := fun r => ∃ new, r.1.evs = new ++ s.evs ∧ new.all silentB = true ∧ FlowRO t sc key new r.2)
    ⟨[Ev.rel t hold], rfl, rfl, trivial⟩
    (fun hsc _ => ⟨[Ev.rel t hold], rfl, rfl, fun h => by rw [h] at hsc; cases hsc⟩)
    (fun v => ⟨[Ev.rel t (.node n), Ev.rel t hold], rfl, rfl, fun _ => ⟨v, rfl⟩⟩)
    (fun _ => ⟨[Ev.rel t hold], rfl, rfl, _, rfl, rfl, (by intro a ha; cases ha), rfl⟩)

def DoneR (t : Nat) (k : Kont K V) (new : List (Ev K V)) (res : Res K V) : Prop :=
  match kontSig k with
  | .ro false _ => ∃ v, res = .found v
  | .ro true _ => True
  | .up _ _ y =>
    res = .ok ∧
      match cbArg k with
      | none => y.isSome = true → (lastCb t new).isSome = true
      | some _ => lastCb t new = none
  | .del _ => res = .ok
  | .other => True

def FlowR (t : Nat) (k : Kont K V) (new : List (Ev K V)) : Flow K V → Prop
  | .panic => True
  | .park p => (postK k = true → postP p = true) ∧ cbArg k = none ∧ ParkTr t (kontSig k) new p
  | .done res => DoneR t k new res

theorem FlowR.of_U {t : Nat} {k : Kont K V} {key : K} {f : Option V → V} {y : Option Bool} {new : List (Ev K V)}
    {fl : Flow K V} (hs : kontSig k = .up key f y) (hc : cbArg k = none) (h : FlowU t key f y new fl) :
    FlowR t k new fl := by
  cases fl with
  | panic => trivial
  | park p =>
    refine ⟨?_, hc, (by rw [hs]; exact h)⟩
    intro hp
    obtain ⟨key', hk'⟩ := postK_sig hp
    rw [hs] at hk'; cases hk'
  | done res =>
    show DoneR t k new res
    unfold DoneR
    rw [hs, hc]
    exact ⟨h.1, h.2.1⟩

def Grow (s s' : St K V) : Prop := ∃ pre, s'.evs = pre ++ s.evs ∧ pre.all silentB = true

theorem Grow.refl (s : St K V) : Grow s s := ⟨[], rfl, rfl⟩

theorem Grow.trans {s s1 s2 : St K V} (h1 : Grow s s1) (h2 : Grow s1 s2) : Grow s s2 := by
  obtain ⟨p1, e1, q1⟩ := h1
  obtain ⟨p2, e2, q2⟩ := h2
  exact ⟨p2 ++ p1, by rw [e2, e1, List.append_assoc], by rw [List.all_append, q1, q2]; rfl⟩

theorem Grow.rel (s : St K V) (t' : Nat) (l : Lk) : Grow s (s.rel t' l) := ⟨[Ev.rel t' l], rfl, rfl⟩

theorem Grow.acq (s : St K V) (t' : Nat) (l : Lk) : Grow s (s.acq t' l) := ⟨[Ev.acq t' l], rfl, rfl⟩

theorem relOpt_grow (t : Nat) (s : St K V) (o : Option Nat) : Grow s (relOpt t s o) := by
  cases o with
  | none => exact Grow.refl s
  | some r => exact Grow.rel s t _

theorem frameUnlock_grow (t : Nat) (s : St K V) (fr : Frame) (right : Option Nat) : Grow s (frameUnlock t s fr right) := by
  unfold frameUnlock
  exact ((relOpt_grow t s right).trans (Grow.rel _ t _)).trans (relOpt_grow t _ fr.left)

/-- outcome of a Delete block; `post`: the key has been removed, the block only unwinds -/
def FlowD (key : K) (post : Bool) : Flow K V → Prop
  | .panic => True
  | .park p => (post = true → postP p = true) ∧ ∃ k', p.kont? = some k' ∧ kontSig k' = .del key
  | .done res => res = .ok

def TrD (key : K) (post : Bool) (s : St K V) (r : St K V × Flow K V) : Prop :=
  Grow s r.1 ∧ FlowD key post r.2

theorem TrD.of_grow {key : K} {post : Bool} {s s1 : St K V} {r : St K V × Flow K V}
    (h1 : Grow s s1) (h : TrD key post s1 r) : TrD key post s r := ⟨h1.trans h.1, h.2⟩

theorem TrD.weaken {key : K} {s : St K V} {r : St K V × Flow K V}
    (h : TrD key true s r) : TrD key false s r := by
  refine ⟨h.1, ?_⟩
  have h2 := h.2
  revert h2
  cases r.2 with
  | panic => intro _; trivial
  | done res => intro h2; exact h2
  | park p => intro h2; exact ⟨(fun hp => by cases hp), h2.2⟩

theorem delFinish_tr (t : Nat) (key : K) (s : St K V) (small : Bool) (root : Nat) :
    TrD key true s (delFinish t s small root) :=
  delFinish_cases t s small root (Q := TrD key true s)
    fun _ _ => ⟨⟨[Ev.rel t .tree, Ev.rel t (.node root)], rfl, rfl⟩, rfl⟩

theorem Grow.setTree (s : St K V) (tr : Tree K V) : Grow s { s with tree := tr } := ⟨[], rfl, rfl⟩

theorem delUnwind_tr (P : Params K) (t : Nat) (key : K) (root : Nat) :
    ∀ (frames : List Frame) (s : St K V) (small : Bool), TrD key true s (delUnwind P t s key frames small root) := by
  intro frames
  induction frames with
  | nil => intro s small; rw [delUnwind_nil]; exact delFinish_tr t key s small root
  | cons fr rest ih =>
    intro s small
    exact delUnwind_cons_cases P t s key fr rest small root (Q := TrD key true s) ⟨Grow.refl s, trivial⟩
      (fun tr small' _ => .of_grow ((Grow.setTree s tr).trans (frameUnlock_grow t _ fr none)) (ih _ small'))
      (fun _ => ⟨Grow.refl s, fun _ => rfl, _, rfl, rfl⟩)

theorem delRightArrive_tr (P : Params K) (t : Nat) (s : St K V) (key : K) (rest : List Frame) (fr : Frame)
    (right root : Nat) : TrD key true s (delRightArrive P t s key rest fr right root) :=
  delRightArrive_cases P t s key rest fr right root (Q := TrD key true s) ⟨Grow.refl s, trivial⟩
    (fun tr small' _ => .of_grow ((Grow.setTree s tr).trans (frameUnlock_grow t _ fr (some right)))
      (delUnwind_tr P t key root rest _ small'))

theorem delGo_tr (P : Params K) (t : Nat) (s : St K V) (key : K) (frames : List Frame) (n root : Nat) :
    TrD key false s (delGo P t s key frames n root) :=
  delGo_cases P t s key frames n root (Q := TrD key false s) ⟨Grow.refl s, trivial⟩
    (fun _ small => .of_grow (Grow.setTree s _) (delUnwind_tr P t key root frames _ small).weaken)
    (fun _ _ => ⟨Grow.refl s, (fun h => by cases h), _, rfl, rfl⟩)
    (fun _ _ => ⟨Grow.refl s, (fun h => by cases h), _, rfl, rfl⟩)

theorem FlowR.of_D {t : Nat} {k : Kont K V} {key : K} {post : Bool} {new : List (Ev K V)}
    {fl : Flow K V} (hs : kontSig k = .del key) (hc : cbArg k = none) (hp : postK k = true → post = true)
    (hq : new.all silentB = true) (h : FlowD key post fl) : FlowR t k new fl := by
  cases fl with
  | panic => trivial
  | park p =>
    obtain ⟨h1, k', h2, h3⟩ := h
    have hcn : cbArg k' = none := by cases k' <;> first | rfl | cases h3
    exact ⟨fun hk => h1 (hp hk), hc, k', h2, (by rw [hs]; exact h3),
      (by rw [hcn]; intro arg ha; cases ha), by rw [cbN_of_silent t hq, parkCb_zero_of h2 hcn]⟩
  | done res =>
    show DoneR t k new res
    unfold DoneR
    rw [hs]
    exact h

/-- a stretch that completes has logged one callback note if it took an Update from "callback
    not yet invoked" to the end, none otherwise -/
def DoneCb (t : Nat) (k : Kont K V) (new : List (Ev K V)) : Flow K V → Prop
  | .done _ => cbN t new + kCb k = b2n (updK k)
  | _ => True

theorem resume_trace (P : Params K) (t : Nat) (s : St K V) (k : Kont K V) :
    ∃ new, (resume P t s k).1.evs = new ++ s.evs ∧ new.all (quietB t) = true ∧ FlowR t k new (resume P t s k).2 ∧
      DoneCb t k new (resume P t s k).2 := by
  have up : ∀ {s1 : St K V} {r : St K V × Flow K V} {key : K} {f : Option V → V} {y : Option Bool},
      kontSig k = .up key f y → cbArg k = none → TrU t key f y s1 r → ∀ pre, s1.evs = pre ++ s.evs →
      pre.all silentB = true →
      ∃ new, r.1.evs = new ++ s.evs ∧ new.all (quietB t) = true ∧ FlowR t k new r.2 ∧ DoneCb t k new r.2 := by
    intro s1 r key f y hs hc htr pre h1 hq
    obtain ⟨new, e, q, fl⟩ := TrU.of_pre pre h1 hq htr
    refine ⟨new, e, q, FlowR.of_U hs hc fl, ?_⟩
    revert fl
    cases r.2 with
    | done res => intro fl; show _ + _ = _; rw [kCb_of_cbArg hc, updK_of_sig hs]; exact fl.2.2
    | panic => intro _; trivial
    | park p => intro _; trivial
  have dl : ∀ {s1 : St K V} {r : St K V × Flow K V} {key : K} {post : Bool},
      kontSig k = .del key → cbArg k = none → (postK k = true → post = true) → TrD key post s1 r → Grow s s1 →
      ∃ new, r.1.evs = new ++ s.evs ∧ new.all (quietB t) = true ∧ FlowR t k new r.2 ∧ DoneCb t k new r.2 := by
    intro s1 r key post hs hc hp htr hg
    obtain ⟨⟨new, e, q⟩, fl⟩ := TrD.of_grow hg htr
    refine ⟨new, e, quiet_of_silent t q, FlowR.of_D hs hc hp q fl, ?_⟩
    cases r.2 with
    | done res => show _ + _ = _; rw [kCb_of_cbArg hc, cbN_of_silent t q]; unfold updK; rw [hs]; rfl
    | panic => trivial
    | park p => trivial
  cases k with
  | roTree sc key =>
    exact ⟨[Ev.acq t .tree], rfl, rfl,
      ⟨(by intro h; cases h), rfl, .plain rfl rfl⟩, trivial⟩
  | roNode sc key hold want =>
    dsimp only [resume]
    obtain ⟨new, e, q, fl⟩ := roArrive_tr P t (s.acq t (.node want)) sc key hold want
    have hq : (new ++ [Ev.acq t (.node want)]).all silentB = true := by rw [List.all_append, q]; rfl
    refine ⟨new ++ [Ev.acq t (.node want)], by rw [e, List.append_assoc]; rfl, quiet_of_silent t hq, ?_⟩
    revert fl
    cases (roArrive P t (s.acq t (.node want)) sc key hold want).2 with
    | panic => intro _; exact ⟨trivial, trivial⟩
    | park p =>
      intro fl
      exact ⟨⟨(by intro h; cases h), rfl, ParkTr.mono _ rfl fl⟩, trivial⟩
    | done res =>
      intro fl
      refine ⟨?_, by show _ + 0 = 0; rw [cbN_of_silent t hq]⟩
      show DoneR t _ _ res
      unfold DoneR
      cases sc with
      | true => trivial
      | false => exact fl rfl
  | upTree key f y =>
    exact ⟨[Ev.acq t .tree], rfl, rfl,
      ⟨(by intro h; cases h), rfl, .plain rfl rfl⟩, trivial⟩
  | upRoot key f y r =>
    dsimp only [resume]
    exact up rfl rfl (upRootArrive_tr P t _ key f y r) [Ev.acq t (.node r)] rfl rfl
  | upRootSib key f y root sib =>
    dsimp only [resume]
    exact up rfl rfl (upContinue_tr P t _ key f y sib) [Ev.rel t .tree, Ev.rel t (.node root), Ev.acq t (.node sib)] rfl rfl
  | upChild key f y parent index child =>
    dsimp only [resume]
    exact up rfl rfl (upChildArrive_tr P t _ key f y parent index child) [Ev.acq t (.node child)] rfl rfl
  | upSib key f y parent child sib =>
    dsimp only [resume]
    exact up rfl rfl (upContinue_tr P t _ key f y sib)
      [Ev.rel t (.node parent), Ev.rel t (.node child), Ev.acq t (.node sib)] rfl rfl
  | upCallback key f leaf arg =>
    exact resume_upCallback_cases P t s key f leaf arg
      (Q := fun r => ∃ new, r.1.evs = new ++ s.evs ∧ new.all (quietB t) = true ∧
        FlowR t (.upCallback key f leaf arg) new r.2 ∧ DoneCb t (.upCallback key f leaf arg) new r.2)
      ⟨[], rfl, rfl, trivial, trivial⟩ (fun _ => ⟨[Ev.rel t (.node leaf)], rfl, rfl, ⟨rfl, rfl⟩, rfl⟩)
  | hop cur next =>
    exact ⟨[Ev.rel t (.node cur), Ev.acq t (.node next)], rfl, rfl, trivial, rfl⟩
  | paused => exact ⟨[], rfl, rfl, trivial, rfl⟩
  | delTree key =>
    exact ⟨[Ev.acq t .tree], rfl, rfl,
      ⟨(by intro h; cases h), rfl, .plain rfl rfl⟩, trivial⟩
  | delRoot key r =>
    dsimp only [resume]
    exact dl rfl rfl (by intro h; cases h) (delGo_tr P t _ key [] r r) (Grow.acq s t _)
  | delLeft key frames node index left root =>
    exact resume_delLeft_cases P t s key frames node index left root
      (Q := fun r => ∃ new, r.1.evs = new ++ s.evs ∧ new.all (quietB t) = true ∧
        FlowR t (.delLeft key frames node index left root) new r.2 ∧
        DoneCb t (.delLeft key frames node index left root) new r.2)
      ⟨[Ev.acq t (.node left)], rfl, rfl, trivial, trivial⟩
      (fun _ => ⟨[Ev.acq t (.node left)], rfl, rfl, ⟨(by intro h; cases h), rfl, .plain rfl rfl⟩, trivial⟩)
  | delChild key frames node index left child root =>
    dsimp only [resume]
    exact dl rfl rfl (by intro h; cases h) (delGo_tr P t _ key _ child root) (Grow.acq s t _)
  | delRight key rest fr right root =>
    dsimp only [resume]
    exact dl rfl rfl (fun _ => rfl) (delRightArrive_tr P t _ key rest fr right root) (Grow.acq s t _)

def KontFor : COp K V → Kont K V → Prop
  | .ins key v, k => kontSig k = .up key (fun _ => v) none
  | .upd key g b, k => kontSig k = .up key g (some b)
  | .get key, k => kontSig k = .ro false key
  | .ns key, k => kontSig k = .ro true key
  | .del key, k => kontSig k = .del key
  | _, k => kontSig k = .other

def sigOf : COp K V → KSig K V
  | .ins key v => .up key (fun _ => v) none
  | .upd key g b => .up key g (some b)
  | .get key => .ro false key
  | .ns key => .ro true key
  | .del key => .del key
  | _ => .other

theorem kontFor_iff {cop : COp K V} {k : Kont K V} : KontFor cop k ↔ kontSig k = sigOf cop := by
  cases cop <;> exact Iff.rfl

def FlowStart (cop : COp K V) : Flow K V → Prop
  | .panic => True
  | .park p => ∃ k, p.kont? = some k ∧ KontFor cop k ∧ cbArg k = none ∧ postP p = false
  | .done _ => opOf cop = none

theorem firstKont_for {op : COp K V} {k : Kont K V} (h : firstKont op = some k) : KontFor op k ∧ cbArg k = none ∧ postK k = false := by
  cases op <;> simp only [firstKont, Option.some.injEq, reduceCtorEq] at h <;> subst h <;> exact ⟨rfl, rfl, rfl⟩

theorem CursorOut.tr {t : Nat} {s : St K V} {op : COp K V} {r : St K V × Flow K V} (h : CursorOut t s op r) :
    ∃ new, r.1.evs = new ++ s.evs ∧ new.all silentB = true ∧ FlowStart op r.2 := by
  cases h with
  | skip hop => rcases hop with rfl | rfl <;> exact ⟨[], rfl, rfl, rfl⟩
  | panicNoLeaf => exact ⟨[], rfl, rfl, trivial⟩
  | panicNeg => exact ⟨[], rfl, rfl, trivial⟩
  | panicNoEntry => exact ⟨[], rfl, rfl, trivial⟩
  | scanEnd => exact ⟨[Ev.rel t (.node _)], rfl, rfl, rfl⟩
  | scanHop => exact ⟨[], rfl, rfl, _, rfl, rfl, rfl, rfl⟩
  | scanNext => exact ⟨[], rfl, rfl, rfl⟩
  | pair => exact ⟨[], rfl, rfl, rfl⟩
  | closeNone => exact ⟨[], rfl, rfl, rfl⟩
  | close =>
    rename_i leaf? _ _
    cases leaf? with
    | none => exact ⟨[], rfl, rfl, rfl⟩
    | some leaf => exact ⟨[Ev.rel t (.node leaf)], rfl, rfl, rfl⟩

theorem startOp_tr (t : Nat) (s : St K V) (op : COp K V) :
    ∃ new, (startOp t s op).1.evs = new ++ s.evs ∧ new.all silentB = true ∧ FlowStart op (startOp t s op).2 :=
  startOp_cases t s op (Q := fun r => ∃ new, r.1.evs = new ++ s.evs ∧ new.all silentB = true ∧ FlowStart op r.2)
    (fun _ _ _ => ⟨[], rfl, rfl, trivial⟩) (fun k hk _ => ⟨[], rfl, rfl, k, rfl, firstKont_for hk⟩) (fun _ _ h => h.tr)
    (fun e => by subst e; exact ⟨[], rfl, rfl, _, rfl, rfl, rfl, rfl⟩)

end Gobptree.Conc
