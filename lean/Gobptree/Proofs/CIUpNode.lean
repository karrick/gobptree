/-
  Node-level facts for the separator invariant in the Insert/Update blocks: the witness of
  `upChild`, the halves of a split node, the key below the first separator of a node (`LowN`, the
  ground of the running thread's witness), the lowered first separator.
-/
import Gobptree.Proofs.CIUpBase
import Gobptree.Proofs.CBlockUp

namespace Gobptree.Conc
open Gobptree

variable {K V : Type} {lt : K → K → Bool}

theorem kontWit_upChild {key : K} {f : Option V → V} {y : Option Bool} {parent index child r : Nat} {x : K}
    (h : kontWit (.upChild key f y parent index child) r x) : r = parent ∧ x = key ∧ index = 0 := by
  cases index with
  | zero => exact ⟨h.1, h.2, rfl⟩
  | succ n => exact absurd h id

theorem smallest_headN : ∀ {d : Nat} (n : Node K V (d + 1)) (s : K), Node.smallest n = .ok s → headN (d + 1) n = some s := by
  intro d (n : Inner K (Node K V d)) s h
  have h' : (match n.runts with | [] => (throw Panic.noChildren : R K) | k :: _ => pure k) = .ok s := h
  show n.runts.head? = some s
  cases hr : n.runts with
  | nil => rw [hr] at h'; cases h'
  | cons k rest =>
    rw [hr] at h'
    have : k = s := by injection h'
    rw [this]; rfl

theorem sepFact_self (h : SWO lt) (Wit : Nat → K → Prop) {d : Nat} (r : Node K V d) (rs : K)
    (hs : Node.smallest r = .ok rs) : SepFact lt Wit d r rs := by
  cases d with
  | zero => trivial
  | succ d => exact (SepFact_iff_headN ..).2 (Or.inl ⟨rs, smallest_headN r rs hs, h.eqv_refl rs⟩)

theorem isSplit_headN {hh fresh : Nat} (hpos : 1 ≤ hh) {d : Nat} {n l r : Node K V d} (h : IsSplit hh fresh n l r) :
    headN d l = headN d n := by
  cases d with
  | zero => rfl
  | succ d =>
    obtain ⟨rfl, -, -, -⟩ := h
    exact List.head?_take.trans (if_neg (Nat.ne_of_gt hpos))

theorem isepN_split (Wit : Nat → K → Prop) {hh fresh : Nat} {d : Nat} {n l r : Node K V d}
    (h : IsSplit hh fresh n l r) (hI : ISepN lt Wit d n) : ISepN lt Wit d l ∧ ISepN lt Wit d r := by
  cases d with
  | zero => exact ⟨trivial, trivial⟩
  | succ d =>
    obtain ⟨rfl, rfl, hk, hv⟩ := h
    rw [ISepN_succ Wit (d := d) n, zip_halves _ _ hk hv] at hI
    exact ⟨(ISepN_succ ..).2 fun e he => hI e (List.mem_append_left _ he),
      (ISepN_succ ..).2 fun e he => hI e (List.mem_append_right _ he)⟩

/-- the ground of the witness an Insert/Update holds between lowering the separator above `c` to its key
    and lowering the first separator of `c` -/
def LowN (lt : K → K → Bool) (key : K) (d : Nat) (c : Node K V d) : Prop :=
  ∃ s', headN d c = some s' ∧ lt key s' = true

/-- the key goes to the right half of a split: it was not below the first separator -/
theorem not_lowN_of_right (hsw : SWO lt) {key rs s0 : K} {d : Nat} {c l : Node K V d} (hh : headN d l = headN d c)
    (hsml : Node.smallest l = .ok s0) (h0 : lt s0 rs = true) (hk : lt key rs = false) : ¬ LowN lt key d c := by
  rintro ⟨s', hs', hlt⟩
  cases d with
  | zero => cases hs'
  | succ d =>
    rw [← hh, smallest_headN l s0 hsml] at hs'
    cases hs'
    exact Bool.false_ne_true (hk.symm.trans (hsw.trans _ _ _ hlt h0))

theorem lowKey_cases (key : K) (rA : List K) (k : K) :
    (rA = [] ∧ lt key k = true ∧ lowKey lt key rA k = key) ∨ ((rA = [] → lt key k = false) ∧ lowKey lt key rA k = k) := by
  unfold lowKey
  by_cases c : rA = [] ∧ lt key k = true
  · exact Or.inl ⟨c.1, c.2, if_pos c⟩
  · exact Or.inr ⟨fun e => Bool.eq_false_iff.2 fun hk => c ⟨e, hk⟩, if_neg c⟩

/-- either the old equivalence, or the running thread is the witness -/
theorem sepFact_lowered (h : SWO lt) (W : Nat → K → Prop) {d : Nat} (c c' : Node K V d) (key k : K) (rA : List K)
    (child : Nat) (hid : Node.id c' = child) (hh : headN d c' = headN d c)
    (hfact : SepFact lt (fun _ _ => False) d c k) :
    SepFact lt (fun r x => W r x ∨ (r = child ∧ x = key ∧ LowN lt key d c)) d c' (lowKey lt key rA k) := by
  cases d with
  | zero => trivial
  | succ d =>
    rw [SepFact_iff_headN] at hfact ⊢
    obtain ⟨s', hs', he⟩ := hfact.resolve_right id
    rcases lowKey_cases (lt := lt) key rA k with ⟨-, hc, hl⟩ | ⟨-, hl⟩ <;> rw [hl]
    · exact Or.inr (Or.inr ⟨hid, rfl, s', hs', (h.lt_congr_right he).symm.trans hc⟩)
    · exact Or.inl ⟨s', hh.trans hs', he⟩

/-- the fact the parent's parent states about the parent after the lowering -/
theorem face_low (h : SWO lt) (key s k : K) (rA rB X : List K) (hle : lt key s = false)
    (hlo : rA = [] → lt k s = false)
    (hfact : (∃ s', (rA ++ k :: rB).head? = some s' ∧ eqv lt s s' = true) ∨ (s = key ∧ rA = [])) :
    ∃ s', (rA ++ lowKey lt key rA k :: X).head? = some s' ∧ eqv lt s s' = true := by
  cases rA with
  | cons a rA => exact hfact.elim id (fun e => nomatch e.2)
  | nil =>
    rcases lowKey_cases (lt := lt) key [] k with ⟨-, hc, hl⟩ | ⟨hc, hl⟩ <;> rw [hl]
    · rcases hfact with ⟨s', hs', he⟩ | ⟨e, -⟩
      · -- the separator above is equivalent to the first separator, and the key is not below it
        cases hs'
        exact absurd ((h.lt_congr_right he).trans hc) (hle ▸ Bool.false_ne_true)
      · exact ⟨key, rfl, e ▸ h.eqv_refl s⟩
    · rcases hfact with hf | ⟨e, -⟩
      · exact hf
      · refine ⟨k, rfl, ?_⟩
        rw [eqv, e, hc rfl, ← e, hlo rfl]
        rfl

end Gobptree.Conc
