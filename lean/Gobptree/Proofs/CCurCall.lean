/-
  C04, one statement per cursor call.  A cursor RESTS (`Rest`) when it is open, inside its leaf and
  positioned for a bound `b` on the tree `T` its thread works on.  `scan_rest` / `pair_rest` say what
  `Scan` / `Pair` do to a resting cursor: the result of `startOp`, what lies ahead afterwards, and how
  the cursor rests (or waits for the hop) then.  The invariant (`startOp_curI`), the per-step theorems
  (`exec_scan`, `exec_pair`) and the session invariant (`scan_sloopI`, `pair_sloopI`) read them.
-/
import Gobptree.Proofs.CCurStep

namespace Gobptree.Conc
open Gobptree

variable {K V : Type} {lt : K → K → Bool}

structure Rest (lt : K → K → Bool) (T : Tree K V) (s : St K V) (b : Bound K) (leaf : Nat) (i : Int) : Prop where
  tree : s.tree = T
  cur : s.cursor = some (some leaf, i)
  exh : s.exhausted = false
  cok : CursorOk T false (some (some leaf, i))
  pos : CurPosW lt T b leaf i

theorem CurPos.cursorOk {T : Tree K V} {c : K} {leaf : Nat} {i : Int} (h : CurPos lt T (.gt c) leaf i) :
    CursorOk T false (some (some leaf, i)) := by
  obtain ⟨sh, hl, h0, _, j, hj, hk⟩ := h
  refine ⟨sh, hl, h0, hj ▸ Int.le_trans (by decide) (Int.ofNat_zero_le j), ?_⟩
  show i < (sh.keys.length : Int)
  exact hj ▸ Int.ofNat_lt.2 (List.getElem?_eq_some_iff.1 hk).1

theorem Rest.curPos (h : SWO lt) {T : Tree K V} {hole : Option Nat} (hok : TreeOk hole T) (hord : OrdTree lt T)
    {s : St K V} {b : Bound K} {leaf : Nat} {i : Int} (R : Rest lt T s b leaf i) : CurPos lt T b leaf i :=
  R.pos.strengthen h hok hord R.cok

theorem scan_rest (h : SWO lt) (t : Nat) {T : Tree K V} {hole : Option Nat} (hok : TreeOk hole T)
    (hord : OrdTree lt T) {s : St K V} {b : Bound K} {leaf : Nat} {i : Int} (R : Rest lt T s b leaf i) :
    ∃ sh, T.look leaf = some sh ∧ sh.height = 0 ∧ CurPos lt T b leaf i ∧
      ((startOp t s .scan = ({ s with cursor := some (some leaf, i + 1) }, .done (.bool true)) ∧
          ∃ k v, sh.keys[(i + 1).toNat]? = some k ∧ sh.vals[(i + 1).toNat]? = some v ∧
            T.ahead leaf i = (k, v) :: T.ahead leaf (i + 1) ∧ CurPos lt T (.gt k) leaf (i + 1)) ∨
        (startOp t s .scan =
            ({ (s.rel t (.node leaf)) with cursor := some (none, i + 1), exhausted := true }, .done (.bool false)) ∧
          T.ahead leaf i = []) ∨
        (∃ nx, startOp t s .scan =
            ({ s with cursor := some (some leaf, i + 1) }, .park (.want (.node nx) (.hop leaf nx))) ∧
          T.ahead leaf (i + 1) = T.ahead leaf i ∧ CursorOk T true (some (some leaf, i + 1)) ∧
          CurPosW lt T b leaf (i + 1))) := by
  have hs := R.curPos h hok hord
  obtain ⟨hT, hcur, hex, ⟨sh, hl, h0, hi, hlt⟩, hb⟩ := R
  subst hT
  have hlt' : i < (sh.keys.length : Int) := hlt
  refine ⟨sh, hl, h0, hs, ?_⟩
  rcases Int.lt_or_eq_of_le (Int.add_one_le_of_lt hlt') with h1 | h1
  · obtain ⟨e, k, v, hk, hv, ha⟩ := scan_inleaf t s hok hcur hex hl h0 hi h1
    have hcp := curPos_gt h hok hord hl h0 hk
    rw [Int.toNat_of_nonneg (Int.add_le_add_right hi 1)] at hcp
    exact .inl ⟨e, k, v, hk, hv, ha, hcp⟩
  · cases h2 : sh.next with
    | none => exact .inr (.inl (scan_exhaust t s hok hcur hex hl h0 h1 h2))
    | some nx =>
      obtain ⟨e, ha⟩ := scan_park t s hok hcur hex hl h0 h1 h2
      have hco : CursorOk s.tree true (some (some leaf, i + 1)) := ⟨sh, hl, h0, Int.le_add_one hi, h1⟩
      exact .inr (.inr ⟨nx, e, ha, hco, hb.park_at_end hco⟩)

theorem pair_rest (t : Nat) {T : Tree K V} {hole : Option Nat} (hok : TreeOk hole T)
    {s : St K V} {b : Bound K} {leaf : Nat} {i : Int} (R : Rest lt T s b leaf i) (hi : 0 ≤ i) :
    ∃ sh k v, T.look leaf = some sh ∧ startOp t s .pair = (s, .done (.pair k v)) ∧
      sh.keys[i.toNat]? = some k ∧ sh.vals[i.toNat]? = some v ∧ (k, v) ∈ T.abs := by
  obtain ⟨hT, hcur, hex, ⟨sh, hl, h0, _, hlt⟩, _⟩ := R
  subst hT
  obtain ⟨k, v, e, hk, hv, hm⟩ := pair_spec t s hok hcur hex hl h0 hi hlt
  exact ⟨sh, k, v, hl, e, hk, hv, hm⟩

theorem ns_arrive (P : Params K) (hK : KParams lt P) (t : Nat) (s : St K V) (key : K) (hold : Lk) (want : Nat)
    {hole : Option Nat} (hok : TreeOk hole s.tree) (hord : OrdTree lt s.tree)
    (hk : KontOk s.tree (.roNode true key hold want)) (hpos : KPos lt s.tree (.roNode true key hold want)) :
    (resume P t s (.roNode true key hold want)).1.tree = s.tree ∧
    (((resume P t s (.roNode true key hold want)).1.cursor = s.cursor ∧
        ((resume P t s (.roNode true key hold want)).2 = .panic ∨
          ∃ c, (resume P t s (.roNode true key hold want)).2 = .park (.want (.node c) (.roNode true key (.node want) c)))) ∨
      ∃ i, (resume P t s (.roNode true key hold want)).2 = .done .ok ∧
        (resume P t s (.roNode true key hold want)).1.cursor = some (some want, i) ∧
        (resume P t s (.roNode true key hold want)).1.exhausted = false ∧
        CurPos lt s.tree (.ge key) want i) := by
  have e : resume P t s (.roNode true key hold want) = roArrive P t (s.acq t (.node want)) true key hold want := rfl
  rw [e]
  refine ⟨roArrive_tree P t (s.acq t (.node want)) true key hold want, ?_⟩
  rcases roArrive_scanner_cases P t (s.acq t (.node want)) key hold want with h | ⟨c, h⟩ | ⟨l, hf, h⟩
  · exact .inl ⟨by rw [h]; rfl, .inl (by rw [h])⟩
  · exact .inl ⟨by rw [h]; rfl, .inr ⟨c, by rw [h]⟩⟩
  · have hf0 : s.tree.find want = some ⟨0, l⟩ := hf
    obtain ⟨l', hf', _, _, _, hcp, _⟩ := resume_newScanner P hK t s key hold want hok hord hk hpos
      (find_leaf_look hf0).2 (shallow_height (d := 0) l)
    rw [hf0] at hf'; cases hf'
    exact .inr ⟨_, by rw [h], by rw [h], by rw [h], hcp⟩

end Gobptree.Conc
