/-
  Splitting a node: the two halves `maybeSplit` makes of a full node, as terms (`IsSplit`), and
  what the structural layer reads off them (`SplitOut`: identities, own fields, flat views,
  occupancy; `split_mid`), writing a parent back around a rewritten window of its children
  (`putInner_step`), and the root split (`rootSplit_step`).
-/
import Gobptree.Proofs.CSUpNode
import Gobptree.Proofs.CSUpBase

namespace Gobptree.Conc
open Gobptree

variable {K V : Type}

/-- `l`, `r` are the halves `maybeSplit` makes of a node with `hh + hh` entries, as terms -/
def IsSplit (hh fresh : Nat) : {d : Nat} → Node K V d → Node K V d → Node K V d → Prop
  | 0, (n : Leaf K V), (l : Leaf K V), (r : Leaf K V) =>
    l = (Leaf.mk n.id (n.keys.take hh) (n.vals.take hh) (some fresh) : Leaf K V) ∧
    r = (Leaf.mk fresh (n.keys.drop hh) (n.vals.drop hh) n.next : Leaf K V) ∧
    n.keys.length = hh + hh ∧ n.vals.length = hh + hh
  | d + 1, (n : Inner K (Node K V d)), (l : Inner K (Node K V d)), (r : Inner K (Node K V d)) =>
    l = (Inner.mk n.id (n.runts.take hh) (n.kids.take hh) : Inner K (Node K V d)) ∧
    r = (Inner.mk fresh (n.runts.drop hh) (n.kids.drop hh) : Inner K (Node K V d)) ∧
    n.runts.length = hh + hh ∧ n.kids.length = hh + hh

theorem IsSplit_view {hh fresh d : Nat} {n l r : Node K V d} : IsSplit hh fresh n l r ↔
    l = Node.put n ((Node.keys n).take hh) ((Node.ents n).take hh) (Node.splitNext d fresh) ∧
    r = Node.make fresh ((Node.keys n).drop hh) ((Node.ents n).drop hh) (Node.nxt n) ∧
    (Node.keys n).length = hh + hh ∧ (Node.ents n).length = hh + hh := by
  cases d <;> exact Iff.rfl

theorem isSplit_ids {hh fresh : Nat} : ∀ {d : Nat} {n l r : Node K V d}, IsSplit hh fresh n l r →
    Node.id l = Node.id n ∧ Node.id r = fresh := by
  intro d n l r h
  obtain ⟨rfl, rfl, -, -⟩ := IsSplit_view.1 h
  exact ⟨Node.id_put .., Node.id_make ..⟩

theorem isSplit_idsOf {hh fresh : Nat} : ∀ {d : Nat} {n l r : Node K V d}, IsSplit hh fresh n l r →
    (∀ x ∈ idsOf l, x ∈ idsOf n) ∧ (∀ x ∈ idsOf r, x = fresh ∨ x ∈ idsOf n) := by
  intro d n l r h
  obtain ⟨rfl, rfl, -, -⟩ := IsSplit_view.1 h
  have hn : idsOf n = Node.id n :: (enids ((Node.ents n).take hh) ++ enids ((Node.ents n).drop hh)) := by
    rw [idsOf_view, ← enids_append, List.take_append_drop]
  rw [hn, idsOf_view, idsOf_view, Node.id_put, Node.id_make, Node.ents_put, Node.ents_make]
  exact ⟨fun x hx => (List.mem_cons.1 hx).elim (fun e => e ▸ List.mem_cons_self)
      fun hx => List.mem_cons_of_mem _ (List.mem_append_left _ hx),
    fun x hx => (List.mem_cons.1 hx).elim .inl fun hx => .inr (List.mem_cons_of_mem _ (List.mem_append_right _ hx))⟩

structure SplitOut (o fresh : Nat) {d : Nat} (n l r : Node K V d) : Prop where
  len : (shallow n).keys.length = o
  cut : IsSplit (o / 2) fresh n l r

namespace SplitOut

variable {o fresh d : Nat} {n l r : Node K V d}

theorem idl (h : SplitOut o fresh n l r) : Node.id l = Node.id n := (isSplit_ids h.cut).1

theorem idr (h : SplitOut o fresh n l r) : Node.id r = fresh := (isSplit_ids h.cut).2

theorem shl (h : SplitOut o fresh n l r) :
    shallow l = ⟨d, (shallow n).keys.take (o / 2), (shallow n).vals.take (o / 2),
                  if d = 0 then some fresh else none, (shallow n).kids.take (o / 2)⟩ := by
  obtain ⟨rfl, -, -, -⟩ := IsSplit_view.1 h.cut
  exact (shallow_halves fresh (o / 2) n).1

theorem shr (h : SplitOut o fresh n l r) :
    shallow r = ⟨d, (shallow n).keys.drop (o / 2), (shallow n).vals.drop (o / 2),
                  (shallow n).next, (shallow n).kids.drop (o / 2)⟩ := by
  obtain ⟨-, rfl, -, -⟩ := IsSplit_view.1 h.cut
  exact (shallow_halves fresh (o / 2) n).2

theorem tails (h : SplitOut o fresh n l r) :
    ∃ T1 T2, ftail n = T1 ++ T2 ∧ ftail l = T1 ∧ ftail r = T2 ∧ (d = 0 → T1 = [] ∧ T2 = []) := by
  obtain ⟨rfl, rfl, -, -⟩ := IsSplit_view.1 h.cut
  refine ⟨etail ((Node.ents n).take (o / 2)), etail ((Node.ents n).drop (o / 2)), ?_, ?_, ?_, ?_⟩
  · rw [ftail_view, ← etail_append, List.take_append_drop]
  · rw [ftail_view, Node.ents_put]
  · rw [ftail_view, Node.ents_make]
  · intro h0; subst h0; exact ⟨rfl, rfl⟩

theorem occ (h : SplitOut o fresh n l r) {m m' : Nat}
    (hocc : NodeOcc o m (shallow n)) (hm : m' ≤ o / 2) :
    NodeOcc o m' (shallow l) ∧ NodeOcc o m' (shallow r) ∧
      (shallow l).keys.length = o / 2 ∧ (shallow r).keys.length = o / 2 := by
  obtain ⟨rfl, rfl, hk, he⟩ := IsSplit_view.1 h.cut
  obtain ⟨-, -, -, h1⟩ := (occ_view n).1 hocc
  have hle : o / 2 ≤ o := Nat.div_le_self o 2
  have hone : d ≠ 0 → 1 ≤ o / 2 := fun h0 => Nat.pos_of_ne_zero fun e => by
    have := h1 h0
    rw [hk, e] at this
    exact Nat.not_succ_le_zero 0 this
  obtain ⟨kl, kr⟩ := length_halves _ hk
  obtain ⟨el, er⟩ := length_halves _ he
  refine ⟨(occ_view _).2 ?_, (occ_view _).2 ?_, ?_, ?_⟩
  · rw [Node.keys_put, Node.ents_put, kl, el]; exact ⟨hle, hm, rfl, hone⟩
  · rw [Node.keys_make, Node.ents_make, kr, er]; exact ⟨hle, hm, rfl, hone⟩
  · rw [← count_eq, Node.count_eq_keys, Node.keys_put]; exact kl
  · rw [← count_eq, Node.count_eq_keys, Node.keys_make]; exact kr

theorem sib_ok (h : SplitOut o fresh n l r) {t : Tree K V}
    (hi : IdsOk t) (hl : (Node.id l, shallow l) ∈ t.flat) (hr : (Node.id r, shallow r) ∈ t.flat)
    (hlen : (shallow r).keys.length < t.order) :
    notFull t fresh ∧ ∀ sh, t.look (Node.id n) = some sh → sh.height = 0 → sh.next = some fresh := by
  rw [h.idl] at hl
  rw [h.idr] at hr
  refine ⟨⟨_, mem_look hi hr, hlen⟩, fun sh hlk h0 => ?_⟩
  rw [mem_look hi hl] at hlk
  cases hlk
  rw [shallow_height] at h0
  rw [h.shl]
  exact if_pos h0

end SplitOut

theorem maybeSplit_cases (o fresh : Nat) (heven : o % 2 = 0) {d : Nat} (n : Node K V d) {m : Nat}
    (hocc : NodeOcc o m (shallow n)) :
    ((shallow n).keys.length < o ∧ Node.maybeSplit o fresh n = .ok (n, none)) ∨
    ∃ l r : Node K V d, Node.maybeSplit o fresh n = .ok (l, some r) ∧ SplitOut o fresh n l r := by
  obtain ⟨hle, -, hp, -⟩ := (occ_view n).1 hocc
  have hk : (shallow n).keys.length = (Node.keys n).length := by rw [← count_eq, Node.count_eq_keys]
  rw [hk]
  rcases maybeSplit_eval heven fresh n hle hp with h | ⟨hlen, hms⟩
  · exact .inl h
  · exact .inr ⟨_, _, hms, hk.trans hlen, IsSplit_view.2
      ⟨rfl, rfl, hlen.trans (half_add_half heven).symm, (hp ▸ hlen).trans (half_add_half heven).symm⟩⟩

theorem split_mid {H : List Lk} {hole : Option Nat} {t : Tree K V} {d : Nat} {c l r : Node K V d}
    (h : SplitOut t.order t.nextId c l r) (rootId' : Nat) (hH : Lk.node (Node.id c) ∈ H)
    (hoccl : NodeOcc t.order (minOf t.order rootId' hole (Node.id c) d) (shallow l))
    (hoccr : NodeOcc t.order (minOf t.order rootId' hole t.nextId d) (shallow r))
    (hoccT : ∀ q ∈ ftail c, NodeOcc t.order (minOf t.order rootId' hole q.1 q.2.height) q.2) :
    MidOk H hole t (t.nextId + 1) rootId' (flat c) (flat l ++ flat r) := by
  obtain ⟨T1, T2, hT, hT1, hT2, hT0⟩ := h.tails
  have hdl := shallow_height l
  have hdr := shallow_height r
  have hdc := shallow_height c
  rw [flat_eq_cons c, flat_eq_cons l, flat_eq_cons r, hT, hT1, hT2, h.idl, h.idr]
  rw [hT] at hoccT
  refine ⟨⟨[t.nextId], ?_, by simp, by simp⟩, ?_, ?_, ?_⟩
  · simp only [List.map_cons, List.map_append, List.cons_append, List.nil_append]
    exact List.perm_middle (l₁ := Node.id c :: T1.map Prod.fst)
  · intro q hq
    simp only [List.cons_append, List.mem_cons, List.mem_append] at hq
    rcases hq with rfl | hq | rfl | hq
    · simp only; rw [hdl]; exact hoccl
    · exact hoccT q (by simp [hq])
    · simp only; rw [hdr]; exact hoccr
    · exact hoccT q (by simp [hq])
  · cases d with
    | zero =>
      obtain ⟨rfl, rfl⟩ := hT0 rfl
      simp only [List.append_nil, List.cons_append, List.nil_append]
      rw [chainView_cons_leaf _ _ _ hdc, chainView_cons_leaf _ _ _ hdl, chainView_cons_leaf _ _ _ hdr]
      refine Or.inr ⟨[], [], Node.id c, (shallow c).next, t.nextId, rfl, ?_⟩
      rw [h.shl, h.shr]
      rfl
    | succ d =>
      left
      simp only [List.cons_append]
      rw [chainView_cons_inner _ _ _ (by rw [hdc]; omega), chainView_cons_inner _ _ _ (by rw [hdl]; omega),
        chainView_append, chainView_append, chainView_cons_inner _ _ _ (by rw [hdr]; omega)]
  · simp only [List.cons_append]
    apply frameEq_drop_head (keepOf_held H _ _ hH) (keepOf_held H _ _ hH)
    exact frameEq_append (FrameEq.refl _ _) (frameEq_drop_left (keepOf_fresh H _ _ (Nat.le_refl _)) (FrameEq.refl _ _))

theorem putInner_step {H : List Lk} {hole : Option Nat} {t : Tree K V} (hok : TreeOk hole t) {d : Nat}
    {p : Inner K (Node K V d)} (hfind : t.find p.id = some ⟨d + 1, p⟩) (hH : Lk.node p.id ∈ H)
    {A B mid mid' : List (Node K V d)} (hkids : p.kids = A ++ mid ++ B) {ru : List K}
    (hlen : ru.length = (A ++ mid' ++ B).length) (hge : p.runts.length ≤ ru.length) (hcap : ru.length ≤ t.order)
    {nid' : Nat} (hmid : MidOk H hole t nid' t.rootId (mid.flatMap flat) (mid'.flatMap flat))
    (hnid : t.nextId ≤ nid') :
    Step H hole t { putInner t (Inner.mk p.id ru (A ++ mid' ++ B)) with nextId := nid' } ∧
      (p.id, shallow (d := d + 1) (Inner.mk p.id ru (A ++ mid' ++ B))) ∈
        (putInner t (Inner.mk p.id ru (A ++ mid' ++ B))).flat ∧
      ∀ k ∈ A ++ mid' ++ B, (Node.id k, shallow k) ∈ (putInner t (Inner.mk p.id ru (A ++ mid' ++ B))).flat := by
  obtain ⟨L, R, hf, hf', hroot, hdepth, -, hord⟩ :=
    putInner_flat (Inner.mk p.id ru (A ++ mid' ++ B)) hfind hok.ids.1
  have hsub : ∀ q ∈ flat (d := d + 1) (Inner.mk p.id ru (A ++ mid' ++ B)),
      q ∈ (putInner t (Inner.mk p.id ru (A ++ mid' ++ B))).flat :=
    fun q hq => by rw [hf']; exact List.mem_append_left _ (List.mem_append_right _ hq)
  refine ⟨?_, hsub _ (self_mem_flat (d := d + 1) _), fun k hk =>
    hsub _ (List.mem_cons_of_mem _ (List.mem_flatMap.2 ⟨k, hk, self_mem_flat k⟩))⟩
  have hpsub : ∀ q ∈ flat (d := d + 1) p, q ∈ t.flat := fun q hq => mem_flat_of_find hfind hq
  obtain ⟨-, hmin, -, hin⟩ := hok.occ _ (hpsub _ (self_mem_flat (d := d + 1) p))
  obtain ⟨-, hone, -⟩ := hin (Nat.succ_pos d)
  rw [flat_inner p, hkids, List.flatMap_append, List.flatMap_append] at hf hpsub
  rw [flat_mk, List.flatMap_append, List.flatMap_append] at hf'
  refine Step.of_mid hok hf hf' hord (hroot.symm ▸ hmid.inner hH (Nat.succ_pos d) (Nat.succ_pos d) ?_ ?_) hnid
    (Or.inr ⟨hroot, hdepth⟩) (Or.inl hroot)
  · exact ⟨hcap, Nat.le_trans hmin hge, fun h0 => absurd h0 (Nat.succ_ne_zero d),
      fun _ => ⟨hlen.trans (List.length_map _).symm, Nat.le_trans hone hge, rfl⟩⟩
  · intro q hq
    exact hok.occ q (hpsub q (List.mem_cons_of_mem _ (hq.elim
      (fun h => List.mem_append_left _ (List.mem_append_left _ h)) (fun h => List.mem_append_right _ h))))

theorem minOf_congr_ne (o r r' : Nat) (hole : Option Nat) (id h : Nat) (h1 : id ≠ r) (h2 : id ≠ r') :
    minOf o r hole id h = minOf o r' hole id h := by
  unfold minOf
  rw [if_neg h1, if_neg h2]

theorem rootSplit_step {H : List Lk} {hole : Option Nat} {t : Tree K V} (hok : TreeOk hole t)
    {l r : Node K V t.depth} (h : SplitOut t.order t.nextId t.root l r) (ls rs : K)
    (hHt : Lk.tree ∈ H) (hHr : Lk.node t.rootId ∈ H) (t' : Tree K V)
    (ht' : t' = { order := t.order, depth := t.depth + 1,
                  root := (Inner.mk (t.nextId + 1) [ls, rs] [l, r] : Inner K (Node K V t.depth)),
                  nextId := t.nextId + 2 }) :
    Step H hole t t' ∧
      t'.flat = (t.nextId + 1, ⟨t.depth + 1, [ls, rs], [], none, [t.rootId, t.nextId]⟩) :: (flat l ++ flat r) ∧
      t'.rootId = t.nextId + 1 := by
  have hrootmem : (t.rootId, shallow t.root) ∈ t.flat := self_mem_flat t.root
  have hrlt : t.rootId < t.nextId := hok.ids.2 _ (List.mem_map.2 ⟨_, hrootmem, rfl⟩)
  have hoccR := hok.occ _ hrootmem
  have hflat : t.flat = (t.rootId, shallow t.root) :: ftail t.root := flat_eq_cons t.root
  have hhalf := h.occ (m' := t.order / 2) hoccR (Nat.le_refl _)
  have hflat' : t'.flat =
      (t.nextId + 1, ⟨t.depth + 1, [ls, rs], [], none, [t.rootId, t.nextId]⟩) :: (flat l ++ flat r) := by
    subst ht'
    show flat (d := t.depth + 1) (Inner.mk (t.nextId + 1) [ls, rs] [l, r] : Inner K (Node K V t.depth)) = _
    rw [flat_mk]
    simp only [List.flatMap_cons, List.flatMap_nil, List.append_nil]
    congr 1
    show (_, Shallow.mk _ _ _ _ [Node.id l, Node.id r]) = _
    rw [h.idl, h.idr]
    rfl
  have hroot' : t'.rootId = t.nextId + 1 := by subst ht'; rfl
  have hord' : t'.order = t.order := by subst ht'; rfl
  have hnid' : t'.nextId = t.nextId + 2 := by subst ht'; rfl
  have hmid : MidOk H hole t (t.nextId + 1) (t.nextId + 1) (flat t.root) (flat l ++ flat r) := by
    refine split_mid h (t.nextId + 1) hHr ?_ ?_ ?_
    · exact hhalf.1.mono (minOf_le _ _ _ _ _ (Nat.ne_of_lt (Nat.lt_succ_of_lt hrlt)))
    · exact hhalf.2.1.mono (minOf_le _ _ _ _ _ (Nat.ne_of_lt (Nat.lt_succ_self _)))
    · intro q hq
      have hqm : q ∈ t.flat := by rw [hflat]; exact List.mem_cons_of_mem _ hq
      have hqlt : q.1 < t.nextId := hok.ids.2 _ (List.mem_map.2 ⟨_, hqm, rfl⟩)
      have hqne : q.1 ≠ t.rootId := by
        have hn := hok.ids.1
        unfold Tree.ids at hn
        rw [hflat, List.map_cons, List.nodup_cons] at hn
        intro e
        exact hn.1 (e ▸ List.mem_map.2 ⟨_, hq, rfl⟩)
      rw [minOf_congr_ne _ _ t.rootId _ _ _ (Nat.ne_of_lt (Nat.lt_succ_of_lt hqlt)) hqne]
      exact hok.occ q hqm
  -- the new root: a fresh inner node with two entries, in front of the two halves
  have hmid' := hmid.fresh_cons (nid'' := t.nextId + 2) (f := t.nextId + 1)
    (sh := ⟨t.depth + 1, [ls, rs], [], none, [t.rootId, t.nextId]⟩) (Nat.le_succ _) (Nat.le_refl _)
    (Nat.lt_succ_self _) (Nat.succ_pos _)
    ⟨hok.order2, (by unfold minOf; rw [if_pos rfl, if_neg (Nat.succ_ne_zero _)]; exact Nat.le_refl 2),
      fun h0 => (by cases h0), fun _ => ⟨rfl, Nat.le_succ 1, rfl⟩⟩
  refine ⟨Step.of_mid (L := []) (R := []) hok (List.append_nil _).symm (hflat'.trans (List.append_nil _).symm) hord'
    (hroot'.symm ▸ hnid'.symm ▸ hmid') (hnid' ▸ Nat.le_add_right _ 2) (Or.inl hHt) (Or.inr ⟨rfl, rfl⟩), hflat', hroot'⟩

end Gobptree.Conc
