/-
  The tree-level steps of Delete — the rebalancing of one activation, the deletion in the leaf,
  the root collapse — as one record `DStep` for both layers: key order is kept and the plain
  intervals of the nodes the thread does not hold are kept or wider; and if the separator
  invariant held before, it holds afterwards (with the same witnesses) and those nodes keep
  their search paths.  `DStep` is reflexive and transitive, so a stretch of Delete is a `DStep`.
  Each step lemma shows `WidenG cl` for both `cl` from one argument: the plain intervals
  (`cl = false`) are the other writers' bounds, the clamped ones (`cl = true`) the readers' routes;
  a rebalancing keeps the clamped ones given `SepLe` at its window, void at `cl = false` and
  supplied by the separator invariant at `cl = true`.  The invariant stands in the records in its
  interface form `SepTreeN` (`SepN`, `headOK`: CIDelRids); the work is done on `ISepN` (`SepFact`:
  CIUpBase), `sepTreeN_iff` goes there and back.
-/
import Gobptree.Proofs.CIDelWin
import Gobptree.Proofs.CIUpTree
import Gobptree.Proofs.CIClamp
import Gobptree.Proofs.CKPar
import Gobptree.Proofs.CSDelStep
import Gobptree.Proofs.IdsDelete

namespace Gobptree.Conc
open Gobptree

variable {K V : Type} {lt : K → K → Bool}

structure IStep (lt : K → K → Bool) (Wit : Nat → K → Prop) (W : Nat → Prop) (t t' : Tree K V) : Prop where
  sep : SepTreeN lt Wit t'
  routes : RStab lt W t t'

theorem IStep.trans {Wit : Nat → K → Prop} {W : Nat → Prop} {t1 t2 t3 : Tree K V}
    (h1 : IStep lt Wit W t1 t2) (h2 : IStep lt Wit W t2 t3) : IStep lt Wit W t1 t3 :=
  ⟨h2.sep, h1.routes.trans h2.routes⟩

/-- `sep` asks of the witnesses only that none is about a node in `W`: the nodes a Delete rewrites
    are held, so no Insert/Update is lowering a first separator there -/
structure DStep (lt : K → K → Bool) (W : Nat → Prop) (t t' : Tree K V) : Prop where
  ord : OrdTree lt t'
  widen : Widen lt W t t'
  sep : ∀ Wit : Nat → K → Prop, (∀ r x, Wit r x → ¬ W r) → SepTreeN lt Wit t → IStep lt Wit W t t'

theorem DStep.refl (h : SWO lt) (W : Nat → Prop) {t : Tree K V} (hO : OrdTree lt t) : DStep lt W t t :=
  ⟨hO, Widen.refl h W t, fun _ _ hsep => ⟨hsep, RStab.refl W t⟩⟩

theorem DStep.trans (h : SWO lt) {W : Nat → Prop} {t1 t2 t3 : Tree K V} (h1 : DStep lt W t1 t2)
    (h2 : DStep lt W t2 t3) : DStep lt W t1 t3 :=
  ⟨h2.ord, Widen.trans h h1.widen h2.widen, fun Wit hWit hsep =>
    (h1.sep Wit hWit hsep).trans (h2.sep Wit hWit (h1.sep Wit hWit hsep).sep)⟩

/-- what a step lemma has to show: the plain intervals kept or wider, and, if the invariant held,
    the invariant and the clamped intervals (which are the routes: `rstab_of_widen`) -/
theorem DStep.of_widen (h : SWO lt) {W : Nat → Prop} {t t' : Tree K V}
    (hids : t.ids.Nodup) (hpar : ParTree t) (hO : OrdTree lt t)
    (hids' : t'.ids.Nodup) (hpar' : ParTree t') (hO' : OrdTree lt t') (hw : WidenG lt false W t t')
    (hsep : ∀ Wit : Nat → K → Prop, (∀ r x, Wit r x → ¬ W r) → SepTreeN lt Wit t →
      SepTreeN lt Wit t' ∧ WidenG lt true W t t') : DStep lt W t t' :=
  ⟨hO', hw.plain, fun Wit hWit hs =>
    ⟨(hsep Wit hWit hs).1, rstab_of_widen h (hsep Wit hWit hs).2 hids hpar hO hids' hpar' hO'⟩⟩

theorem rebalance_dstep (h : SWO lt) (P : Params K) (hp : PadOk P) {t : Tree K V} {n c index d : Nat}
    {i : Inner K (Node K V d)} (W : Nat → Prop)
    (hok : TreeOk' (some c) t) (hord : t.order = P.order) (hf : t.find n = some ⟨d + 1, i⟩)
    (hkid : t.kidAt n index = some c) (hsmall : isSmall t c) (hO : OrdTree lt t)
    (hWn : W n) (hWk : ∀ j x, t.kidAt n j = some x → index ≤ j + 1 → j ≤ index + 1 → W x)
    {child : Node K V d} {i' : Inner K (Node K V d)} {small' : Bool}
    (hc : i.kids[index]? = some child)
    (heval : rebalance P {} (P.order >>> 1) i index child = .ok (i', small')) (hids' : (putInner t i').ids.Nodup) :
    DStep lt W t (putInner t i') ∧ (putInner t i').abs = t.abs := by
  have hids := hok.ids.1
  have hpar : ParTree t := parTree_of_treeOk' hok
  obtain ⟨child0, hc0, _, hin, _⟩ := rebIn_of_tree hok hf hkid hsmall
  rw [hc] at hc0
  cases hc0
  rw [shiftRight_one_eq, ← hord] at heval
  obtain ⟨lo', hi', PL, PR, z⟩ := Tree.zoom h hf hids hpar hO
  have hidn : i.id = n := (find_facts hf).1
  obtain ⟨hid, hO', hP', hpairs⟩ := rebalance_node h P hp t.order i index child hin lo' hi' z.ord z.par i' small' heval
  have hid' : i'.id = n := hid.trans hidn
  obtain ⟨hOt, hpar', habs⟩ := z.putInnerAt i' hid' hO' hP'
  have hw : ∀ cl : Bool, (cl = true → ∀ j k2 c2, i.runts[j]? = some k2 → i.kids[j]? = some c2 → index ≤ j →
      j ≤ index + 1 → SepLe lt k2 d c2) → WidenG lt cl W t (putInner t i') := by
    intro cl hsep
    -- of the structural rewrite only `out.rw.idmem` is needed: the identities below `i'` are among those below `i`
    obtain ⟨i'', small'', wr, new, heval2, out⟩ := rebalance_rw P hp t.order i index child hin
    rw [heval] at heval2
    injection heval2 with heval2
    injection heval2 with e1 _
    subst e1
    obtain ⟨⟨a, b⟩, hb⟩ := gbounds_present cl n t.depth t.root none none hpar
      (idsOf_sub_of_find hf _ (hidn ▸ id_mem_idsOf (d := d + 1) i))
    have hkW : ∀ j k, i.kids[j]? = some k → index ≤ j + 1 → j ≤ index + 1 → W (Node.id k) :=
      fun j k hk h1 h2 => hWk j _ (kidAt_of_kid hf hk) h1 h2
    subst hid'
    refine Tree.widen_modify h cl hf hids hpar hb _ i' (putInner_apply i' i) W (fun x _ hx => out.rw.idmem x hx) ?_
    intro x hx
    exact rebalance_widen_g h P hp t.order i index child hin lo' hi' z.ord z.par cl hsep i' small' heval a b x
      (fun e => hx (e ▸ hidn ▸ hWn)) (fun j k hk h1 h2 e => hx (e ▸ hkW j k hk h1 h2))
  refine ⟨DStep.of_widen h hids hpar hO hids' hpar' hOt (hw false fun e => nomatch e) fun Wit hWit hsep => ?_,
    by rw [habs, z.abs, hpairs]⟩
  have hroot := (sepTreeN_iff hpar).1 hsep
  have hsi : ISepN lt Wit (d + 1) i := ISepN_find Wit hf hids hpar hroot
  -- the kids at the window are held, so no lowering is in progress there
  have hWk' : ∀ j k, i.kids[j]? = some k → index ≤ j + 1 → j ≤ index + 1 → ∀ x, ¬ Wit (Node.id k) x := by
    intro j k hk h1 h2 x hw
    exact hWit _ x hw (hWk j _ (kidAt_of_kid hf hk) h1 h2)
  obtain ⟨-, r1, r2⟩ := rebalance_inode h P hp t.order i index child hin lo' hi' z.ord z.par Wit hsi i' small' heval
  have hf' : t.find i'.id = some ⟨d + 1, i⟩ := by rw [hid']; exact hf
  refine ⟨(sepTreeN_iff hpar').2 ?_, hw true fun _ => window_sepLe h Wit i index hsi hWk'⟩
  exact putInner_isepN i' hf' (hid' ▸ z.tree_bounds) hids hpar Wit Wit hroot (fun _ _ _ hw => hw) r2
    (fun _ _ => SepFact.congr hid r1)

theorem leaf_widen_g (h : SWO lt) (cl : Bool) {t : Tree K V} {n : Nat} {l : Leaf K V}
    (W : Nat → Prop) (hids : t.ids.Nodup) (hpar : ParTree t) (hf : t.find n = some ⟨0, l⟩) (hW : W n)
    (l' : Leaf K V) (hid' : l'.id = n) : WidenG lt cl W t (putLeaf t l') := by
  have hidn : l.id = n := (find_facts hf).1
  subst hid'
  obtain ⟨⟨a, b⟩, hb⟩ := gbounds_present cl l'.id t.depth t.root none none hpar
    (idsOf_sub_of_find hf _ (by rw [← hidn]; exact id_mem_idsOf (d := 0) l))
  refine Tree.widen_modify h cl hf hids hpar hb (leafFn l') l' (putLeaf_apply l' l) W (fun x _ hx => ?_) (fun x hx => ?_)
  · rw [idsOf_zero l, hidn]; exact hx
  · have hxn : l'.id ≠ x := fun e => hx (e ▸ hW)
    rw [gbounds_zero_ne cl x _ _ l (hidn ▸ hxn), gbounds_zero_ne cl x _ _ l' hxn]
    rfl

theorem leaf_dstep (h : SWO lt) (P : Params K) (hP : P.lt = lt) {t : Tree K V} {n : Nat} {l : Leaf K V}
    (W : Nat → Prop) (hok : TreeOk' none t) (hf : t.find n = some ⟨0, l⟩)
    (hO : OrdTree lt t) (key : K) (hon : OnRoute lt t key n) (hW : W n) (minSize : Nat)
    {l' : Leaf K V} {small : Bool} (hd : Leaf.deleteKey P l minSize key = .ok (l', small))
    (hids' : (putLeaf t l').ids.Nodup) :
    DStep lt W t (putLeaf t l') ∧ (putLeaf t l').abs = Spec.erase lt t.abs key := by
  have hids := hok.ids.1
  have hpar : ParTree t := parTree_of_treeOk' hok
  obtain ⟨hidn, hlook, _⟩ := find_facts hf
  have hidn : l.id = n := hidn
  have hlen : l.keys.length = l.vals.length :=
    (par_leaf l).1 (hok.occ (n, shallow (d := 0) l) (look_mem hlook)).par
  have hf0 : t.find l.id = some ⟨0, l⟩ := by rw [hidn]; exact hf
  obtain ⟨hOt, hpar', habs, _, hid', _⟩ := putLeaf_delete h P hP l hf0 hids hpar hO hlen minSize key
    (by rw [hidn]; exact hon) l' small hd
  have hf' : t.find l'.id = some ⟨0, l⟩ := by rw [hid']; exact hf0
  have hw := fun cl => leaf_widen_g h cl W hids hpar hf hW l' (hid'.trans hidn)
  exact ⟨DStep.of_widen h hids hpar hO hids' hpar' hOt (hw false) fun Wit _ hsep =>
    ⟨(sepTreeN_iff hpar').2 (putLeaf_isepN Wit l' hf' hids hpar ((sepTreeN_iff hpar).1 hsep)), hw true⟩, habs⟩

theorem finish_dstep (h : SWO lt) {t : Tree K V} {small : Bool} (W : Nat → Prop)
    (hok : TreeOk' (if small then some t.rootId else none) t) (hO : OrdTree lt t) (hW : W t.rootId) :
    DStep lt W t (finishTree t small) ∧ (finishTree t small).abs = t.abs := by
  have hpar : ParTree t := parTree_of_treeOk' hok
  rcases finishTree_eq_or t small with e | ⟨o, d, nid, r, k, rfl, -, hk, hlen, e⟩
  · rw [e]
    exact ⟨DStep.refl h W hO, rfl⟩
  · rw [e]
    have hparr : ParN (d + 1) r := hpar
    obtain ⟨s, hs⟩ : ∃ s, r.runts = [s] := List.length_eq_one_iff.1 (Nat.le_antisymm hlen hparr.2.1)
    have hkk : r.kids = [k] := by
      obtain ⟨k', hk'⟩ : ∃ k', r.kids = [k'] := List.length_eq_one_iff.1 (by rw [← hparr.1, hs]; rfl)
      rw [hk'] at hk
      cases hk
      exact hk'
    have hkm : k ∈ r.kids := List.mem_of_getElem? hk
    have hO' : Ord lt (d + 1) none none r := hO
    have hK := hO'.2
    rw [hs, hkk] at hK
    have hK' : Kids lt (fun a b c => Ord lt d a b c) none [(s, k)] := hK
    have hw : ∀ cl, WidenG lt cl W ⟨o, d + 1, r, nid⟩ ⟨o, d, k, nid⟩ := by
      intro cl x hx
      have hne : r.id ≠ x := fun e => hx (e ▸ hW)
      show OW lt (gbounds cl x (d + 1) none none r) (gbounds cl x d none none k)
      rw [gbounds_succ_ne cl x none none r hne, hs, hkk]
      show OW lt ((gbounds cl x d (lowG cl none s) none k).or none) (gbounds cl x d none none k)
      rw [Option.or_none]
      exact gbounds_mono h cl x d k _ none none none trivial trivial
    refine ⟨DStep.of_widen h hok.ids.1 hpar hO (nodup_kid r [] [] k hkk hok.ids.1).1 (hparr.2.2 k hkm)
      (Ord_mono_lo h (lo' := none) trivial hK'.1) (hw false) fun Wit _ hsep =>
        ⟨((SepN_succ Wit r).1 hsep).2 k hkm, hw true⟩, ?_⟩
    rw [Tree.abs_eq_pairs, Tree.abs_eq_pairs]
    show Node.pairs k = r.kids.flatMap (Node.pairs (d := d))
    rw [hkk, List.flatMap_cons, List.flatMap_nil, List.append_nil]

end Gobptree.Conc
