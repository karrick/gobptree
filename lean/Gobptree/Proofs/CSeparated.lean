/-
  (SEP) — the premise of the Go-memory-model argument behind C07, as a theorem about the log.

  Two steps of DIFFERENT threads of one run that may access the same node (or the root
  pointer) — i.e. some mutex `l` is in `stepHeld` of both — are separated in the log by an
  unlock of `l` by the earlier thread and a later lock of `l` by the later thread:

      cB'.log = newB ++ xs ++ acq t2 l :: ys ++ rel t1 l :: w ++ grantLog cA t1 th1

  where (newest first) `grantLog cA t1 th1` = (`acq t1 _`?) `dec t1 _ :: cA.log` is the log at
  the beginning of step A, right after the scheduler's decision and the lock grant that open it,
  and `xs ++ acq t2 l :: … ` is exactly `grantLog cB t2 th2`: the acquisition IS the grant that
  opens step B, or it is older than step B.  `t2` holds `l` at every instant from that
  acquisition to the beginning of step B, so it is THE acquisition under which step B runs.

  Method: the log shows mutual exclusion at every instant (`Excl` of `CSeparatedLog`, an
  invariant of all reachable configurations without a panic), thread `t1` holds `l` at the
  beginning of step A and `t2` at the beginning of step B; `acq_split` (`CHeldTrace`) finds the
  acquisition, exclusion at its instant says `t1` does not hold `l` there, `rel_split` finds the
  release.
-/
import Gobptree.Proofs.CSeparatedLog
import Gobptree.Proofs.CSFinal

namespace Gobptree.Conc
open Gobptree

variable {K V : Type}

theorem reachable_log_grows {a b : Config K V} (h : Reachable a b) : ∃ m, b.log = m ++ a.log := by
  induction h with
  | refl => exact ⟨[], rfl⟩
  | @step c1 c2 t _ hs ih =>
    obtain ⟨m, hm⟩ := ih
    obtain ⟨n, hn⟩ := step_log_grows hs
    exact ⟨n ++ m, by rw [hn, hm, List.append_assoc]⟩

def Separated (cA cB cB' : Config K V) (t1 t2 : Nat) (th1 th2 : Thread K V) (l : Lk) : Prop :=
  ∃ newB xs ys w,
    -- step B's log: its decision and lock grant, then releases of `t2` and notes only
    cB'.log = newB ++ grantLog cB t2 th2 ∧ OnlyRel t2 newB ∧
    -- at the beginning of step B the log already contains `rel t1 l` and, newer, `acq t2 l`,
    -- both newer than the beginning of step A
    grantLog cB t2 th2 = xs ++ Ev.acq t2 l :: (ys ++ Ev.rel t1 l :: (w ++ grantLog cA t1 th1)) ∧
    -- from that acquisition to the beginning of step B, `t2` holds `l` at every instant
    (∀ xs1 xs2, xs = xs1 ++ xs2 →
      l ∈ heldNow t2 (xs2 ++ Ev.acq t2 l :: (ys ++ Ev.rel t1 l :: (w ++ grantLog cA t1 th1)))) ∧
    -- from that release to that acquisition, `t1` does not hold `l` at any instant
    (∀ ys1 ys2, ys = ys1 ++ ys2 →
      l ∉ heldNow t1 (ys2 ++ Ev.rel t1 l :: (w ++ grantLog cA t1 th1)))

/-- **(SEP), for every run in which no thread has panicked before step B** (no hypothesis
    on the tree or on the programs) -/
theorem separated_alive (P : Params K) (tree : Tree K V) (progs : List (List (COp K V)))
    {cA cA' cB cB' : Config K V} {t1 t2 : Nat} {th1 th2 : Thread K V} {l : Lk}
    (hrA : Reachable (Config.init P tree progs) cA) (hA : cA.step t1 = some cA')
    (hAB : Reachable cA' cB) (hB : cB.step t2 = some cB') (hd : cB.dead = false)
    (hne : t1 ≠ t2) (h1 : cA.threads[t1]? = some th1) (h2 : cB.threads[t2]? = some th2)
    (hl1 : l ∈ stepHeld th1) (hl2 : l ∈ stepHeld th2) :
    Separated cA cB cB' t1 t2 th1 th2 l := by
  have hrA' : Reachable (Config.init P tree progs) cA' := .step t1 hrA hA
  have hrB := hrA'.trans hAB
  have hdA' := reachable_dead hAB hd
  have hdA := step_dead cA cA' t1 hA hdA'
  have bA := reachable_book (init_book P tree progs) hrA hdA
  have bB := reachable_book (init_book P tree progs) hrB hd
  have lokB' := bB.heldLogOk_step hB
  obtain ⟨a, a', newA, ha, _, _, hlogA, _, _⟩ := step_log hA bA.ok
  rw [h1] at ha; cases ha
  obtain ⟨b, b', newB, hb, _, _, hlogB, horB, _⟩ := step_log hB bB.ok
  rw [h2] at hb; cases hb
  obtain ⟨m, hm⟩ := reachable_log_grows hAB
  obtain ⟨p, hp, _⟩ := grantLog_eq cB t2 th2
  have hg : grantLog cB t2 th2 = (p ++ Ev.dec t2 cB.enabledSet :: (m ++ newA)) ++ grantLog cA t1 th1 := by
    rw [hp, hm, hlogA]; simp only [List.append_assoc, List.cons_append]
  generalize p ++ Ev.dec t2 cB.enabledSet :: (m ++ newA) = mid at hg
  have hexB : Excl (grantLog cB t2 th2) := by
    have := lokB'.2; rw [hlogB] at this; exact Excl.suffix newB this
  have hhA : heldNow t1 (grantLog cA t1 th1) = stepHeld th1 := (bA.grant h1 t1).trans (if_pos rfl)
  have hhB : heldNow t2 (grantLog cB t2 th2) = stepHeld th2 := (bB.grant h2 t2).trans (if_pos rfl)
  have hexA : Excl (grantLog cA t1 th1) := by
    have := hexB; rw [hg] at this; exact Excl.suffix mid this
  have h1A : l ∈ heldNow t1 (grantLog cA t1 th1) := by rw [hhA]; exact hl1
  have h2B : l ∈ heldNow t2 (mid ++ grantLog cA t1 th1) := by rw [← hg, hhB]; exact hl2
  have h2A : l ∉ heldNow t2 (grantLog cA t1 th1) := fun h => hne (hexA.at t1 t2 l h1A h)
  obtain ⟨xs, m', hsplit, _, hhold⟩ := acq_split t2 l mid _ h2A h2B
  -- at the instant of the acquisition, `t1` does not hold `l`
  have hex' : Excl (Ev.acq t2 l :: (m' ++ grantLog cA t1 th1)) := by
    have e : grantLog cB t2 th2 = xs ++ (Ev.acq t2 l :: (m' ++ grantLog cA t1 th1)) := by
      rw [hg, hsplit]; simp only [List.append_assoc, List.cons_append]
    have := hexB; rw [e] at this; exact Excl.suffix xs this
  have h1n : l ∉ heldNow t1 (m' ++ grantLog cA t1 th1) := by
    intro h
    have ha1 : l ∈ heldNow t1 (Ev.acq t2 l :: (m' ++ grantLog cA t1 th1)) := by
      show l ∈ upd t1 (Ev.acq t2 l : Ev K V) (heldNow t1 (m' ++ grantLog cA t1 th1))
      have : ¬ t2 = t1 := fun e => hne e.symm
      simp only [upd, this, if_false]; exact h
    have ha2 : l ∈ heldNow t2 (Ev.acq t2 l :: (m' ++ grantLog cA t1 th1)) :=
      hhold xs [] (List.append_nil xs).symm
    exact hne (hex'.1 t1 t2 l ha1 ha2)
  obtain ⟨ys, w, hm', hfree⟩ := rel_split t1 l m' _ h1A h1n
  refine ⟨newB, xs, ys, w, hlogB, horB, ?_, ?_, hfree⟩
  · rw [hg, hsplit, hm']; simp only [List.append_assoc, List.cons_append]
  · intro xs1 xs2 hx
    have := hhold xs1 xs2 hx
    rw [hm'] at this
    simpa only [List.append_assoc, List.cons_append] using this

/-- **(SEP)** for every run of disciplined programs from a tree satisfying the invariants
    (the hypotheses of `reachable_cinv`; no thread ever panics there) -/
theorem separated (P : Params K) (tree : Tree K V) (progs : List (List (COp K V)))
    (ht : TreeOk none tree) (ho : tree.order = P.order) (hp : PadOk P) (hd : Disciplined progs)
    (hdel : 4 ≤ tree.order ∨ NoDelete progs)
    {cA cA' cB cB' : Config K V} {t1 t2 : Nat} {th1 th2 : Thread K V} {l : Lk}
    (hrA : Reachable (Config.init P tree progs) cA) (hA : cA.step t1 = some cA')
    (hAB : Reachable cA' cB) (hB : cB.step t2 = some cB')
    (hne : t1 ≠ t2) (h1 : cA.threads[t1]? = some th1) (h2 : cB.threads[t2]? = some th2)
    (hl1 : l ∈ stepHeld th1) (hl2 : l ∈ stepHeld th2) :
    Separated cA cB cB' t1 t2 th1 th2 l := by
  have hrB : Reachable (Config.init P tree progs) cB := (Reachable.step t1 hrA hA).trans hAB
  exact separated_alive P tree progs hrA hA hAB hB
    (reachable_cinv P tree progs ht ho hp hd hdel cB hrB).alive hne h1 h2 hl1 hl2

theorem Separated.split {cA cB cB' : Config K V} {t1 t2 : Nat} {th1 th2 : Thread K V} {l : Lk}
    (h : Separated cA cB cB' t1 t2 th1 th2 l) :
    ∃ xs ys zs, cB'.log = xs ++ (Ev.acq t2 l :: (ys ++ (Ev.rel t1 l :: zs))) ∧
      (∃ w, zs = w ++ (Ev.dec t1 cA.enabledSet :: cA.log)) ∧
      -- the acquisition is not newer than the lock grant that opens step B
      (∃ newB xs0, xs = newB ++ xs0 ∧ OnlyRel t2 newB ∧
        xs0 ++ (Ev.acq t2 l :: (ys ++ (Ev.rel t1 l :: zs))) = grantLog cB t2 th2) := by
  obtain ⟨newB, xs, ys, w, h1, h2, h3, _, _⟩ := h
  obtain ⟨p, hp, _⟩ := grantLog_eq cA t1 th1
  refine ⟨newB ++ xs, ys, w ++ grantLog cA t1 th1, ?_, ⟨w ++ p, ?_⟩, newB, xs, rfl, h2, h3.symm⟩
  · rw [h1, h3, List.append_assoc]
  · rw [hp, List.append_assoc]

/-- **(SEP) on a run list**: `cA, cA'` and, later, `cB, cB'` consecutive configurations of one
    `RunFrom` list (newest first; `cB = cA'` allowed: `later = []`) -/
theorem separated_run (P : Params K) (tree : Tree K V) (progs : List (List (COp K V)))
    (ht : TreeOk none tree) (ho : tree.order = P.order) (hp : PadOk P) (hd : Disciplined progs)
    (hdel : 4 ≤ tree.order ∨ NoDelete progs)
    {cA cA' cB cB' : Config K V} {later hist : List (Config K V)}
    {t1 t2 : Nat} {th1 th2 : Thread K V} {l : Lk}
    (hrun : RunFrom (Config.init P tree progs) (cB' :: (later ++ cA' :: cA :: hist)))
    (hcB : (later ++ [cA']).head? = some cB)
    (hA : cA.step t1 = some cA') (hB : cB.step t2 = some cB')
    (hne : t1 ≠ t2) (h1 : cA.threads[t1]? = some th1) (h2 : cB.threads[t2]? = some th2)
    (hl1 : l ∈ stepHeld th1) (hl2 : l ∈ stepHeld th2) :
    Separated cA cB cB' t1 t2 th1 th2 l := by
  have hrunA : RunFrom (Config.init P tree progs) (cA :: hist) := by
    have := RunFrom.tail (cB' :: (later ++ [cA'])) (c := cA) (hist := hist)
      (by simpa only [List.cons_append, List.append_assoc, List.nil_append] using hrun)
    exact this
  have hAB : Reachable cA' cB := by
    cases later with
    | nil =>
      simp only [List.nil_append, List.head?_cons, Option.some.injEq] at hcB
      subst hcB; exact .refl
    | cons d later =>
      simp only [List.cons_append, List.head?_cons, Option.some.injEq] at hcB
      subst hcB
      have hrunB : RunFrom (Config.init P tree progs) (d :: (later ++ cA' :: cA :: hist)) :=
        RunFrom.tail [cB'] hrun
      exact hrunB.reach_of_mem cA' (by simp)
  exact separated P tree progs ht ho hp hd hdel hrunA.reachable hA hAB hB hne h1 h2 hl1 hl2

/-- **(SEP) for the root pointer**: two steps of different threads that both run under the
    tree-level mutex `rootMutex` (the only steps that may read or replace the root pointer)
    are separated by `rel t1 .tree` and a later `acq t2 .tree` -/
theorem separated_root (P : Params K) (tree : Tree K V) (progs : List (List (COp K V)))
    (ht : TreeOk none tree) (ho : tree.order = P.order) (hp : PadOk P) (hd : Disciplined progs)
    (hdel : 4 ≤ tree.order ∨ NoDelete progs)
    {cA cA' cB cB' : Config K V} {t1 t2 : Nat} {th1 th2 : Thread K V}
    (hrA : Reachable (Config.init P tree progs) cA) (hA : cA.step t1 = some cA')
    (hAB : Reachable cA' cB) (hB : cB.step t2 = some cB')
    (hne : t1 ≠ t2) (h1 : cA.threads[t1]? = some th1) (h2 : cB.threads[t2]? = some th2)
    (hl1 : Lk.tree ∈ stepHeld th1) (hl2 : Lk.tree ∈ stepHeld th2) :
    ∃ xs ys zs, cB'.log = xs ++ (Ev.acq t2 Lk.tree :: (ys ++ (Ev.rel t1 Lk.tree :: zs))) ∧
      (∃ w, zs = w ++ (Ev.dec t1 cA.enabledSet :: cA.log)) ∧
      (∃ newB xs0, xs = newB ++ xs0 ∧ OnlyRel t2 newB ∧
        xs0 ++ (Ev.acq t2 Lk.tree :: (ys ++ (Ev.rel t1 Lk.tree :: zs))) = grantLog cB t2 th2) :=
  (separated P tree progs ht ho hp hd hdel hrA hA hAB hB hne h1 h2 hl1 hl2).split

theorem separated_node (P : Params K) (tree : Tree K V) (progs : List (List (COp K V)))
    (ht : TreeOk none tree) (ho : tree.order = P.order) (hp : PadOk P) (hd : Disciplined progs)
    (hdel : 4 ≤ tree.order ∨ NoDelete progs)
    {cA cA' cB cB' : Config K V} {t1 t2 : Nat} {th1 th2 : Thread K V} (id : Nat)
    (hrA : Reachable (Config.init P tree progs) cA) (hA : cA.step t1 = some cA')
    (hAB : Reachable cA' cB) (hB : cB.step t2 = some cB')
    (hne : t1 ≠ t2) (h1 : cA.threads[t1]? = some th1) (h2 : cB.threads[t2]? = some th2)
    (hl1 : Lk.node id ∈ stepHeld th1) (hl2 : Lk.node id ∈ stepHeld th2) :
    ∃ xs ys zs, cB'.log = xs ++ (Ev.acq t2 (Lk.node id) :: (ys ++ (Ev.rel t1 (Lk.node id) :: zs))) ∧
      (∃ w, zs = w ++ (Ev.dec t1 cA.enabledSet :: cA.log)) ∧
      (∃ newB xs0, xs = newB ++ xs0 ∧ OnlyRel t2 newB ∧
        xs0 ++ (Ev.acq t2 (Lk.node id) :: (ys ++ (Ev.rel t1 (Lk.node id) :: zs))) = grantLog cB t2 th2) :=
  (separated P tree progs ht ho hp hd hdel hrA hA hAB hB hne h1 h2 hl1 hl2).split

end Gobptree.Conc

#print axioms Gobptree.Conc.separated_alive
#print axioms Gobptree.Conc.separated
#print axioms Gobptree.Conc.Separated.split
#print axioms Gobptree.Conc.separated_run
#print axioms Gobptree.Conc.separated_root
#print axioms Gobptree.Conc.separated_node
#print axioms Gobptree.Conc.reachable_heldlogok
