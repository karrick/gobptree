/-
  What `maybeSplit` does to an `Ord` node: the two halves (`IsSplit`, read through `NodeView` for
  both heights), their intervals, their pairs and the intervals of the nodes below them.  In the
  parent: the lowered first separator `lowKey`, and the halves of a split child as the window that
  `replace_entries` puts in the child's place (`SplitOrd.window`).
-/
import Gobptree.Proofs.CKDelNode
import Gobptree.Proofs.Ids
import Gobptree.Proofs.CBlockUp

namespace Gobptree.Conc
open Gobptree

variable {K V : Type} {lt : K → K → Bool}

theorem maybeSplit_none (o fresh : Nat) : ∀ {d : Nat} (n l : Node K V d),
    Node.maybeSplit o fresh n = .ok (l, none) → l = n :=
  fun n l h => _root_.Gobptree.maybeSplit_none o fresh n l h

structure SplitOrd (lt : K → K → Bool) (d : Nat) (lo hi : Option K) (n l r : Node K V d) (fresh : Nat) (s s0 : K) :
    Prop where
  smr : Node.smallest r = .ok s
  sml : Node.smallest l = .ok s0
  lo_s0 : leO lt lo s0
  s0_s : lt s0 s = true
  s_hi : ltO lt s hi
  ordl : Ord lt d (some s0) (some s) l
  ordr : Ord lt d (some s) hi r
  parl : ParN d l
  parr : ParN d r
  pairs : Node.pairs n = Node.pairs l ++ Node.pairs r
  idl : Node.id l = Node.id n
  bounds : ∀ (cl : Bool) (x : Nat) (lo' hi' : Option K), x ≠ Node.id n → x ≠ fresh →
    gbounds cl x d lo' hi' n = (gbounds cl x d lo' (some s) l).or (gbounds cl x d (some s) hi' r)

/-- what `gbounds` reads of an entry -/
def egbounds (cl : Bool) (x : Nat) : (d : Nat) → Option K → Option K → Ent K V d → Option (Option K × Option K)
  | 0 => fun _ _ _ => none
  | d + 1 => fun a b (c : Node K V d) => gbounds cl x d a b c

theorem gbounds_view (cl : Bool) (x : Nat) {d : Nat} (a b : Option K) (n : Node K V d) (hne : x ≠ Node.id n) :
    gbounds cl x d a b n = firstG cl (egbounds cl x d) a b ((Node.keys n).zip (Node.ents n)) := by
  cases d with
  | zero => exact (if_neg fun e => hne e.symm).trans (firstG_none cl _ a b _ fun _ _ _ _ => rfl).symm
  | succ d => exact if_neg fun e => hne e.symm

theorem split_ord (h : SWO lt) {d : Nat} {lo hi : Option K} {n l r : Node K V d} {hh fresh : Nat}
    (hpos : 1 ≤ hh) (hs : IsSplit hh fresh n l r) (hw : Ord lt d lo hi n) (hpar : ParN d n) :
    ∃ s s0, SplitOrd lt d lo hi n l r fresh s s0 := by
  obtain ⟨rfl, rfl, hk, hv⟩ := IsSplit_view.1 hs
  obtain ⟨hlo, g⟩ := (Ord_view h lo hi n (hk.trans hv.symm)).1 hw
  obtain ⟨-, hpe⟩ := (ParN_view n).1 hpar
  obtain ⟨s0, L1, s, L2, e1, e2, hlt, hld, hltk, hldk, hz, g1, g2, hs0s, hshi⟩ := Kids_halves h hpos hk hv g
  obtain ⟨-, -, ⟨c1, C1, e1k⟩, c2, C2, e3⟩ := halves_cons (Node.ents n) hpos hv
  have ol := fun lo' hi' => Ord_view h lo' hi'
    (Node.put n ((Node.keys n).take hh) ((Node.ents n).take hh) (Node.splitNext d fresh))
  have or' := fun lo' hi' => Ord_view h lo' hi'
    (Node.make fresh ((Node.keys n).drop hh) ((Node.ents n).drop hh) (Node.nxt n))
  have pl := ParN_view (Node.put n ((Node.keys n).take hh) ((Node.ents n).take hh) (Node.splitNext d fresh))
  have pr := ParN_view (Node.make fresh ((Node.keys n).drop hh) ((Node.ents n).drop hh) (Node.nxt n))
  simp only [Node.keys_put, Node.ents_put] at ol pl
  simp only [Node.keys_make, Node.ents_make] at or' pr
  refine ⟨s, s0, Node.smallest_of_keys _ s L2 ((Node.keys_make ..).trans e2),
    Node.smallest_of_keys _ s0 L1 ((Node.keys_put ..).trans e1),
    hlo s0 (by rw [← List.take_append_drop hh (Node.keys n), e1]; rfl), hs0s, hshi,
    (ol _ _ (hlt.trans hltk.symm)).2 ⟨fun k hk' => ?_, g1⟩, (or' _ _ (hld.trans hldk.symm)).2 ⟨fun k hk' => ?_, g2⟩,
    pl.2 ⟨fun _ => ⟨hlt.trans hltk.symm, Nat.le_trans hpos (Nat.le_of_eq hlt.symm)⟩, fun e he => hpe e (List.mem_of_mem_take he)⟩,
    pr.2 ⟨fun _ => ⟨hld.trans hldk.symm, Nat.le_trans hpos (Nat.le_of_eq hld.symm)⟩, fun e he => hpe e (List.mem_of_mem_drop he)⟩,
    ?_, Node.id_put .., ?_⟩
  · rw [e1] at hk'; cases hk'; exact h.irrefl _
  · rw [e2] at hk'; cases hk'; exact h.irrefl _
  · rw [pairs_view, pairs_view, pairs_view, Node.keys_put, Node.ents_put, Node.keys_make, Node.ents_make,
      ← epairs_append _ _ _ _ (hlt.trans hltk.symm), List.take_append_drop, List.take_append_drop]
  · intro cl x lo' hi' h1 h2
    rw [gbounds_view cl x _ _ n h1, gbounds_view cl x _ _ _ (fun e => h1 (e.trans (Node.id_put ..))),
      gbounds_view cl x _ _ _ (fun e => h2 (e.trans (Node.id_make ..))), Node.keys_put, Node.ents_put, Node.keys_make,
      Node.ents_make, hz, e1, e1k, e2, e3, List.zip_cons_cons, List.zip_cons_cons, firstG_append, firstE_cons_or]
    cases cl <;> rfl

theorem lowKey_le (h : SWO lt) (key : K) (rA : List K) (k : K) : lt k (lowKey lt key rA k) = false := by
  unfold lowKey
  split
  · rename_i c; exact h.asymm c.2
  · exact h.irrefl k

theorem lowKey_of_ne (key : K) (rA : List K) (k : K) (hne : rA ≠ []) : lowKey lt key rA k = k := by
  unfold lowKey
  rw [if_neg (fun c => hne c.1)]

theorem lowKey_le_key (h : SWO lt) (key : K) (rA : List K) (k : K) (hk : rA ≠ [] → lt key k = false) :
    lt key (lowKey lt key rA k) = false := by
  unfold lowKey
  by_cases c : rA = [] ∧ lt key k = true
  · rw [if_pos c]; exact h.irrefl key
  · rw [if_neg c]
    by_cases e : rA = []
    · cases hkk : lt key k with
      | false => rfl
      | true => exact absurd ⟨e, hkk⟩ c
    · exact hk e

theorem lowKey_lo (key : K) (rA : List K) (k : K) (lo : Option K) (hkey : leO lt lo key) (hk : leO lt lo k) :
    leO lt lo (lowKey lt key rA k) := by
  unfold lowKey
  split
  · exact hkey
  · exact hk

theorem head?_form {α : Type} (rA rB rB' : List α) (k : α) (hne : rA ≠ []) :
    (rA ++ k :: rB).head? = (rA ++ k :: rB').head? :=
  head?_append_cons rA k rB rB'

theorem SplitOrd.window (h : SWO lt) {d : Nat} {k1 : K} {hi : Option K} {c l r : Node K V d} {fresh : Nat} {s s0 : K}
    (sp : SplitOrd lt d (some k1) hi c l r fresh s s0) :
    Kids lt (fun a b c => Ord lt d a b c) hi [(k1, l), (s, r)] ∧ (∀ y ∈ [l, r], ParN d y) ∧
      [l, r].flatMap (Node.pairs (d := d)) = [c].flatMap (Node.pairs (d := d)) := by
  refine ⟨⟨Ord_mono_lo h (show loLe lt (some k1) (some s0) from sp.lo_s0) sp.ordl, h.lt_of_le_of_lt (show lt s0 k1 = false from sp.lo_s0) sp.s0_s, sp.ordr, sp.s_hi, trivial⟩,
    List.forall_mem_cons.2 ⟨sp.parl, List.forall_mem_singleton.2 sp.parr⟩, ?_⟩
  rw [List.flatMap_cons, List.flatMap_singleton, List.flatMap_singleton, sp.pairs]

end Gobptree.Conc
