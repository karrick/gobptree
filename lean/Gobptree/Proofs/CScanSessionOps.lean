/-
  Whole-scan guarantee: the ghost invariant through ONE operation of the session's thread —
  starting a call from the state between two calls (`startOp_sloopI`) and resuming a parked
  call (`resume_sloopI`).  A scheduler step fuses several of these (`CScanSessionStep`).
-/
import Gobptree.Proofs.CScanSessionDefs
import Gobptree.Proofs.CCurCall

namespace Gobptree.Conc
open Gobptree

variable {K V : Type}

/-- what the loop of one step of the session's thread may rely on: the tree `T` the step ends
    in, and the meaning of the ghost parameters on that tree -/
structure SEnv (X : SCtx K V) (T : Tree K V) (hole : Option Nat) : Prop where
  swo : SWO X.lt
  ok : TreeOk hole T
  ord : OrdTree X.lt T
  ns : X.prog[X.a]? = some (.ns X.start)
  /-- no `Pair` on a fresh cursor (client discipline) -/
  nfp : ∀ y, X.a < y → (∀ x, X.a < x → x < y → X.prog[x]? = some .pause) → X.prog[y]? ≠ some .pair
  /-- the keys present all the time are `≥ start` and in the map now -/
  ks : ∀ k, X.KS k → X.lt k X.start = false ∧ ∃ v, (k, v) ∈ T.abs
  /-- an entry of the map now counts as sound for any call returning in this step -/
  sd : ∀ y k v, (k, v) ∈ T.abs → X.Sd y k v

theorem Open.step_pause {X : SCtx K V} {T : Tree K V} {cur : Option (Option Nat × Int)} {exh : Bool}
    {rs : List (Nat × Res K V)} {n : Nat} {b : Bound K} {leaf : Nat} {i : Int}
    (h : Open X T false cur exh rs n b leaf i)
    (hp : X.prog[n]? = some .pause) : Open X T false cur exh ((n, Res.ok) :: rs) (n + 1) b leaf i where
  an := Nat.lt_succ_of_lt h.an
  nsret := List.mem_cons_of_mem _ h.nsret
  hcur := h.hcur
  hexh := h.hexh
  cok := h.cok
  pos := h.pos
  fresh := by
    intro st0 hb
    obtain ⟨h1, h2, h3⟩ := h.fresh st0 hb
    refine ⟨h1, ?_, ?_⟩
    · intro x hx1 hx2
      by_cases hx : x = n
      · subst hx; exact hp
      · exact h2 x hx1 (Nat.lt_of_le_of_ne (Nat.le_of_lt_succ hx2) hx)
    · intro y k v hy hm
      exact h3 y k v hy (mem_cons_ret_of_ne hm (fun e => by cases e))
  ord := by
    intro c hb
    obtain ⟨h1, h2⟩ := h.ord c hb
    refine ⟨h1, ?_⟩
    intro x k v hx hm
    obtain ⟨g1, g2⟩ := h2 x k v hx (mem_cons_ret_of_ne hm (fun e => by cases e))
    exact ⟨g1, fun ⟨z, hz1, hz2⟩ => g2 ⟨z, hz1, mem_cons_ret_of_ne hz2 (fun e => by cases e)⟩⟩
  cov := by
    intro he hn k hk
    rcases h.cov he (Nat.le_of_succ_le hn) k hk with g | g | ⟨g1, x, hx1, hx2, hx3, hx4⟩
    · exact Or.inl (g.cons _)
    · exact Or.inr (Or.inl g)
    · refine Or.inr (Or.inr ⟨g1, x, hx1, Nat.lt_succ_of_lt hx2, hx3, fun y h1 h2 => ?_⟩)
      by_cases hy : y = n
      · subst hy; exact hp
      · exact hx4 y h1 (Nat.lt_of_le_of_ne (Nat.le_of_lt_succ h2) hy)

theorem Open.step_pair {X : SCtx K V} {T : Tree K V} {cur : Option (Option Nat × Int)} {exh : Bool}
    {rs : List (Nat × Res K V)} {n : Nat} {c : K} {leaf : Nat} {i : Int}
    (h : Open X T false cur exh rs n (.gt c) leaf i) (hswo : SWO X.lt)
    (hr1 : ∀ i r, (i, r) ∈ rs → i < n) (v : V) :
    Open X T false cur exh ((n, Res.pair c v) :: rs) (n + 1) (.gt c) leaf i where
  an := Nat.lt_succ_of_lt h.an
  nsret := List.mem_cons_of_mem _ h.nsret
  hcur := h.hcur
  hexh := h.hexh
  cok := h.cok
  pos := h.pos
  fresh := by intro st0 hb; cases hb
  ord := by
    intro c' hb
    cases hb
    obtain ⟨h1, h2⟩ := h.ord c rfl
    refine ⟨h1, ?_⟩
    intro x k v' hx hm
    rcases mem_cons_ret.1 hm with ⟨e1, e2⟩ | hm
    · cases e2
      refine ⟨hswo.irrefl c, fun ⟨z, hz1, hz2⟩ => ?_⟩
      exact absurd (hr1 z _ (mem_cons_ret_of_ne hz2 (fun e => by cases e))) (by rw [← e1]; exact Nat.lt_asymm hz1)
    · obtain ⟨g1, g2⟩ := h2 x k v' hx hm
      exact ⟨g1, fun ⟨z, hz1, hz2⟩ => g2 ⟨z, hz1, mem_cons_ret_of_ne hz2 (fun e => by cases e)⟩⟩
  cov := by
    intro he hn k hk
    rcases h.cov he (Nat.le_of_succ_le hn) k hk with g | g | ⟨g1, _⟩
    · exact Or.inl (g.cons _)
    · exact Or.inr (Or.inl g)
    · cases g1
      exact Or.inl ⟨n, v, h.an, hn, List.mem_cons_self⟩

theorem Open.step_true {X : SCtx K V} {T : Tree K V} {hole : Option Nat} {hb : Bool}
    {cur : Option (Option Nat × Int)} {exh : Bool}
    {rs : List (Nat × Res K V)} {n : Nat} {b : Bound K} {leaf : Nat} {i : Int}
    (h : Open X T hb cur exh rs n b leaf i) (E : SEnv X T hole) (hscan : X.prog[n]? = some .scan)
    {k' : K} {v' : V} (hadm : b.admits X.lt k' = true)
    (hleast : ∀ p ∈ T.abs, b.admits X.lt p.1 = true → p = (k', v') ∨ X.lt k' p.1 = true)
    {leaf' : Nat} {i' : Int} (hcok' : CursorOk T false (some (some leaf', i')))
    (hpos' : CurPosW X.lt T (.gt k') leaf' i') :
    Open X T false (some (some leaf', i')) false ((n, Res.bool true) :: rs) (n + 1) (.gt k') leaf' i' where
  an := Nat.lt_succ_of_lt h.an
  nsret := List.mem_cons_of_mem _ h.nsret
  hcur := rfl
  hexh := rfl
  cok := hcok'
  pos := hpos'
  fresh := by intro st0 hb; cases hb
  ord := by
    intro c' hb
    cases hb
    constructor
    · cases b with
      | ge st0 =>
        have := (h.fresh st0 rfl).1
        subst this
        simpa [Bound.admits] using hadm
      | gt c =>
        have h1 := (h.ord c rfl).1
        have hlt : X.lt c k' = true := hadm
        cases hks : X.lt k' X.start with
        | false => rfl
        | true =>
          have := E.swo.trans _ _ _ hlt hks
          rw [h1] at this; cases this
    · intro x k v hx hm
      have hm := mem_cons_ret_of_ne hm (fun e => by cases e)
      cases b with
      | ge st0 => exact absurd hm ((h.fresh st0 rfl).2.2 x k v hx)
      | gt c =>
        have hlt : X.lt c k' = true := hadm
        obtain ⟨g1, _⟩ := (h.ord c rfl).2 x k v hx hm
        have hkk : X.lt k k' = true := by
          rcases E.swo.cotrans c k k' hlt with h' | h'
          · rw [g1] at h'; cases h'
          · exact h'
        exact ⟨E.swo.asymm hkk, fun _ => hkk⟩
  cov := by
    intro he hn k hk
    have hn' : n ≤ X.e := Nat.le_of_succ_le hn
    rcases h.cov he hn' k hk with g | g | ⟨_, g2⟩
    · exact Or.inl (g.cons _)
    · obtain ⟨_, v, hv⟩ := E.ks k hk
      rcases hleast (k, v) hv g with e | hlt
      · cases e
        exact Or.inr (Or.inr ⟨rfl, n, h.an, Nat.lt_succ_self n, hscan, fun y h1 h2 => absurd h1 (Nat.not_lt_of_le (Nat.le_of_lt_succ h2))⟩)
      · exact Or.inr (Or.inl hlt)
    · exact absurd hscan (he.not_scan hn' g2)

theorem Open.create {X : SCtx K V} {T : Tree K V} {hole : Option Nat} (E : SEnv X T hole)
    {rs : List (Nat × Res K V)} (hr1 : ∀ i r, (i, r) ∈ rs → i < X.a) {leaf : Nat} {i : Int}
    (hcok : CursorOk T false (some (some leaf, i))) (hpos : CurPosW X.lt T (.ge X.start) leaf i) :
    Open X T false (some (some leaf, i)) false ((X.a, Res.ok) :: rs) (X.a + 1) (.ge X.start) leaf i where
  an := Nat.lt_succ_self _
  nsret := List.mem_cons_self
  hcur := rfl
  hexh := rfl
  cok := hcok
  pos := hpos
  fresh := by
    intro st0 hb
    cases hb
    refine ⟨rfl, fun x h1 h2 => absurd h1 (Nat.not_lt_of_le (Nat.le_of_lt_succ h2)), ?_⟩
    intro y k v hy hm
    exact absurd (hr1 y _ (mem_cons_ret_of_ne hm (fun e => by cases e))) (Nat.lt_asymm hy)
  ord := by intro c hb; cases hb
  cov := by
    intro _ _ k hk
    refine Or.inr (Or.inl ?_)
    show (!X.lt k X.start) = true
    rw [(E.ks k hk).1]; rfl

theorem r1_cons {rs : List (Nat × Res K V)} {n : Nat} (hr1 : ∀ i r, (i, r) ∈ rs → i < n) (r0 : Res K V) :
    ∀ i r, (i, r) ∈ (n, r0) :: rs → i < n + 1 := by
  intro i r hm
  rcases mem_cons_ret.1 hm with ⟨e1, _⟩ | hm
  · rw [e1]; exact Nat.lt_succ_self n
  · exact Nat.lt_succ_of_lt (hr1 i r hm)

theorem Mid.scan_true {X : SCtx K V} {T : Tree K V} {hole : Option Nat} (E : SEnv X T hole) {hb : Bool}
    {cur : Option (Option Nat × Int)} {exh : Bool} {rs : List (Nat × Res K V)} {n : Nat} {b : Bound K}
    {leaf : Nat} {i : Int} (ho : Open X T hb cur exh rs n b leaf i)
    (hr1 : ∀ i r, (i, r) ∈ rs → i < n) (hlog : LogOk X rs) (hscan : X.prog[n]? = some .scan)
    {k : K} {v : V} {rest : List (K × V)} (hah : T.ahead leaf i = (k, v) :: rest)
    {leaf' : Nat} {i' : Int} (hcok' : CursorOk T false (some (some leaf', i')))
    (hpos' : CurPosW X.lt T (.gt k) leaf' i') :
    Mid X T (some (some leaf', i')) false ((n, Res.bool true) :: rs) (n + 1) := by
  obtain ⟨hadm, _, _, hleast⟩ := ho.pos.head_least E.swo E.ok E.ord hah
  exact ⟨r1_cons hr1 _, hlog.cons hr1 (fun _ _ e _ => by cases e) (fun e _ => by cases e),
    fun _ _ => Or.inl ⟨.gt k, leaf', i', ho.step_true E hscan hadm hleast hcok' hpos'⟩⟩

theorem Mid.skip {X : SCtx K V} {T : Tree K V} {cur : Option (Option Nat × Int)} {exh : Bool}
    {rs : List (Nat × Res K V)} {n : Nat} (hr1 : ∀ i r, (i, r) ∈ rs → i < n) (hlog : LogOk X rs)
    (hex : exh = true) : Mid X T cur exh ((n, Res.skip) :: rs) (n + 1) :=
  ⟨r1_cons hr1 _, hlog.cons_neutral hr1 ⟨fun _ _ e => (by cases e), fun e => (by cases e)⟩, fun _ _ => Or.inr hex⟩

theorem sloopI_outside {X : SCtx K V} {T : Tree K V} {rs : List (Nat × Res K V)} {n : Nat}
    (hr1 : ∀ i r, (i, r) ∈ rs → i < n) (hlog : LogOk X rs) (hna : n ≠ X.a) (hout : ¬ InSess X.prog X.a n)
    (s' : St K V) (fl : Flow K V) (hT : s'.tree = T) (hrs : rets X.j s'.evs = rs)
    (hlive : ∀ p, fl = .park p → parkLive p) : SLoopI X T s' fl n := by
  subst hrs
  cases fl with
  | done r =>
    exact .done hT ⟨r1_cons hr1 _, hlog.cons_outside hr1 hout,
      fun h1 h2 => absurd ⟨Nat.lt_of_le_of_ne (Nat.le_of_lt_succ h1) (Ne.symm hna), h2⟩ hout⟩
  | panic => exact .panic hT hr1 hlog
  | park p => exact .park hT (hlive p rfl) hr1 hlog ⟨fun e => absurd e hna, fun h1 h2 => absurd ⟨h1, h2⟩ hout⟩

theorem pair_sloopI {X : SCtx K V} {hole : Option Nat} {s : St K V} {n : Nat} (E : SEnv X s.tree hole)
    (hm : Mid X s.tree s.cursor s.exhausted (rets X.j s.evs) n) {c : K} {leaf : Nat} {i : Int}
    (ho : Open X s.tree false s.cursor s.exhausted (rets X.j s.evs) n (.gt c) leaf i) :
    SLoopI X s.tree (startOp X.j s .pair).1 (startOp X.j s .pair).2 n := by
  have R : Rest X.lt s.tree s (.gt c) leaf i := ⟨rfl, ho.hcur, ho.hexh, ho.cok, ho.pos⟩
  obtain ⟨sh', hl', _, _, jj, hjj, hkc⟩ := R.curPos E.swo E.ok E.ord
  subst hjj
  obtain ⟨sh'', k, v, hl'', heq, hk, _, hmem⟩ := pair_rest X.j E.ok R (Int.ofNat_zero_le jj)
  rw [hl'] at hl''; cases hl''
  rw [show (jj : Int).toNat = jj from rfl, hkc] at hk
  cases hk
  rw [heq]
  obtain ⟨o1, o2⟩ := ho.ord c rfl
  exact .done rfl ⟨r1_cons hm.r1 _,
    hm.log.cons hm.r1 (fun k0 v0 e _ => by cases e; exact ⟨ho.nsret, E.sd n c v hmem, o1, o2⟩)
      (fun e _ => by cases e),
    fun _ _ => Or.inl ⟨.gt c, leaf, _, ho.step_pair E.swo hm.r1 v⟩⟩

theorem scan_sloopI {X : SCtx K V} {hole : Option Nat} {s : St K V} {n : Nat} (E : SEnv X s.tree hole)
    (han : X.a < n) (hm : Mid X s.tree s.cursor s.exhausted (rets X.j s.evs) n) (hop : X.prog[n]? = some .scan)
    {b : Bound K} {leaf : Nat} {i : Int}
    (ho : Open X s.tree false s.cursor s.exhausted (rets X.j s.evs) n b leaf i) :
    SLoopI X s.tree (startOp X.j s .scan).1 (startOp X.j s .scan).2 n := by
  obtain ⟨_, _, _, _, ⟨heq, k, v, _, _, hah, hcp⟩ | ⟨heq, hah⟩ | ⟨nx, heq, _, hcok', hpos'⟩⟩ :=
    scan_rest E.swo X.j E.ok E.ord ⟨rfl, ho.hcur, ho.hexh, ho.cok, ho.pos⟩
  · rw [heq]
    refine .done rfl ?_
    show Mid X s.tree (some (some leaf, i + 1)) s.exhausted _ _
    rw [ho.hexh]
    exact Mid.scan_true E ho hm.r1 hm.log hop hah hcp.cursorOk hcp.weaken
  · have hnone := (ho.pos.ahead_nil_iff E.swo E.ok E.ord).1 hah
    rw [heq]
    refine .done rfl ⟨r1_cons hm.r1 _, ?_, fun _ _ => Or.inr rfl⟩
    refine hm.log.cons hm.r1 (fun _ _ e _ => by cases e) (fun _ _ => ⟨ho.nsret, ?_⟩)
    -- nothing is admitted any more: every key present all the time has been returned
    intro he hne k hk
    rcases ho.cov he (Nat.le_of_eq hne) k hk with g | g | ⟨_, g2⟩
    · exact g
    · obtain ⟨_, v, hv⟩ := E.ks k hk
      have := hnone (k, v) hv
      rw [g] at this; cases this
    · exact absurd hop (he.not_scan (Nat.le_of_eq hne) g2)
  · rw [heq]
    exact .park rfl trivial hm.r1 hm.log ⟨fun e => absurd e (Nat.ne_of_gt han),
      fun _ _ => Or.inr ⟨.node nx, leaf, nx, rfl, hop, b, i + 1,
        ⟨ho.an, ho.nsret, rfl, ho.hexh, hcok', hpos', ho.fresh, ho.ord, ho.cov⟩⟩⟩

theorem startOp_sloopI {X : SCtx K V} {T : Tree K V} {hole : Option Nat} (E : SEnv X T hole)
    (s : St K V) (n : Nat) (op : COp K V) (hT : s.tree = T)
    (hm : Mid X T s.cursor s.exhausted (rets X.j s.evs) n) (hop : X.prog[n]? = some op) :
    SLoopI X T (startOp X.j s op).1 (startOp X.j s op).2 n := by
  subst hT
  by_cases hin : InSess X.prog X.a n
  · obtain ⟨han, hco⟩ := hin
    have hcop : CurOp (some op) := by have := hco n han (Nat.lt_succ_self n); rwa [hop] at this
    have sess := hm.sess han (hco.mono (Nat.le_succ n))
    have hskip : ∀ op', s.exhausted = true → startOp X.j s op' = (s, .done .skip) →
        SLoopI X s.tree (startOp X.j s op').1 (startOp X.j s op').2 n := by
      intro op' hex heq
      rw [heq]
      exact .done rfl (Mid.skip hm.r1 hm.log hex)
    have hclosed : s.exhausted = true → ¬ ∃ leaf i, s.cursor = some (some leaf, i) ∧ s.exhausted = false :=
      fun hex ⟨_, _, _, h⟩ => by rw [hex] at h; cases h
    cases op with
    | ins k v => exact hcop.elim
    | upd k f y => exact hcop.elim
    | del k => exact hcop.elim
    | get k => exact hcop.elim
    | ns k => exact hcop.elim
    | close => exact hcop.elim
    | pause =>
      exact .park rfl trivial hm.r1 hm.log ⟨fun e => absurd e (Nat.ne_of_gt han), fun _ _ => Or.inl ⟨rfl, hop, sess⟩⟩
    | pair =>
      rcases sess with ⟨b, leaf, i, ho⟩ | hex
      · cases b with
        | ge st0 => exact absurd hop (E.nfp n han (ho.fresh st0 rfl).2.1)
        | gt c => exact pair_sloopI E hm ho
      · exact hskip .pair hex (startOp_closed X.j s (.inr rfl) (hclosed hex))
    | scan =>
      rcases sess with ⟨b, leaf, i, ho⟩ | hex
      · exact scan_sloopI E han hm hop ho
      · exact hskip .scan hex (startOp_closed X.j s (.inl rfl) (hclosed hex))
  · by_cases hna : n = X.a
    · subst hna
      rw [E.ns] at hop
      cases hop
      rw [startOp_point X.j s (k := .roTree true X.start) rfl]
      split
      · exact .panic rfl hm.r1 hm.log
      · exact .park rfl trivial hm.r1 hm.log ⟨fun _ => Or.inl ⟨.tree, rfl⟩, fun h => absurd h (Nat.lt_irrefl _)⟩
    · exact sloopI_outside hm.r1 hm.log hna hin _ _ (startOp_tree X.j s op) (rets_startOp X.j X.j s op)
        (fun p h => blocks_ok.startLive X.j s op p h)

theorem resume_sloopI {X : SCtx K V} {T : Tree K V} {hole : Option Nat} (E : SEnv X T hole)
    (P : Params K) (hK : KParams X.lt P) (s : St K V) (k : Kont K V) (p0 : Park K V) (pc : Nat)
    (hp0 : (∃ l, p0 = .want l k) ∨ p0 = .yielded k)
    (hr1 : ∀ i r, (i, r) ∈ rets X.j s.evs → i < pc) (hlog : LogOk X (rets X.j s.evs))
    (hpk : PkSess X s.tree s.cursor s.exhausted (rets X.j s.evs) p0 pc)
    (hT' : (resume P X.j s k).1.tree = T)
    (hko : KontOk s.tree k) (hkp : KPos X.lt s.tree k)
    (hcok : CursorOk T false (resume P X.j s k).1.cursor) :
    SLoopI X T (resume P X.j s k).1 (resume P X.j s k).2 pc := by
  have hrs : rets X.j (resume P X.j s k).1.evs = rets X.j s.evs := rets_resume X.j P X.j s k
  have hk0 : p0.kont? = some k := Park.kont?_eq_some.2 hp0.symm
  by_cases hin : InSess X.prog X.a pc
  · obtain ⟨han, hco⟩ := hin
    rcases hpk.2 han hco with ⟨hp, hpz, sess⟩ | ⟨l, leaf, nx, hp, hsc, b, i, ho⟩
    ·
      rw [hp] at hk0
      cases hk0
      have hsT : s.tree = T := hT'
      rw [hsT] at sess
      refine .done hsT ⟨r1_cons hr1 _, hlog.cons_neutral hr1 ⟨fun _ _ e => (by cases e), fun e => (by cases e)⟩,
        fun _ _ => ?_⟩
      rcases sess with ⟨b, leaf, i, ho⟩ | hex
      · exact Or.inl ⟨b, leaf, i, ho.step_pause hpz⟩
      · exact Or.inr hex
    ·
      rw [hp] at hk0
      cases hk0
      have hsT : s.tree = T := hT'
      rw [hsT] at ho
      obtain ⟨_, _, _, shn, k0, v0, _, _, _, _, hcp, hah⟩ := resume_hop E.swo P X.j s leaf nx (hole := hole)
        (by rw [hsT]; exact E.ok) (by rw [hsT]; exact E.ord) hko
      rw [hsT] at hcp hah
      have hah' := hah i ho.cok
      have hcok' : CursorOk T false (some (some nx, 0)) := hcok
      refine .done hT' ?_
      show Mid X T (some (some nx, 0)) s.exhausted ((pc, Res.bool true) :: rets X.j (resume P X.j s (.hop leaf nx)).1.evs) _
      rw [hrs, show s.exhausted = false from ho.hexh]
      exact Mid.scan_true E ho hr1 hlog hsc hah' hcok' hcp.weaken
  · by_cases hna : pc = X.a
    · subst hna
      have hnow : ∀ {s' : St K V} {p : Park K V}, s'.tree = T → rets X.j s'.evs = rets X.j s.evs →
          (∃ l hold w, p = .want l (.roNode true X.start hold w)) → SLoopI X T s' (.park p) X.a :=
        fun hT hr hp => .park hT (by obtain ⟨_, _, _, rfl⟩ := hp; trivial) (by rw [hr]; exact hr1)
          (by rw [hr]; exact hlog) ⟨fun _ => Or.inr hp, fun h => absurd h (Nat.lt_irrefl _)⟩
      rcases hpk.1 rfl with ⟨l, hp⟩ | ⟨l, hold, w, hp⟩
      · rw [hp] at hk0
        cases hk0
        exact hnow hT' hrs ⟨_, _, _, rfl⟩
      · rw [hp] at hk0
        cases hk0
        have hT0' : (resume P X.j s (.roNode true X.start hold w)).1.tree = s.tree :=
          roArrive_tree P X.j (s.acq X.j (.node w)) true X.start hold w
        obtain ⟨hT0, ⟨_, hfl | ⟨c, hfl⟩⟩ | ⟨i, hfl, hci, hex, hcp⟩⟩ := ns_arrive P hK X.j s X.start hold w (hole := hole)
          (by rw [← hT0', hT']; exact E.ok) (by rw [← hT0', hT']; exact E.ord) hko hkp
        · rw [hfl]; exact .panic hT' (by rw [hrs]; exact hr1) (by rw [hrs]; exact hlog)
        · rw [hfl]; exact hnow hT' hrs ⟨_, _, _, rfl⟩
        · rw [hfl]
          refine .done hT' ?_
          rw [hci, hex, hrs]
          rw [hci] at hcok
          rw [hT0.symm.trans hT'] at hcp
          exact ⟨r1_cons hr1 _, hlog.cons_outside hr1 (fun h => absurd h.1 (Nat.lt_irrefl _)),
            fun _ _ => Or.inl ⟨_, _, _, Open.create E hr1 hcok hcp.weaken⟩⟩
    · exact sloopI_outside hr1 hlog hna hin _ _ hT' hrs (fun p h => blocks_ok.resLive P X.j s k p h)

end Gobptree.Conc
