/-
  C04: the abstract map of an ordered tree is strictly ascending, and it is the
  concatenation of the leaves' pairs in flat-view order.
-/
import Gobptree.Proofs.CCDefs
import Gobptree.Proofs.SpecSorted
import Gobptree.Proofs.CSStatic
import Gobptree.Proofs.CKZoomOrd

namespace Gobptree.Conc
open Gobptree

variable {K V : Type} {lt : K → K → Bool}

theorem KSorted.split_unique (h : SWO lt) {m A A' M B B' : List (K × V)} (hs : KSorted lt m)
    (e1 : m = A ++ M ++ B) (e2 : m = A' ++ M ++ B') (hM : M ≠ []) : A = A' ∧ B = B' := by
  cases M with
  | nil => exact absurd rfl hM
  | cons m0 M' =>
    have g1 : m[A.length]? = some m0 := by rw [e1]; simp
    have g2 : m[A'.length]? = some m0 := by rw [e2]; simp
    obtain ⟨hl1, g1⟩ := List.getElem?_eq_some_iff.1 g1
    obtain ⟨hl2, g2⟩ := List.getElem?_eq_some_iff.1 g2
    have hlen : A.length = A'.length :=
      KSorted.unique h m hs _ _ hl1 hl2 (by rw [g1, g2]; exact h.eqv_refl _)
    rw [e1, List.append_assoc, List.append_assoc] at e2
    obtain ⟨h1, h2⟩ := List.append_inj e2 hlen
    exact ⟨h1, List.append_cancel_left h2⟩

theorem Kids_pairsE_sorted (h : SWO lt) {d : Nat} {R : Option K → Option K → Node K V d → Prop}
    (hi : Option K) (es : List (K × Node K V d))
    (hR : ∀ e ∈ es, ∀ a b, R a b e.2 → ∀ p ∈ Node.pairs e.2, leO lt a p.1 ∧ ltO lt p.1 b)
    (hS : ∀ e ∈ es, ∀ a b, R a b e.2 → KSorted lt (Node.pairs e.2))
    (hk : Kids lt R hi es) : KSorted lt (pairsE es) := by
  induction es with
  | nil => simp [pairsE, KSorted]
  | cons e es ih =>
    obtain ⟨k, c⟩ := e
    obtain ⟨hc, hklt, hrest⟩ := hk
    rw [pairsE_cons]
    have ih' := ih (fun e he => hR e (by simp [he])) (fun e he => hS e (by simp [he])) hrest
    have hb := Kids_pairsE_bounds h hi es (fun e he => hR e (by simp [he])) hrest
    refine List.pairwise_append.mpr ⟨hS (k, c) (by simp) _ _ hc, ih', ?_⟩
    intro p hp q hq
    have hp' := (hR (k, c) (by simp) _ _ hc p hp).2
    obtain ⟨_, e, he, h2⟩ := hb q hq
    have h1 : lt p.1 e.1 = true := Kids_next_lt h hi es hrest e he p.1 hp'
    exact h.lt_of_lt_of_le h1 h2

theorem Ord_pairs_sorted (h : SWO lt) : ∀ {d : Nat} {lo hi : Option K} {n : Node K V d},
    Ord lt d lo hi n → ParN d n → KSorted lt (Node.pairs n) := by
  intro d
  induction d with
  | zero =>
    intro lo hi (n : Leaf K V) hw _
    obtain ⟨hs, _⟩ := hw
    exact KSorted_zip n.keys n.vals hs
  | succ d ih =>
    intro lo hi (n : Inner K (Node K V d)) hw hpar
    obtain ⟨_, hk⟩ := hw
    obtain ⟨hlen, _, hkids⟩ := hpar
    rw [pairs_inner_eq n hlen]
    exact Kids_pairsE_sorted h hi _
      (fun e he a b hr => Ord_pairs_bounds h hr (hkids e.2 (List.of_mem_zip he).2))
      (fun e he a b hr => ih hr (hkids e.2 (List.of_mem_zip he).2)) hk

theorem Tree.abs_sorted (h : SWO lt) {t : Tree K V} (hpar : ParTree t) (hord : OrdTree lt t) :
    KSorted lt t.abs := by
  rw [Tree.abs_eq_pairs]
  exact Ord_pairs_sorted h hord hpar

theorem flatLeaves_flatMap {α : Type} (f : α → List (Nat × Shallow K V)) (l : List α) :
    flatLeaves (l.flatMap f) = l.flatMap (fun a => flatLeaves (f a)) := by
  induction l with
  | nil => rfl
  | cons a l ih => rw [List.flatMap_cons, List.flatMap_cons, flatLeaves_append, ih]

def leafEntry (l : Leaf K V) : Nat × Shallow K V := (l.id, shallow (d := 0) l)

theorem flatLeaves_flat : ∀ {d : Nat} (n : Node K V d),
    flatLeaves (flat n) = (Node.leaves n).map leafEntry := by
  intro d
  induction d with
  | zero =>
    intro (n : Leaf K V)
    rw [flat_leaf, flatLeaves_cons_leaf _ _ rfl]
    rfl
  | succ d ih =>
    intro (n : Inner K (Node K V d))
    rw [flat_inner, flatLeaves_cons_inner _ _ (by
      have := shallow_height (d := d + 1) n
      show (shallow (d := d + 1) n).height ≠ 0
      omega), flatLeaves_flatMap]
    show _ = (n.kids.flatMap (Node.leaves (d := d))).map leafEntry
    rw [List.map_flatMap]
    congr 1
    funext c
    exact ih c

theorem Tree.abs_flat (t : Tree K V) :
    t.abs = (flatLeaves t.flat).flatMap (fun q => shPairs q.2) := by
  rw [Tree.abs_eq_pairs, pairs_eq_leaves]
  show _ = (flatLeaves (flat t.root)).flatMap _
  rw [flatLeaves_flat, List.flatMap_map]
  rfl

theorem aheadIn_split (leaf : Nat) (i : Int) (sh : Shallow K V) :
    ∀ (A B : List (Nat × Shallow K V)), (∀ p ∈ A, p.1 ≠ leaf) →
      aheadIn leaf i (A ++ (leaf, sh) :: B) =
        (shPairs sh).drop (i + 1).toNat ++ B.flatMap (fun q => shPairs q.2) := by
  intro A
  induction A with
  | nil => intro B _; simp [aheadIn]
  | cons a A ih =>
    intro B hA
    have ha : a.1 ≠ leaf := hA a (by simp)
    rw [List.cons_append, aheadIn, if_neg ha]
    exact ih B (fun p hp => hA p (by simp [hp]))

theorem aheadIn_nodup (leaf : Nat) (i : Int) (sh : Shallow K V) (A B : List (Nat × Shallow K V))
    (hn : ((A ++ (leaf, sh) :: B).map Prod.fst).Nodup) :
    aheadIn leaf i (A ++ (leaf, sh) :: B) = (shPairs sh).drop (i + 1).toNat ++ B.flatMap (fun q => shPairs q.2) := by
  rw [List.map_append, List.map_cons] at hn
  exact aheadIn_split leaf i sh A B (fun p hp e =>
    (List.nodup_append.1 hn).2.2 p.1 (List.mem_map.2 ⟨p, hp, rfl⟩) leaf List.mem_cons_self e)

theorem Tree.ahead_split {t : Tree K V} (hi : IdsOk t) {leaf : Nat} {sh : Shallow K V}
    (hl : t.look leaf = some sh) (h0 : sh.height = 0) :
    ∃ PA PB : List (K × V), t.abs = PA ++ shPairs sh ++ PB ∧
      ∀ i : Int, t.ahead leaf i = (shPairs sh).drop (i + 1).toNat ++ PB := by
  obtain ⟨A, B, hAB⟩ := List.append_of_mem (leaf_mem_flatLeaves hl h0)
  have hn := flatLeaves_nodup hi
  rw [hAB] at hn
  refine ⟨A.flatMap (fun q => shPairs q.2), B.flatMap (fun q => shPairs q.2), ?_, fun i => ?_⟩
  · rw [Tree.abs_flat, hAB]
    simp [List.flatMap_append, List.flatMap_cons]
  · unfold Tree.ahead
    rw [hAB]
    exact aheadIn_nodup leaf i sh A B hn

end Gobptree.Conc
