/-
  The separator invariant supplies `SepLe` at the window of a `rebalance` (`window_sepLe`), which
  is what `rebalance_widen_g` asks for to keep or widen the clamped intervals; and clamped
  intervals kept or widened are routes kept (`rstab_of_widen`).  `Wit r s` (the witnesses of `ISepW`, CIDefs): an
  Insert/Update has lowered the separator above node `r` to `s` and not yet `r`'s own first separator;
  the invariant excuses exactly those pairs.
-/
import Gobptree.Proofs.CIDelRids
import Gobptree.Proofs.CKDelClamp

namespace Gobptree.Conc
open Gobptree

variable {K V : Type} {lt : K → K → Bool}

theorem sepLe_of_fact (h : SWO lt) {Wit : Nat → K → Prop} : ∀ {d : Nat} {c2 : Node K V d} {k2 : K},
    SepFact lt Wit d c2 k2 → ¬ Wit (Node.id c2) k2 → SepLe lt k2 d c2
  | 0, _, _, _, _ => trivial
  | _ + 1, _, k2, hf, hw => by
    intro r0 hr0
    obtain ⟨s', hs', he⟩ := hf.resolve_right hw
    cases hs'.symm.trans hr0
    exact (h.lt_congr_right he).symm.trans (h.irrefl k2)

/-- `hWk` ranges over three kids, the rebalanced one and both its neighbours (all held): which neighbour
    the window takes is not known here -/
theorem window_sepLe (h : SWO lt) (Wit : Nat → K → Prop) {d : Nat} (i : Inner K (Node K V d)) (index : Nat)
    (hsep : ISepN lt Wit (d + 1) i)
    (hWk : ∀ j k, i.kids[j]? = some k → index ≤ j + 1 → j ≤ index + 1 → ∀ x, ¬ Wit (Node.id k) x) :
    ∀ j k2 c2, i.runts[j]? = some k2 → i.kids[j]? = some c2 → index ≤ j → j ≤ index + 1 → SepLe lt k2 d c2 :=
  fun j k2 c2 hr hk h1 h2 =>
    sepLe_of_fact h (hsep (k2, c2) (List.mem_iff_getElem?.2 ⟨j, List.getElem?_zip_eq_some.2 ⟨hr, hk⟩⟩)).1
      (hWk j c2 hk (Nat.le_succ_of_le h1) h2 k2)

theorem rstab_of_widen (h : SWO lt) {W : Nat → Prop} {t t' : Tree K V} (hw : WidenG lt true W t t')
    (hids : t.ids.Nodup) (hpar : ParTree t) (hord : OrdTree lt t)
    (hids' : t'.ids.Nodup) (hpar' : ParTree t') (hord' : OrdTree lt t') : RStab lt W t t' :=
  fun key x hx hon => (onRoute_iff_cbounds h hids' hpar' hord' key x).2
    ((hw x hx).contains h ((onRoute_iff_cbounds h hids hpar hord key x).1 hon))

end Gobptree.Conc
