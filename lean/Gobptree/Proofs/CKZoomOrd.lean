/-
  `Ord` — monotonicity in the interval, key bounds of `pairs`, and the zoom / context lemma:
  what is stored left and right of a found node is below and above its interval, and any
  replacement that fits the interval can be written back.
-/
import Gobptree.Proofs.CKZoomRoute
import Gobptree.Proofs.Context

namespace Gobptree.Conc
open Gobptree

variable {K V : Type} {lt : K → K → Bool}

theorem Ord_mono_hi (h : SWO lt) : ∀ {d : Nat} {lo hi hi' : Option K} {n : Node K V d},
    hiLe lt hi hi' → Ord lt d lo hi n → Ord lt d lo hi' n := by
  intro d
  induction d with
  | zero =>
    intro lo hi hi' n hh hw
    obtain ⟨a, f⟩ := hw
    exact ⟨a, fun k hk => ⟨(f k hk).1, ltO_mono h hh (f k hk).2⟩⟩
  | succ d ih =>
    intro lo hi hi' n hh hw
    obtain ⟨f, g⟩ := hw
    exact ⟨f, Kids_mono_hi (R := fun a b c => Ord lt d a b c) h (fun a b b' c hb hr => ih hb hr) hh _ g⟩

theorem Ord_mono_lo (h : SWO lt) {d : Nat} {lo lo' hi : Option K} {n : Node K V d}
    (hh : loLe lt lo' lo) (hw : Ord lt d lo hi n) : Ord lt d lo' hi n := by
  cases d with
  | zero =>
    obtain ⟨a, f⟩ := hw
    exact ⟨a, fun k hk => ⟨leO_mono h hh (f k hk).1, (f k hk).2⟩⟩
  | succ d =>
    obtain ⟨f, g⟩ := hw
    exact ⟨fun k hk => leO_mono h hh (f k hk), g⟩

theorem Kids_pairsE_bounds (h : SWO lt) {d : Nat} {R : Option K → Option K → Node K V d → Prop}
    (hi : Option K) (es : List (K × Node K V d))
    (hR : ∀ e ∈ es, ∀ a b, R a b e.2 → ∀ p ∈ Node.pairs e.2, leO lt a p.1 ∧ ltO lt p.1 b)
    (hk : Kids lt R hi es) :
    ∀ p ∈ pairsE es, ltO lt p.1 hi ∧ ∃ e ∈ es, lt p.1 e.1 = false := by
  intro p hp
  obtain ⟨h1, h2⟩ := Kids_pairs_bounds h hi es hR hk p hp
  cases es with
  | nil => cases hp
  | cons e es => exact ⟨h1, e, List.mem_cons_self, h2 e rfl⟩

theorem Kids_next_lt {C : Type} {R : Option K → Option K → C → Prop} (h : SWO lt) (hi : Option K)
    (es : List (K × C)) (hk : Kids lt R hi es) (e : K × C) (he : e ∈ es) (x : K)
    (hx : ltO lt x (nextLo hi es)) : lt x e.1 = true := by
  cases es with
  | nil => cases he
  | cons e0 es =>
    obtain ⟨k0, c0⟩ := e0
    have hx' : lt x k0 = true := hx
    rcases List.mem_cons.1 he with rfl | he
    · exact hx'
    · exact h.trans _ _ _ hx' (Kids_head_lt h hi k0 c0 es hk e he)

theorem pairs_succ {d : Nat} (i : Inner K (Node K V d)) :
    Node.pairs (d := d + 1) i = i.kids.flatMap (Node.pairs (d := d)) := rfl

theorem Ord_pairs_bounds (h : SWO lt) : ∀ {d : Nat} {lo hi : Option K} {n : Node K V d},
    Ord lt d lo hi n → ParN d n → ∀ p ∈ Node.pairs n, leO lt lo p.1 ∧ ltO lt p.1 hi := by
  intro d
  induction d with
  | zero =>
    intro lo hi n hw _ p hp
    obtain ⟨_, f⟩ := hw
    exact f p.1 (List.of_mem_zip hp).1
  | succ d ih =>
    intro lo hi (n : Inner K (Node K V d)) hw hpar p hp
    obtain ⟨hlo, hk⟩ := hw
    obtain ⟨hlen, hne, hkids⟩ := hpar
    rw [pairs_inner_eq n hlen] at hp
    obtain ⟨h1, e, he, h2⟩ := Kids_pairsE_bounds h hi _
      (fun e he a b hr => ih hr (hkids e.2 (List.of_mem_zip he).2)) hk p hp
    refine ⟨?_, h1⟩
    cases hz : n.runts.zip n.kids with
    | nil => rw [hz] at he; cases he
    | cons e0 es =>
      obtain ⟨k0, c0⟩ := e0
      have hh : n.runts.head? = some k0 := by
        have := map_fst_zip_eq n.runts n.kids hlen
        rw [hz] at this
        rw [← this]; rfl
      rw [hz] at he hk
      have h0 : lt p.1 k0 = false := by
        rcases List.mem_cons.1 he with rfl | he
        · exact h2
        · exact h.le_of_lt (h.lt_of_lt_of_le (Kids_head_lt h hi k0 c0 es hk e he) h2)
      exact leO_trans h (hlo k0 hh) h0

theorem KidsOrd_pairs_bounds (h : SWO lt) {d : Nat} (hi : Option K) (rs : List K) (cs : List (Node K V d))
    (hl : rs.length = cs.length) (hpar : ∀ c ∈ cs, ParN d c)
    (hk : Kids lt (fun a b c => Ord lt d a b c) hi (rs.zip cs)) :
    ∀ p ∈ cs.flatMap (Node.pairs (d := d)), ltO lt p.1 hi ∧ ∃ e ∈ rs.zip cs, lt p.1 e.1 = false := by
  rw [← pairsE_zip rs cs hl]
  exact Kids_pairsE_bounds h hi _ (fun e he _ _ hr => Ord_pairs_bounds h hr (hpar e.2 (List.of_mem_zip he).2)) hk

/-- holds also when the search was clamped to kid 0: then nothing is left of it -/
theorem route_sep (h : SWO lt) (key : K) {d : Nat} (hi : Option K) (rA rB : List K) (k : K)
    (A B : List (Node K V d)) (hl : rA.length = A.length) (hlB : rB.length = B.length)
    (hs : Sorted lt (rA ++ k :: rB)) (hj : searchLE lt key (rA ++ k :: rB) = rA.length)
    (hparA : ∀ a ∈ A, ParN d a) (hparB : ∀ b ∈ B, ParN d b)
    (hKA : Kids lt (fun a b c => Ord lt d a b c) (some k) (rA.zip A))
    (hKB : Kids lt (fun a b c => Ord lt d a b c) hi (rB.zip B)) :
    AllLt lt (A.flatMap (Node.pairs (d := d))) key ∧ AllGt lt (B.flatMap (Node.pairs (d := d))) key := by
  have hbA := KidsOrd_pairs_bounds h (some k) rA A hl hparA hKA
  have hbB := KidsOrd_pairs_bounds h hi rB B hlB hparB hKB
  obtain ⟨hF1, hF2⟩ := searchLE_split_facts h key rA rB k hs hj
  constructor
  · intro p hp
    have hne : rA ≠ [] := by
      intro e
      subst e
      have : A = [] := List.eq_nil_of_length_eq_zero (by simpa using hl.symm)
      subst this
      simp at hp
    exact h.lt_of_lt_of_le (hbA p hp).1 (hF1 hne)
  · intro p hp
    obtain ⟨_, e, he, h2⟩ := hbB p hp
    exact h.lt_of_lt_of_le (hF2 e.1 (List.of_mem_zip he).1) h2

theorem Ord_sorted (h : SWO lt) {d : Nat} {lo hi : Option K} (i : Inner K (Node K V d))
    (hord : Ord lt (d + 1) lo hi i) (hpar : ParN (d + 1) i) : Sorted lt i.runts := by
  have := Kids_sorted h hi _ hord.2
  rwa [map_fst_zip_eq _ _ hpar.1] at this

theorem Ord_lo_le_sep (h : SWO lt) {d : Nat} {lo hi : Option K} (n : Inner K (Node K V d))
    (hord : Ord lt (d + 1) lo hi n) (hpar : ParN (d + 1) n) (rA rB : List K) (k : K)
    (hr : n.runts = rA ++ k :: rB) : leO lt lo k := by
  have hs := Ord_sorted h n hord hpar
  cases rA with
  | nil => exact hord.1 k (by rw [hr]; rfl)
  | cons r0 rA =>
    have hs' : Sorted lt (r0 :: (rA ++ k :: rB)) := by rw [hr] at hs; exact hs
    exact leO_trans h (hord.1 r0 (by rw [hr]; rfl)) (h.le_of_lt ((List.pairwise_cons.1 hs').1 k (List.mem_append_right _ List.mem_cons_self)))

/-- what zooming in on identity `id` (found as `m`, of height `d'`) inside `n` provides:
    the interval `[lo', hi')` the tree assigns to it, the pairs `PL` before and `PR` after
    it, and the rewrite rule. -/
structure Zoom (lt : K → K → Bool) (id : Nat) (d : Nat) (lo hi : Option K) (n : Node K V d)
    (d' : Nat) (m : Node K V d') (lo' hi' : Option K) (PL PR : List (K × V)) : Prop where
  bounds : boundsOf id d lo hi n = some (lo', hi')
  lo_le : ∀ x, leO lt lo' x → leO lt lo x
  hi_le : ∀ x, ltO lt x hi' → ltO lt x hi
  ord : Ord lt d' lo' hi' m
  par : ParN d' m
  pairs : Node.pairs n = PL ++ Node.pairs m ++ PR
  left : ∀ p ∈ PL, ∀ x, leO lt lo' x → lt p.1 x = true
  right : ∀ p ∈ PR, ∀ x, ltO lt x hi' → lt x p.1 = true
  /-- a key whose search passes the node separates `PL` from `PR` (even when it is below `lo'`
      because the search was clamped to kid 0, or not below `hi`) -/
  onRoute : ∀ key a b, (id, a, b) ∈ routeB lt key d lo hi n → AllLt lt PL key ∧ AllGt lt PR key
  rewrite : ∀ f : (d : Nat) → Node K V d → Node K V d, Ord lt d' lo' hi' (f d' m) → ParN d' (f d' m) →
    Ord lt d lo hi (modifyNode id f d n) ∧ ParN d (modifyNode id f d n) ∧
    Node.pairs (modifyNode id f d n) = PL ++ Node.pairs (f d' m) ++ PR

theorem Zoom.here (id : Nat) {d : Nat} (lo hi : Option K) (n : Node K V d)
    (hb : boundsOf id d lo hi n = some (lo, hi))
    (hmod : ∀ f : (d : Nat) → Node K V d → Node K V d, modifyNode id f d n = f d n)
    (hord : Ord lt d lo hi n) (hpar : ParN d n) :
    Zoom lt id d lo hi n d n lo hi [] [] where
  bounds := hb
  lo_le := fun _ hx => hx
  hi_le := fun _ hx => hx
  ord := hord
  par := hpar
  pairs := by simp
  left := fun p hp => by cases hp
  right := fun p hp => by cases hp
  onRoute := fun _ _ _ _ => ⟨fun p hp => (by cases hp), fun p hp => (by cases hp)⟩
  rewrite := fun f hO hP => by rw [hmod f]; exact ⟨hO, hP, by simp⟩

theorem zoom (h : SWO lt) (id : Nat) {d : Nat} (n : Node K V d) {d' : Nat} (m : Node K V d')
    (hf : findNode id d n = some ⟨d', m⟩) (hnd : (idsOf n).Nodup) (hpar : ParN d n) :
    ∀ lo hi : Option K, Ord lt d lo hi n → ∃ lo' hi' PL PR, Zoom lt id d lo hi n d' m lo' hi' PL PR := by
  refine findNode_rec id ?_ ?_ n hf hnd hpar
  · intro hid _ hparm lo hi hord
    exact ⟨lo, hi, [], [], Zoom.here id lo hi m (boundsOf_here id lo hi m hid)
      (fun f => modifyNode_at id f m hid) hord hparm⟩
  · intro d n rA k rB A c B hid _ hpar hr hk hl hlB _ hA hB ih lo hi hord
    have hparA : ∀ a ∈ A, ParN d a := fun a ha => hpar.2.2 a (by rw [hk]; simp [ha])
    have hparB : ∀ b ∈ B, ParN d b := fun b hb => hpar.2.2 b (by rw [hk]; simp [hb])
    have hsorted := Ord_sorted h n hord hpar
    have hlok : leO lt lo k := Ord_lo_le_sep h n hord hpar rA rB k hr
    obtain ⟨hlo, hkids⟩ := hord
    obtain ⟨hlen, hne, hpkids⟩ := hpar
    rw [hr, hk, Kids_decomp hi rA rB k A B c hl] at hkids
    obtain ⟨hKA, hOc, hklt, hKB⟩ := hkids
    obtain ⟨lo', hi', PLc, PRc, z⟩ := ih (some k) (nextLo hi (rB.zip B)) hOc
    have hbA := KidsOrd_pairs_bounds h (some k) rA A hl hparA hKA
    have hbB := KidsOrd_pairs_bounds h hi rB B hlB hparB hKB
    have hpairs : ∀ c2 : Node K V d, Node.pairs (d := d + 1) (Inner.mk n.id n.runts (A ++ c2 :: B) : Inner K (Node K V d)) =
        A.flatMap (Node.pairs (d := d)) ++ (Node.pairs c2 ++ B.flatMap (Node.pairs (d := d))) := by
      intro c2
      rw [pairs_succ]
      simp only [List.flatMap_append, List.flatMap_cons]
    refine ⟨lo', hi', A.flatMap (Node.pairs (d := d)) ++ PLc, PRc ++ B.flatMap (Node.pairs (d := d)), ?_⟩
    refine
      { bounds := (boundsOf_kid id lo hi n rA rB k A B c hid hr hk hl hA hB).trans z.bounds
        lo_le := ?_, hi_le := ?_, ord := z.ord, par := z.par, pairs := ?_, left := ?_, right := ?_,
        onRoute := ?_, rewrite := ?_ }
    · intro x hx
      exact leO_trans h hlok (z.lo_le x hx)
    · intro x hx
      exact ltO_nextLo h hi _ hKB x (z.hi_le x hx)
    · have : n = (Inner.mk n.id n.runts (A ++ c :: B) : Inner K (Node K V d)) := by rw [← hk]
      rw [this, hpairs c, z.pairs]
      simp only [List.append_assoc]
    · intro p hp x hx
      rcases List.mem_append.1 hp with hp | hp
      · have h1 : lt p.1 k = true := (hbA p hp).1
        have h2 : lt x k = false := z.lo_le x hx
        exact h.lt_of_lt_of_le h1 h2
      · exact z.left p hp x hx
    · intro p hp x hx
      rcases List.mem_append.1 hp with hp | hp
      · exact z.right p hp x hx
      · obtain ⟨_, e, he, h2⟩ := hbB p hp
        have h1 : lt x e.1 = true := Kids_next_lt h hi _ hKB e he x (z.hi_le x hx)
        exact h.lt_of_lt_of_le h1 h2
    · intro key a b hab
      obtain ⟨hj, hab'⟩ := route_below key lo hi n rA rB k A B c id hid hr hk hl hlB hA hB hab
      obtain ⟨zl, zr⟩ := z.onRoute key a b hab'
      obtain ⟨sl, sr⟩ := route_sep h key hi rA rB k A B hl hlB (by rw [← hr]; exact hsorted)
        (by rw [← hr, hj, hl]) hparA hparB hKA hKB
      constructor
      · intro p hp
        rcases List.mem_append.1 hp with hp | hp
        · exact sl p hp
        · exact zl p hp
      · intro p hp
        rcases List.mem_append.1 hp with hp | hp
        · exact zr p hp
        · exact sr p hp
    · intro f hO hP
      obtain ⟨hO', hP', hpr⟩ := z.rewrite f hO hP
      rw [modifyNode_kid id f n A B c hid hk hA hB]
      refine ⟨⟨hlo, ?_⟩, ⟨?_, hne, ?_⟩, ?_⟩
      · show Kids lt (fun a b c => Ord lt d a b c) hi (n.runts.zip (A ++ modifyNode id f d c :: B))
        rw [hr, Kids_decomp hi rA rB k A B _ hl]
        exact ⟨hKA, hO', hklt, hKB⟩
      · show n.runts.length = (A ++ modifyNode id f d c :: B).length
        rw [hlen, hk]; simp
      · intro c2 hc2
        have hc2' : c2 ∈ A ++ modifyNode id f d c :: B := hc2
        rcases List.mem_append.1 hc2' with h1 | h1
        · exact hparA c2 h1
        · rcases List.mem_cons.1 h1 with rfl | h1
          · exact hP'
          · exact hparB c2 h1
      · rw [hpairs, hpr]
        simp only [List.append_assoc]

theorem zoomAt (h : SWO lt) (id : Nat) {d : Nat} (n : Node K V d) (lo hi : Option K) {d' : Nat} (m : Node K V d')
    (hf : findNode id d n = some ⟨d', m⟩) (hnd : (idsOf n).Nodup) (hpar : ParN d n) (hord : Ord lt d lo hi n)
    {a b : Option K} (hb : boundsOf id d lo hi n = some (a, b)) :
    ∃ PL PR, Zoom lt id d lo hi n d' m a b PL PR := by
  obtain ⟨lo', hi', PL, PR, z⟩ := zoom h id n m hf hnd hpar lo hi hord
  cases hb.symm.trans z.bounds
  exact ⟨PL, PR, z⟩

end Gobptree.Conc
