/-
  `FinishedClean` is a THEOREM for programs that close their cursors.

  `Closing progs` (static, `CCleanDefs`) implies, in every reachable configuration, that a
  finished thread holds no mutex.  Hence for such programs
  every maximal execution ends with every operation returned and the owner table empty.

  Method: the per-thread invariant `CloseOk` (`CCleanDefs`) is carried through a step next to
  `CInv` (`reachable_cinv` gives `dead = false` after the step, so the stepping thread did not
  panic); a finished thread's `held` is its `cursorLocks` (`ThreadOk`, part of `CInv`), which
  `CloseOk` says is empty.
-/
import Gobptree.Proofs.CCleanDefs
import Gobptree.Proofs.CTerminate

namespace Gobptree.Conc
open Gobptree

variable {K V : Type}

def CloseInv (c : Config K V) : Prop := ∀ th ∈ c.threads, CloseOk th

theorem init_close (P : Params K) (tree : Tree K V) (progs : List (List (COp K V))) (hcl : Closing progs) :
    CloseInv (Config.init P tree progs) := by
  intro th hth
  obtain ⟨p, hp, rfl⟩ := mem_init_threads hth
  exact ⟨hcl p hp, rfl⟩

theorem step_close (c c' : Config K V) (t : Nat) (hstep : c.step t = some c') (hinv : CInv c)
    (hdead : c'.dead = false) (hcl : CloseInv c) : CloseInv c' := by
  obtain ⟨th, r, S⟩ := step_stepped hstep
  have hdied := (Bool.or_eq_false_iff.1 (S.dead.symm.trans hdead)).2
  refine S.all ?_ fun _ b _ hj => hcl b (List.mem_of_getElem? hj)
  rw [S.run] at hdied ⊢
  exact runThread_close c.P t th (stepSt c t th) rfl rfl (hinv.s.cfg th S.mem)
    (cursor_ge_of_ok (hinv.s.threads th S.mem).2) (hcl th S.mem) hdied

theorem reachable_close (P : Params K) (tree : Tree K V) (progs : List (List (COp K V)))
    (ht : TreeOk none tree) (ho : tree.order = P.order) (hp : PadOk P) (hcl : Closing progs)
    (hdel : 4 ≤ tree.order ∨ NoDelete progs)
    (c : Config K V) (hr : Reachable (Config.init P tree progs) c) : CloseInv c := by
  induction hr with
  | refl => exact init_close P tree progs hcl
  | @step c1 c2 t hr1 hs ih =>
    exact step_close c1 c2 t hs (reachable_cinv P tree progs ht ho hp hcl.disciplined hdel c1 hr1)
      (reachable_cinv P tree progs ht ho hp hcl.disciplined hdel c2 (.step t hr1 hs)).alive ih

theorem ThreadOk.held_nil_iff {th : Thread K V} (hok : ThreadOk th) :
    th.held = [] ↔ cursorLocks th.cursor = [] ∧ parkHeld th.park = [] := by
  rw [← List.append_eq_nil_iff]
  exact ⟨fun h => (h ▸ hok.1).symm.eq_nil, fun h => (h ▸ hok.1).eq_nil⟩

theorem finished_held_nil {th : Thread K V} (hok : ThreadOk th) (hcl : CloseOk th) (hf : th.park = .finished) :
    th.held = [] := by
  unfold CloseOk at hcl
  rw [hf] at hcl
  exact hok.held_nil_iff.2 ⟨hcl, by rw [hf]; rfl⟩

theorem reachable_finishedClean (P : Params K) (tree : Tree K V) (progs : List (List (COp K V)))
    (ht : TreeOk none tree) (ho : tree.order = P.order) (hp : PadOk P) (hcl : Closing progs)
    (hdel : 4 ≤ tree.order ∨ NoDelete progs)
    (c : Config K V) (hr : Reachable (Config.init P tree progs) c) : FinishedClean c := by
  have hinv := reachable_cinv P tree progs ht ho hp hcl.disciplined hdel c hr
  intro th hth hf
  exact finished_held_nil (hinv.s.cfg th hth) (reachable_close P tree progs ht ho hp hcl hdel c hr th hth) hf

/-- hence, for closing programs, no reachable configuration with an unfinished thread is
    deadlocked — the client-side proviso of `C06_no_deadlock` is discharged -/
theorem no_deadlock_closing (P : Params K) (tree : Tree K V) (progs : List (List (COp K V)))
    (ht : TreeOk none tree) (ho : tree.order = P.order) (hp : PadOk P) (hcl : Closing progs)
    (hdel : 4 ≤ tree.order ∨ NoDelete progs)
    (c : Config K V) (hr : Reachable (Config.init P tree progs) c) (hu : c.unfinished = true) :
    c.enabledSet ≠ [] :=
  (reachable_cinv P tree progs ht ho hp hcl.disciplined hdel c hr).not_deadlocked
    (reachable_finishedClean P tree progs ht ho hp hcl hdel c hr) hu

theorem all_operations_return_closing (P : Params K) (tree : Tree K V) (progs : List (List (COp K V)))
    (ht : TreeOk none tree) (ho : tree.order = P.order) (hp : PadOk P)
    (hcl : Closing progs) (hdel : 4 ≤ tree.order ∨ NoDelete progs)
    (c : Config K V) (hr : Reachable (Config.init P tree progs) c)
    (ts : List Nat) (c' : Config K V) (hrun : c.run ts = (c', none)) (hstuck : c'.enabledSet = []) :
    c'.unfinished = false :=
  all_operations_return P tree progs ht ho hp hcl.disciplined hdel c hr ts c' hrun hstuck
    (reachable_finishedClean P tree progs ht ho hp hcl hdel c' (reachable_of_run _ ts c c' hr hrun))

theorem finished_of_unfinished_false (c : Config K V) (hu : c.unfinished = false) :
    ∀ th ∈ c.threads, th.park = .finished := by
  intro th hm
  unfold Config.unfinished at hu
  have := (List.any_eq_false.1 hu) th hm
  cases hp : th.park with
  | finished => rfl
  | start => rw [hp] at this; simp at this
  | want l k => rw [hp] at this; simp at this
  | yielded k => rw [hp] at this; simp at this

theorem owner_nil_of_held_nil (c : Config K V) (ho : OwnerOk c) (hq : ∀ th ∈ c.threads, th.held = []) :
    c.owner = [] := by
  apply List.eq_nil_iff_forall_not_mem.2
  intro ⟨l, t⟩ hmem
  obtain ⟨th, hth, hl⟩ := mem_heldOf ((ho.mem_iff l t).1 hmem)
  rw [hq th (List.mem_of_getElem? hth)] at hl
  cases hl

theorem nothing_held_at_end (P : Params K) (tree : Tree K V) (progs : List (List (COp K V)))
    (ht : TreeOk none tree) (ho : tree.order = P.order) (hp : PadOk P)
    (hcl : Closing progs) (hdel : 4 ≤ tree.order ∨ NoDelete progs)
    (c : Config K V) (hr : Reachable (Config.init P tree progs) c)
    (ts : List Nat) (c' : Config K V) (hrun : c.run ts = (c', none)) (hstuck : c'.enabledSet = []) :
    c'.owner = [] ∧ ∀ th ∈ c'.threads, th.held = [] := by
  have hr' := reachable_of_run _ ts c c' hr hrun
  have hinv := reachable_cinv P tree progs ht ho hp hcl.disciplined hdel c' hr'
  have hfc := reachable_finishedClean P tree progs ht ho hp hcl hdel c' hr'
  have hu := all_operations_return_closing P tree progs ht ho hp hcl hdel c hr ts c' hrun hstuck
  have hq : ∀ th ∈ c'.threads, th.held = [] :=
    fun th hm => hfc th hm (finished_of_unfinished_false c' hu th hm)
  exact ⟨owner_nil_of_held_nil c' hinv.s.owner hq, hq⟩

/-- `Closing` is necessary for the guarantee, not only sufficient: the one-thread program
    `[NewScanner k]` is disciplined but not closing -/
theorem disciplined_not_closing (k : K) :
    Disciplined ([[COp.ns k]] : List (List (COp K V))) ∧ ¬ Closing ([[COp.ns k]] : List (List (COp K V))) := by
  refine ⟨?_, ?_⟩
  · intro p hp
    simp only [List.mem_singleton] at hp
    subst hp
    rfl
  · intro h
    have := h [COp.ns k] (by simp)
    simp [endSt, discStep] at this

#print axioms reachable_finishedClean
#print axioms all_operations_return_closing
#print axioms nothing_held_at_end
#print axioms no_deadlock_closing
#print axioms Closing.disciplined

end Gobptree.Conc
