/-
  The client-visible history as a function of the log.  `hxStep` is read through two
  projections: the event one log entry adds (`hxEmit`) and the thread's newest callback
  argument (`lastCb`); membership of an invocation or a response in the history is then a
  statement about the log alone.  The second half takes one scheduler step apart once
  (`CStep.stepRun`), for the invariants that are proved step by step.
-/
import Gobptree.Proofs.CLDefs
import Gobptree.Proofs.CSStep

namespace Gobptree.Conc
open Gobptree Gobptree.Lin

variable {K V : Type}

/-- history extraction from a log kept newest first -/
def hx (progs : Nat → List (COp K V)) (evs : List (Ev K V)) : HxSt K V :=
  evs.reverse.foldl (hxStep progs) ⟨[], fun _ => none⟩

theorem hx_nil (progs : Nat → List (COp K V)) : hx progs [] = ⟨[], fun _ => none⟩ := rfl

theorem hx_cons (progs : Nat → List (COp K V)) (e : Ev K V) (evs : List (Ev K V)) :
    hx progs (e :: evs) = hxStep progs (hx progs evs) e := by
  simp [hx, List.foldl_append]

theorem hxRun_eq (c : Config K V) : hxRun c = hx (progOf c) c.log := rfl

def hxEmit (progs : Nat → List (COp K V)) (cb : Nat → Option (Option V)) : Ev K V → Option (HEv K V)
  | .note t (.inv i) => (((progs t)[i]?).bind opOf).map (.inv t i)
  | .note t (.ret i r) => (((progs t)[i]?).bind fun op => outOf op r (cb t)).map (.ret t i)
  | _ => none

def cbOf (t : Nat) : Ev K V → Option (Option V)
  | .note t' (.cb a) => if t' = t then some a else none
  | _ => none

def lastCb (t : Nat) (evs : List (Ev K V)) : Option (Option V) := evs.findSome? (cbOf t)

theorem lastCb_cons (t : Nat) (e : Ev K V) (rest : List (Ev K V)) :
    lastCb t (e :: rest) = (cbOf t e).or (lastCb t rest) := by
  unfold lastCb; rw [List.findSome?_cons]; cases cbOf t e <;> rfl

theorem hxStep_evs (progs : Nat → List (COp K V)) (st : HxSt K V) (e : Ev K V) :
    (hxStep progs st e).evs = st.evs ++ (hxEmit progs st.cb e).toList := by
  cases e with
  | note t n =>
    cases n with
    | inv i =>
      simp only [hxStep, hxEmit]
      cases ((progs t)[i]?).bind opOf with
      | none => exact (List.append_nil _).symm
      | some op => rfl
    | cb a => exact (List.append_nil _).symm
    | ret i r =>
      simp only [hxStep, hxEmit]
      cases (progs t)[i]? with
      | none => exact (List.append_nil _).symm
      | some op => cases h : outOf op r (st.cb t) <;> simp [h]
  | acq t l => exact (List.append_nil _).symm
  | rel t l => exact (List.append_nil _).symm
  | dec t l => exact (List.append_nil _).symm

theorem hxStep_mono (progs : Nat → List (COp K V)) (st : HxSt K V) (e : Ev K V) (x : HEv K V)
    (hx : x ∈ st.evs) : x ∈ (hxStep progs st e).evs := by
  rw [hxStep_evs]; exact List.mem_append_left _ hx

theorem hx_cb (progs : Nat → List (COp K V)) (t : Nat) : ∀ evs : List (Ev K V), (hx progs evs).cb t = lastCb t evs := by
  intro evs
  induction evs with
  | nil => rfl
  | cons e rest ih =>
    rw [hx_cons, lastCb_cons, ← ih]
    cases e with
    | note t' n =>
      cases n with
      | inv i => simp only [hxStep, cbOf]; split <;> rfl
      | cb a =>
        simp only [hxStep, cbOf]
        by_cases e : t = t'
        · rw [if_pos e, if_pos e.symm]; rfl
        · rw [if_neg e, if_neg (Ne.symm e)]; rfl
      | ret i r =>
        simp only [hxStep, cbOf]
        split
        · split <;> rfl
        · rfl
    | acq t' l => rfl
    | rel t' l => rfl
    | dec t' l => rfl

theorem hxEmit_inv {progs : Nat → List (COp K V)} {cb : Nat → Option (Option V)} {e : Ev K V} {t i : Nat} {op : Op K V} :
    hxEmit progs cb e = some (.inv t i op) ↔ e = .note t (.inv i) ∧ ((progs t)[i]?).bind opOf = some op := by
  cases e with
  | note t' n =>
    cases n with
    | inv i' =>
      simp only [hxEmit, Option.map_eq_some_iff, HEv.inv.injEq, Ev.note.injEq, Note.inv.injEq]
      constructor
      · rintro ⟨_, h, rfl, rfl, rfl⟩; exact ⟨⟨rfl, rfl⟩, h⟩
      · rintro ⟨⟨rfl, rfl⟩, h⟩; exact ⟨_, h, rfl, rfl, rfl⟩
    | cb a => simp [hxEmit]
    | ret i' r =>
      simp only [hxEmit, Option.map_eq_some_iff, reduceCtorEq, and_false, exists_false, false_iff]
      rintro ⟨h, _⟩; cases h
  | acq t' l => simp [hxEmit]
  | rel t' l => simp [hxEmit]
  | dec t' l => simp [hxEmit]

theorem hxEmit_ret {progs : Nat → List (COp K V)} {cb : Nat → Option (Option V)} {e : Ev K V} {t i : Nat} {out : Out V} :
    hxEmit progs cb e = some (.ret t i out) ↔
      ∃ r, e = .note t (.ret i r) ∧ ((progs t)[i]?).bind (fun op => outOf op r (cb t)) = some out := by
  cases e with
  | note t' n =>
    cases n with
    | inv i' =>
      simp only [hxEmit, Option.map_eq_some_iff, reduceCtorEq, and_false, exists_false, false_iff]
      rintro ⟨r, h, _⟩; cases h
    | cb a => simp [hxEmit]
    | ret i' r =>
      simp only [hxEmit, Option.map_eq_some_iff, HEv.ret.injEq, Ev.note.injEq, Note.ret.injEq]
      constructor
      · rintro ⟨_, h, rfl, rfl, rfl⟩; exact ⟨r, ⟨rfl, rfl, rfl⟩, h⟩
      · rintro ⟨_, ⟨rfl, rfl, rfl⟩, h⟩; exact ⟨_, h, rfl, rfl, rfl⟩
  | acq t' l => simp [hxEmit]
  | rel t' l => simp [hxEmit]
  | dec t' l => simp [hxEmit]

theorem hx_evs_append (progs : Nat → List (COp K V)) (evs : List (Ev K V)) :
    ∀ new : List (Ev K V), ∃ ext, (hx progs (new ++ evs)).evs = (hx progs evs).evs ++ ext := by
  intro new
  induction new with
  | nil => exact ⟨[], by simp⟩
  | cons e rest ih =>
    obtain ⟨ext, he⟩ := ih
    rw [List.cons_append, hx_cons, hxStep_evs, he, List.append_assoc]
    exact ⟨_, rfl⟩

theorem hx_mono (progs : Nat → List (COp K V)) (evs : List (Ev K V)) (x : HEv K V) :
    ∀ new : List (Ev K V), x ∈ (hx progs evs).evs → x ∈ (hx progs (new ++ evs)).evs := by
  intro new h
  obtain ⟨ext, he⟩ := hx_evs_append progs evs new
  rw [he]; exact List.mem_append_left _ h

theorem mem_hx_inv {progs : Nat → List (COp K V)} {t i : Nat} {op : Op K V} : ∀ {evs : List (Ev K V)},
    HEv.inv t i op ∈ (hx progs evs).evs ↔ Ev.note t (.inv i) ∈ evs ∧ ((progs t)[i]?).bind opOf = some op := by
  intro evs
  induction evs with
  | nil => simp [hx_nil]
  | cons e rest ih =>
    rw [hx_cons, hxStep_evs, List.mem_append, ih, Option.mem_toList, hxEmit_inv, List.mem_cons]
    constructor
    · rintro (⟨h1, h2⟩ | ⟨rfl, h2⟩)
      · exact ⟨Or.inr h1, h2⟩
      · exact ⟨Or.inl rfl, h2⟩
    · rintro ⟨h1 | h1, h2⟩
      · exact Or.inr ⟨h1.symm, h2⟩
      · exact Or.inl ⟨h1, h2⟩

theorem mem_hx_ret {progs : Nat → List (COp K V)} {t i : Nat} {out : Out V} : ∀ {evs : List (Ev K V)},
    HEv.ret t i out ∈ (hx progs evs).evs ↔
      ∃ r pre post, evs = post ++ Ev.note t (.ret i r) :: pre ∧
        ((progs t)[i]?).bind (fun op => outOf op r ((hx progs pre).cb t)) = some out := by
  intro evs
  induction evs with
  | nil => simp [hx_nil]
  | cons e rest ih =>
    rw [hx_cons, hxStep_evs, List.mem_append, ih, Option.mem_toList, hxEmit_ret]
    constructor
    · rintro (⟨r, pre, post, rfl, h⟩ | ⟨r, rfl, h⟩)
      · exact ⟨r, pre, e :: post, rfl, h⟩
      · exact ⟨r, rest, [], rfl, h⟩
    · rintro ⟨r, pre, post, he, h⟩
      cases post with
      | nil =>
        obtain ⟨rfl, rfl⟩ := List.cons.inj he
        exact Or.inr ⟨r, rfl, h⟩
      | cons e' post =>
        obtain ⟨rfl, rfl⟩ := List.cons.inj he
        exact Or.inl ⟨r, pre, post, rfl, h⟩

def quietB (t : Nat) : Ev K V → Bool
  | .note t' (.cb _) => decide (t' = t)
  | .note _ _ => false
  | _ => true

def silentB : Ev K V → Bool
  | .note _ _ => false
  | _ => true

theorem cbOf_some {t : Nat} {e : Ev K V} {a : Option V} (h : cbOf t e = some a) : e = .note t (.cb a) := by
  cases e with
  | note t' n =>
    cases n with
    | cb a' =>
      simp only [cbOf] at h
      split at h
      · rename_i e; cases h; rw [e]
      · cases h
    | inv i => cases h
    | ret i r => cases h
  | acq t' l => cases h
  | rel t' l => cases h
  | dec t' l => cases h

theorem lastCb_mem (t : Nat) (new : List (Ev K V)) (a : Option V) (h : lastCb t new = some a) : Ev.note t (.cb a) ∈ new := by
  obtain ⟨e, he, hf⟩ := List.exists_of_findSome?_eq_some h
  exact cbOf_some hf ▸ he

theorem lastCb_append (t : Nat) (new pre : List (Ev K V)) :
    lastCb t (new ++ pre) = match lastCb t new with | some a => some a | none => lastCb t pre := by
  unfold lastCb; rw [List.findSome?_append]; cases List.findSome? (cbOf t) new <;> rfl

theorem hxEmit_quiet {progs : Nat → List (COp K V)} {cb : Nat → Option (Option V)} {t : Nat} {e : Ev K V}
    (h : quietB t e = true) : hxEmit progs cb e = none := by
  cases e with
  | note t' n => cases n <;> first | rfl | cases h
  | acq t' l => rfl
  | rel t' l => rfl
  | dec t' l => rfl

theorem cbOf_quiet_other {t t' : Nat} (hne : t' ≠ t) {e : Ev K V} (h : quietB t e = true) : cbOf t' e = none := by
  cases e with
  | note t'' n =>
    cases n with
    | cb a => exact if_neg (fun e => hne (e.symm.trans (of_decide_eq_true h)))
    | inv i => rfl
    | ret i r => rfl
  | acq t'' l => rfl
  | rel t'' l => rfl
  | dec t'' l => rfl

theorem lastCb_quiet_other {t t' : Nat} (hne : t' ≠ t) {new : List (Ev K V)} (hq : new.all (quietB t) = true) :
    lastCb t' new = none :=
  List.findSome?_eq_none_iff.2 fun e he => cbOf_quiet_other hne (List.all_eq_true.1 hq e he)

theorem hx_quiet (progs : Nat → List (COp K V)) (t : Nat) (evs : List (Ev K V)) :
    ∀ (new : List (Ev K V)), new.all (quietB t) = true →
      (hx progs (new ++ evs)).evs = (hx progs evs).evs ∧
      (∀ t', t' ≠ t → (hx progs (new ++ evs)).cb t' = (hx progs evs).cb t') ∧
      (hx progs (new ++ evs)).cb t = (match lastCb t new with | some a => some a | none => (hx progs evs).cb t) := by
  intro new hq
  refine ⟨?_, fun t' hne => ?_, ?_⟩
  · induction new with
    | nil => rfl
    | cons e rest ih =>
      simp only [List.all_cons, Bool.and_eq_true] at hq
      rw [List.cons_append, hx_cons, hxStep_evs, hxEmit_quiet hq.1, ih hq.2]
      exact List.append_nil _
  · rw [hx_cb, hx_cb, lastCb_append, lastCb_quiet_other hne hq]
  · rw [hx_cb, hx_cb, lastCb_append]

theorem quiet_of_silent (t : Nat) {new : List (Ev K V)} (h : new.all silentB = true) : new.all (quietB t) = true := by
  rw [List.all_eq_true] at h ⊢
  intro e he
  have := h e he
  cases e with
  | note t' n => cases this
  | acq t' l => rfl
  | rel t' l => rfl
  | dec t' l => rfl

theorem hx_silent (progs : Nat → List (COp K V)) (evs : List (Ev K V)) :
    ∀ (new : List (Ev K V)), new.all silentB = true → hx progs (new ++ evs) = hx progs evs := by
  intro new
  induction new with
  | nil => intro _; rfl
  | cons e rest ih =>
    intro hq
    simp only [List.all_cons, Bool.and_eq_true] at hq
    rw [List.cons_append, hx_cons, ih hq.2]
    cases e with
    | note t' n => simp [silentB] at hq
    | acq t' l => rfl
    | rel t' l => rfl
    | dec t' l => rfl

def b2n (b : Bool) : Nat := if b then 1 else 0

def isCb (t : Nat) : Ev K V → Bool
  | .note t' (.cb _) => t' == t
  | _ => false

def cbN (t : Nat) (evs : List (Ev K V)) : Nat := evs.countP (isCb t)

theorem cbN_append (t : Nat) (new evs : List (Ev K V)) : cbN t (new ++ evs) = cbN t new + cbN t evs :=
  List.countP_append ..

theorem isCb_silent (t : Nat) {e : Ev K V} (h : silentB e = true) : isCb t e = false := by
  cases e <;> first | rfl | cases h

theorem cbN_of_silent (t : Nat) {new : List (Ev K V)} (h : new.all silentB = true) : cbN t new = 0 :=
  List.countP_eq_zero.2 fun e he => ne_true_of_eq_false (isCb_silent t (List.all_eq_true.1 h e he))

theorem cbN_silent (t : Nat) (evs new : List (Ev K V)) (h : new.all silentB = true) :
    cbN t (new ++ evs) = cbN t evs := by
  rw [cbN_append, cbN_of_silent t h, Nat.zero_add]

theorem threadLoop_panic (t : Nat) (th : Thread K V) (fuel : Nat) (s : St K V) (pc : Nat) :
    (threadLoop t th fuel s .panic pc).2.2 = true := by
  cases fuel <;> simp [threadLoop]

theorem progOf_of_get {c : Config K V} {t : Nat} {th : Thread K V} (ht : c.threads[t]? = some th) :
    progOf c t = th.prog := by
  unfold progOf; rw [ht]; rfl

theorem step_progOf {c c' : Config K V} {t : Nat} (hstep : c.step t = some c') : progOf c' = progOf c := by
  obtain ⟨th, r, S⟩ := step_stepped hstep
  funext j
  unfold progOf
  rw [← List.getElem?_map, S.map_prog, List.getElem?_map]

/-- One step of thread `t` from a configuration that satisfies `CInv`, with what the history layers
    read off it: the programs stay, and the `dec` event the scheduler logs first leaves the history
    alone.  (The step does not panic: `CStep.alive`.) -/
structure StepRun (c c' : Config K V) (t : Nat) (th : Thread K V) (r : Thread K V × St K V × Bool) : Prop
    extends CStep c c' t th r where
  prog    : th.prog = progOf c t
  progs   : progOf c' = progOf c
  history : history c' = (hx (progOf c) r.2.1.evs).evs
  hx0     : hx (progOf c) (stepSt c t th).evs = hx (progOf c) c.log

theorem CStep.stepRun {c c' : Config K V} {t : Nat} {th : Thread K V} {r : Thread K V × St K V × Bool}
    (F : CStep c c' t th r) (hstep : c.step t = some c') : StepRun c c' t th r := by
  have hprogs := step_progOf hstep
  refine ⟨F, (progOf_of_get F.get).symm, hprogs, ?_, hx_silent (progOf c) c.log [Ev.dec t c.enabledSet] rfl⟩
  show (hxRun c').evs = _
  rw [hxRun_eq, hprogs, F.log]

end Gobptree.Conc
