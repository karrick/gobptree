/-
  The separator invariant `ISep`.

  With repair F7 a node's first separator is only ever lowered, and every separator a parent
  stores for an INNER child equals (up to the order's equivalence) that child's own first
  separator — except for the moment between an Insert/Update lowering a node's first
  separator to its key and lowering the first child's: then the thread is parked at
  `upChild key … r 0 …` holding `r`, and the parent's separator for `r` is that `key`.
  This is what keeps a READER (Search/NewScanner, which does not lower anything) on the
  route of its key when a Delete moves subtrees between siblings: there are no gaps between
  a parent's separator and the child's first separator into which a clamped reader could
  have been routed.
-/
import Gobptree.Proofs.CKBlock

namespace Gobptree.Conc
open Gobptree

variable {K V : Type}

/-- some Insert/Update has lowered the separator above `r` to its key `s` and is about to
    lower `r`'s own first separator: it is parked at `upChild s … r 0 …` -/
def Lowering (ths : List (Thread K V)) (r : Nat) (s : K) : Prop :=
  ∃ th ∈ ths, ∃ l f y child, th.park = .want l (.upChild s f y r 0 child)

/-- every separator stored for an inner child is equivalent to that child's first separator,
    unless an Insert/Update is in the middle of lowering both -/
def ISep (lt : K → K → Bool) (c : Config K V) : Prop :=
  ∀ (g j r : Nat) (sg sr : Shallow K V) (s : K), c.tree.look g = some sg → sg.kids[j]? = some r → c.tree.look r = some sr →
    0 < sr.height → sg.keys[j]? = some s →
    (∃ s', sr.keys.head? = some s' ∧ eqv lt s s' = true) ∨ Lowering c.threads r s

/-- tree-level form of `ISep` with an abstract set of "lowering in progress" witnesses -/
def ISepW (lt : K → K → Bool) (Wit : Nat → K → Prop) (t : Tree K V) : Prop :=
  ∀ (g j r : Nat) (sg sr : Shallow K V) (s : K), t.look g = some sg → sg.kids[j]? = some r → t.look r = some sr →
    0 < sr.height → sg.keys[j]? = some s →
    (∃ s', sr.keys.head? = some s' ∧ eqv lt s s' = true) ∨ Wit r s

/-- the witness a continuation itself provides: only `upChild` at index 0, because
    `lowerFirst` (Ops.lean) lowers a first separator only at index 0 -/
def kontWit : Kont K V → Nat → K → Prop
  | .upChild key _ _ r 0 _ => fun r' s => r' = r ∧ s = key
  | _ => fun _ _ => False

def parkWit : Park K V → Nat → K → Prop
  | .want _ k => kontWit k
  | _ => fun _ _ => False

def flowWit : Flow K V → Nat → K → Prop
  | .park p => parkWit p
  | _ => fun _ _ => False

/-- only a thread parked at `upChild x … r 0 …` provides a witness -/
theorem parkWit_inv {p : Park K V} {r : Nat} {x : K} (h : parkWit p r x) :
    ∃ l f y child, p = .want l (.upChild x f y r 0 child) := by
  cases p with
  | want l k =>
    cases k with
    | upChild key f y parent index child =>
      cases index with
      | zero => exact ⟨l, f, y, child, by rw [h.1, h.2]⟩
      | succ n => exact absurd h id
    | _ => exact absurd h id
  | _ => exact absurd h id

theorem lowering_iff (ths : List (Thread K V)) (r : Nat) (s : K) :
    Lowering ths r s ↔ ∃ th ∈ ths, parkWit th.park r s := by
  constructor
  · rintro ⟨th, hth, l, f, y, child, hp⟩
    exact ⟨th, hth, by rw [hp]; exact ⟨rfl, rfl⟩⟩
  · rintro ⟨th, hth, hw⟩
    exact ⟨th, hth, parkWit_inv hw⟩

theorem isep_iff (lt : K → K → Bool) (c : Config K V) :
    ISep lt c ↔ ISepW lt (fun r s => ∃ th ∈ c.threads, parkWit th.park r s) c.tree := by
  unfold ISep ISepW
  constructor
  · intro h g j r sg sr s a b cc d e
    rcases h g j r sg sr s a b cc d e with h1 | h1
    · exact Or.inl h1
    · exact Or.inr ((lowering_iff _ _ _).1 h1)
  · intro h g j r sg sr s a b cc d e
    rcases h g j r sg sr s a b cc d e with h1 | h1
    · exact Or.inl h1
    · exact Or.inr ((lowering_iff _ _ _).2 h1)

/-- interface of the per-block separator lemmas: with the other threads' witnesses `Wit`
    (all about nodes whose mutex the running thread does not hold) and the running thread's
    own, the separator invariant survives the stretch with the own witness replaced by the
    one of the continuation it parks with -/
def ResumeIU (K V : Type) : Prop :=
  ∀ (lt : K → K → Bool) (P : Params K) (t : Nat) (s : St K V) (k : Kont K V) (H : List Lk) (hole : Option Nat)
    (Wit : Nat → K → Prop),
    isDelK k = false → KParams lt P → Pre P hole s → KontOk s.tree k →
    CursorOk s.tree (isHopK k) s.cursor → KontPre s.cursor k → Covers H s.cursor k →
    OrdTree lt s.tree → KPos lt s.tree k →
    (∀ r x, Wit r x → Lk.node r ∉ H) →
    ISepW lt (fun r x => Wit r x ∨ kontWit k r x) s.tree →
    ISepW lt (fun r x => Wit r x ∨ flowWit (resume P t s k).2 r x) (resume P t s k).1.tree

def ResumeID (K V : Type) : Prop :=
  ∀ (lt : K → K → Bool) (P : Params K) (t : Nat) (s : St K V) (k : Kont K V) (H : List Lk)
    (Wit : Nat → K → Prop),
    isDelK k = true → 4 ≤ s.tree.order → KParams lt P → Pre P (kontHole k) s → KontOk s.tree k →
    KontPre s.cursor k → Covers H s.cursor k →
    OrdTree lt s.tree → KPos lt s.tree k →
    (∀ r x, Wit r x → Lk.node r ∉ H) →
    ISepW lt Wit s.tree →
    ISepW lt Wit (resume P t s k).1.tree ∧ StableRoutes lt H s.tree (resume P t s k).1.tree

theorem ISepW.mono {lt : K → K → Bool} {Wit Wit' : Nat → K → Prop} {t : Tree K V} (hw : ∀ r x, Wit r x → Wit' r x)
    (h : ISepW lt Wit t) : ISepW lt Wit' t :=
  fun g j r sg sr s a b c d e => (h g j r sg sr s a b c d e).imp_right (hw _ _)

end Gobptree.Conc
