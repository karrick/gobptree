/-
  Basic facts about `leO`/`ltO` and `Kids`; the comparison of interval ends `hiLe`/`loLe`; a sorted,
  bounded leaf read as a `Kids` chain (`leaf_chain`).  `WF` and `pairs` follow in `WFLemmas2`.
-/
import Gobptree.Proofs.WF

namespace Gobptree

variable {K V : Type} {lt : K → K → Bool}

theorem leO_none (k : K) : leO lt none k := trivial
theorem ltO_none (k : K) : ltO lt k none := trivial

theorem leO_trans (h : SWO lt) {lo : Option K} {a b : K} (h1 : leO lt lo a) (h2 : lt b a = false) :
    leO lt lo b := by
  cases lo with
  | none => trivial
  | some l => exact h.le_trans h1 h2

theorem ltO_of_le (h : SWO lt) {hi : Option K} {a b : K} (h1 : ltO lt b hi) (h2 : lt b a = false) :
    ltO lt a hi := by
  cases hi with
  | none => trivial
  | some u => exact h.lt_of_le_of_lt h2 h1

theorem ltO_of_lt (h : SWO lt) {hi : Option K} {a b : K} (h1 : lt a b = true) (h2 : ltO lt b hi) :
    ltO lt a hi :=
  ltO_of_le h h2 (h.le_of_lt h1)

/-- weakening an upper bound: `hi ≤ hi'` -/
def hiLe (lt : K → K → Bool) (hi hi' : Option K) : Prop :=
  match hi', hi with
  | none, _ => True
  | some _, none => False
  | some u', some u => lt u' u = false

theorem hiLe_refl (h : SWO lt) (hi : Option K) : hiLe lt hi hi := by
  cases hi with
  | none => trivial
  | some u => exact h.irrefl u

theorem ltO_mono (h : SWO lt) {hi hi' : Option K} {k : K} (hh : hiLe lt hi hi') (h1 : ltO lt k hi) :
    ltO lt k hi' := by
  cases hi' with
  | none => trivial
  | some u' =>
    cases hi with
    | none => exact absurd hh id
    | some u => exact h.lt_of_lt_of_le h1 hh

/-- weakening a lower bound: `lo' ≤ lo` -/
def loLe (lt : K → K → Bool) (lo' lo : Option K) : Prop :=
  match lo', lo with
  | none, _ => True
  | some _, none => False
  | some l', some l => lt l l' = false

theorem loLe_refl (h : SWO lt) (lo : Option K) : loLe lt lo lo := by
  cases lo with
  | none => trivial
  | some l => exact h.irrefl l

theorem leO_mono (h : SWO lt) {lo lo' : Option K} {k : K} (hh : loLe lt lo' lo) (h1 : leO lt lo k) :
    leO lt lo' k := by
  cases lo' with
  | none => trivial
  | some l' =>
    cases lo with
    | none => exact absurd hh id
    | some l => exact h.le_trans hh h1

section kids
variable {C : Type} {R : Option K → Option K → C → Prop}

theorem nextLo_append (hi : Option K) (l r : List (K × C)) :
    nextLo hi (l ++ r) = nextLo (nextLo hi r) l := by
  cases l <;> rfl

theorem Kids_append (hi : Option K) (l r : List (K × C)) :
    Kids lt R hi (l ++ r) ↔ Kids lt R (nextLo hi r) l ∧ Kids lt R hi r := by
  induction l with
  | nil => simp [Kids]
  | cons p l ih =>
    obtain ⟨k, c⟩ := p
    simp only [List.cons_append, Kids, ih, nextLo_append, and_assoc]

theorem Kids_cons (hi : Option K) (k : K) (c : C) (rest : List (K × C)) :
    Kids lt R hi ((k, c) :: rest) ↔
      R (some k) (nextLo hi rest) c ∧ ltO lt k (nextLo hi rest) ∧ Kids lt R hi rest := Iff.rfl

theorem Kids_decomp (hi : Option K)
    (rA rB : List K) (k : K) (A B : List C) (c : C) (hl : rA.length = A.length) :
    Kids lt R hi ((rA ++ k :: rB).zip (A ++ c :: B)) ↔
      Kids lt R (some k) (rA.zip A) ∧ R (some k) (nextLo hi (rB.zip B)) c ∧
      ltO lt k (nextLo hi (rB.zip B)) ∧ Kids lt R hi (rB.zip B) := by
  rw [List.zip_append hl, List.zip_cons_cons, Kids_append, Kids_cons]
  rfl

theorem zip_fst_snd {α β : Type} (M : List (α × β)) : (M.map Prod.fst).zip (M.map Prod.snd) = M :=
  (List.zip_of_prod rfl rfl).symm

theorem length_fst_snd {α β : Type} (M : List (α × β)) : (M.map Prod.fst).length = (M.map Prod.snd).length := by
  rw [List.length_map, List.length_map]

theorem zip_mid {α β : Type} (rA rB : List α) (k : α) (A B : List β) (c : β) (M : List (α × β))
    (hl : rA.length = A.length) :
    (rA ++ k :: (M.map Prod.fst ++ rB)).zip (A ++ c :: (M.map Prod.snd ++ B)) =
      rA.zip A ++ ((k, c) :: M ++ rB.zip B) := by
  rw [List.zip_append hl, List.zip_cons_cons, List.zip_append (length_fst_snd M), zip_fst_snd, List.cons_append]

theorem Kids_mid (hi : Option K) (rA rB : List K) (k : K)
    (A B : List C) (c : C) (M : List (K × C)) (hl : rA.length = A.length) :
    Kids lt R hi ((rA ++ k :: (M.map Prod.fst ++ rB)).zip (A ++ c :: (M.map Prod.snd ++ B))) ↔
      Kids lt R (some k) (rA.zip A) ∧ Kids lt R (nextLo hi (rB.zip B)) ((k, c) :: M) ∧ Kids lt R hi (rB.zip B) := by
  rw [zip_mid _ _ _ _ _ _ _ hl, Kids_append, Kids_append]
  rfl

theorem Kids_mono_hi (h : SWO lt) (hR : ∀ a b b' c, hiLe lt b b' → R a b c → R a b' c)
    {hi hi' : Option K} (hh : hiLe lt hi hi') (l : List (K × C)) :
    Kids lt R hi l → Kids lt R hi' l := by
  induction l with
  | nil => intro _; trivial
  | cons p l ih =>
    obtain ⟨k, c⟩ := p
    cases l with
    | nil =>
      intro ⟨a, b, _⟩
      exact ⟨hR _ _ _ _ hh a, ltO_mono h hh b, trivial⟩
    | cons q l =>
      intro ⟨a, b, c'⟩
      exact ⟨a, b, ih c'⟩

theorem Kids_imp_mem {R' : Option K → Option K → C → Prop} (hi : Option K) :
    ∀ (l : List (K × C)), (∀ e ∈ l, ∀ a b, R a b e.2 → R' a b e.2) → Kids lt R hi l → Kids lt R' hi l
  | [], _, _ => trivial
  | (k, c) :: rest, hR, h =>
    ⟨hR (k, c) List.mem_cons_self _ _ h.1, h.2.1,
      Kids_imp_mem hi rest (fun e he => hR e (List.mem_cons_of_mem _ he)) h.2.2⟩

theorem Kids_imp {R' : Option K → Option K → C → Prop} (hR : ∀ a b c, R a b c → R' a b c)
    (hi : Option K) (l : List (K × C)) : Kids lt R hi l → Kids lt R' hi l :=
  Kids_imp_mem hi l fun e _ a b => hR a b e.2

theorem Kids_keys_lt (h : SWO lt) (hi : Option K) (l : List (K × C)) (hk : Kids lt R hi l) :
    ∀ p ∈ l, ltO lt p.1 hi := by
  induction l with
  | nil => intro p hp; cases hp
  | cons q l ih =>
    obtain ⟨k, c⟩ := q
    obtain ⟨_, b, c'⟩ := hk
    intro p hp
    have ihl := ih c'
    cases List.mem_cons.mp hp with
    | inl e =>
      subst e
      cases l with
      | nil => exact b
      | cons r l =>
        obtain ⟨k2, c2⟩ := r
        exact ltO_of_lt h b (ihl (k2, c2) List.mem_cons_self)
    | inr hm => exact ihl p hm

theorem ltO_nextLo (h : SWO lt) (hi : Option K) (es : List (K × C)) (hk : Kids lt R hi es) (x : K)
    (hx : ltO lt x (nextLo hi es)) : ltO lt x hi := by
  cases es with
  | nil => exact hx
  | cons e0 es =>
    obtain ⟨k0, c0⟩ := e0
    exact ltO_of_lt h hx (Kids_keys_lt h hi _ hk (k0, c0) List.mem_cons_self)

theorem Kids_head_lt (h : SWO lt) (hi : Option K) (k : K) (c : C) (l : List (K × C))
    (hk : Kids lt R hi ((k, c) :: l)) : ∀ p ∈ l, lt k p.1 = true := by
  induction l generalizing k c with
  | nil => intro p hp; cases hp
  | cons q l ih =>
    obtain ⟨k2, c2⟩ := q
    obtain ⟨_, b, c'⟩ := hk
    intro p hp
    cases List.mem_cons.mp hp with
    | inl e => subst e; exact b
    | inr hm => exact h.trans _ _ _ b (ih k2 c2 c' p hm)

end kids

/-- the keys of a leaf, with their values, are a `Kids` chain that asks nothing of an entry:
    a leaf is ordered in `[lo, hi)` exactly as an inner node is -/
theorem leaf_chain (h : SWO lt) (hi : Option K) : ∀ (ks : List K) (vs : List V) (lo : Option K), ks.length = vs.length →
    ((Sorted lt ks ∧ ∀ k ∈ ks, leO lt lo k ∧ ltO lt k hi) ↔
     ((∀ k, ks.head? = some k → leO lt lo k) ∧ Kids lt (fun _ _ (_ : V) => True) hi (ks.zip vs)))
  | [], [], lo, _ => ⟨fun _ => ⟨nofun, trivial⟩, fun _ => ⟨List.Pairwise.nil, nofun⟩⟩
  | [k], [v], lo, _ =>
    ⟨fun ⟨_, hb⟩ => ⟨fun x hx => by cases hx; exact (hb k List.mem_cons_self).1, trivial, (hb k List.mem_cons_self).2, trivial⟩,
     fun ⟨hh, _, hlt, _⟩ => ⟨List.pairwise_singleton _ _, fun x hx => by
       cases List.mem_singleton.1 hx; exact ⟨hh k rfl, hlt⟩⟩⟩
  | k :: k' :: ks, v :: v' :: vs, lo, hl => by
    have ih := leaf_chain h hi (k' :: ks) (v' :: vs) (some k) (Nat.succ.inj hl)
    constructor
    · rintro ⟨hs, hb⟩
      obtain ⟨hk, hs'⟩ := List.pairwise_cons.mp hs
      have := ih.1 ⟨hs', fun x hx => ⟨h.le_of_lt (hk x hx), (hb x (List.mem_cons_of_mem _ hx)).2⟩⟩
      exact ⟨fun x hx => by cases hx; exact (hb k List.mem_cons_self).1, trivial, hk k' List.mem_cons_self, this.2⟩
    · rintro ⟨hh, _, hlt, hK⟩
      obtain ⟨hs', hb'⟩ := ih.2 ⟨fun x hx => by cases hx; exact h.asymm hlt, hK⟩
      have hkx : ∀ x ∈ k' :: ks, lt k x = true := fun x hx => by
        rcases List.mem_cons.1 hx with rfl | hx'
        · exact hlt
        · exact h.trans _ _ _ hlt ((List.pairwise_cons.mp hs').1 x hx')
      refine ⟨List.pairwise_cons.mpr ⟨hkx, hs'⟩, fun x hx => ?_⟩
      rcases List.mem_cons.1 hx with rfl | hx'
      · exact ⟨hh _ rfl, ltO_of_lt h hlt (hb' k' List.mem_cons_self).2⟩
      · exact ⟨leO_trans h (hh k rfl) (h.asymm (hkx x hx')), (hb' x hx').2⟩

end Gobptree
