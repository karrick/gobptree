/-
  `rebalance`: repairing an under-full child keeps the parent well formed (up to
  its own occupancy), keeps the pairs and the leaf chain.  `Repaired` is that
  conclusion; one lemma per way of repairing, each an instance of `inner_replace`,
  and `rebalance_ok`, which finds the way `rebalance` takes.
-/
import Gobptree.Proofs.RebalanceEq
import Gobptree.Proofs.Siblings
import Gobptree.Proofs.Upsert

namespace Gobptree

variable {K V : Type} {lt : K → K → Bool}

theorem firstId_mk_nil_cons {d : Nat} (id id' : Nat) (r r' : List K) (x y : Node K V d) (b b' : List (Node K V d))
    (hxy : Node.firstId x = Node.firstId y) :
    Node.firstId (d := d + 1) (Inner.mk id r (x :: b) : Inner K (Node K V d)) =
    Node.firstId (d := d + 1) (Inner.mk id' r' (y :: b') : Inner K (Node K V d)) := hxy

theorem firstId_mk_cons_cons {d : Nat} (id id' : Nat) (r r' : List K) (a0 : Node K V d) (a a' : List (Node K V d)) :
    Node.firstId (d := d + 1) (Inner.mk id r (a0 :: a) : Inner K (Node K V d)) =
    Node.firstId (d := d + 1) (Inner.mk id' r' (a0 :: a') : Inner K (Node K V d)) := rfl

/-- What `deleteNode_ok` needs of the repair of the under-full child number `idx` (already rewritten to `c'`)
    of the node `Inner.mk pid runts kids`; `kids'` are the children with `c'` in place. -/
def Repaired (lt : K → K → Bool) (P : Params K) (vr : Variant) {d : Nat} (lo hi : Option K) (after : Option Nat)
    (pid : Nat) (runts : List K) (kids : List (Node K V d)) (idx : Nat) (c' : Node K V d)
    (kids' : List (Node K V d)) : Prop :=
  ∃ (p' : Inner K (Node K V d)) (small : Bool),
    rebalance P vr (P.order / 2) (Inner.mk pid runts kids) idx c' = .ok (p', small) ∧
    WF lt P.order (d + 1) 0 lo hi p' ∧
    (small = true → p'.runts.length < P.order / 2) ∧
    (small = false → p'.runts.length = runts.length ∨ P.order / 2 ≤ p'.runts.length) ∧
    runts.length ≤ p'.runts.length + 1 ∧ p'.runts.length ≤ runts.length ∧
    Node.pairs (d := d + 1) p' = kids'.flatMap (Node.pairs (d := d)) ∧
    Linked (d + 1) after p' ∧
    Node.firstId (d := d + 1) p' = Node.firstId (d := d + 1) (Inner.mk pid runts kids')

/-- the under-full child holds `o/2 - 1` entries -/
theorem underfull_arith {o a : Nat} (ho : 4 ≤ o) (ha : a + 1 = o / 2) :
    1 ≤ a ∧ a < o ∧ o / 2 + a ≤ o ∧ 2 ≤ o / 2 := by omega

theorem rebalance_right_ok (h : SWO lt) (P : Params K) (hP : P.lt = lt) (ho : 4 ≤ P.order)
    (vr : Variant) {d : Nat} (pid : Nat) (rA rB' : List K) (k kr : K)
    (cA cB' : List (Node K V d)) (c c' cr : Node K V d) (lo hi : Option K) (after : Option Nat)
    (hcl : cA.length = rA.length) (hlB : rB'.length = cB'.length)
    (hle : (rA ++ k :: kr :: rB').length ≤ P.order)
    (hlo : ∀ k0, (rA ++ k :: kr :: rB').head? = some k0 → leO lt lo k0)
    (hA : Kids lt (RWF lt P.order d) (some k) (rA.zip cA))
    (hkkr : lt k kr = true)
    (hcr : WF lt P.order d (P.order / 2) (some kr) (nextLo hi (rB'.zip cB')) cr)
    (hB : Kids lt (RWF lt P.order d) hi (rB'.zip cB'))
    (hc' : WF lt P.order d 0 (some k) (some kr) c') (hc'cnt : Node.count c' + 1 = P.order / 2)
    (hrc : P.order / 2 < Node.count cr)
    (hL : LinkedKids (Linked d) (Node.firstId (d := d)) after (cA ++ c' :: cr :: cB')) :
    Repaired lt P vr lo hi after pid (rA ++ k :: kr :: rB') (cA ++ c :: cr :: cB') rA.length c' (cA ++ c' :: cr :: cB') := by
  subst hP
  obtain ⟨-, hao, -, h2⟩ := underfull_arith ho hc'cnt
  rw [LinkedKids_append, LinkedKids_cons, LinkedKids_cons] at hL
  obtain ⟨hLA, hLc', hLcr, hLB⟩ := hL
  obtain ⟨c'', cr', s, hadopt, hs, hWc'', hWcr', hcnt1, hcnt2, hpairs, hskr, hshi, hLc'', hLcr', hfc''⟩ :=
    adoptFromRight_ok' h (lo1 := some k) c' cr (h.le_of_lt hkkr) hc' hcr (Nat.le_trans h2 (Nat.le_of_lt hrc)) hao _ hLc' hLcr
  have heq := rebalance_of (P := P) (vr := vr) (.borrowRight (i := Inner.mk pid (rA ++ k :: kr :: rB') (cA ++ c :: cr :: cB'))
    (idx := rA.length) (child := c') cr c'' cr' s (by simp) (getElem?_next hcl c cr) hrc hadopt hs)
  obtain ⟨hW, hLk⟩ := inner_replace (m := 0) (lo := lo) pid (rM := [s]) (cM := [cr']) hcl rfl hlB
    (Nat.le_trans (Nat.le_of_eq (length_next rA rB' k kr).symm) hle) (Nat.zero_le _)
    hlo hA
    ⟨WF_set_m hWc'' (Nat.le_of_eq (hc'cnt.symm.trans hcnt1.symm)), h.lt_of_lt_of_le hkkr hskr,
      WF_set_m hWcr' (Nat.le_of_lt_succ (Nat.lt_of_lt_of_eq hrc hcnt2.symm)), hshi, trivial⟩ hB
    (hfc'' ▸ hLA) ⟨hLc'', hLcr', trivial⟩ hLB
  have hl := (length_next rA rB' k s).trans (length_next rA rB' k kr).symm
  refine ⟨Inner.mk pid (rA ++ k :: s :: rB') (cA ++ c'' :: cr' :: cB'), false, ?_, hW, fun e => absurd e Bool.false_ne_true,
    fun _ => Or.inl hl, Nat.le_succ_of_le (Nat.le_of_eq hl.symm), Nat.le_of_eq hl, ?_,
    hLk, firstId_mk_append cA hfc''⟩
  · rw [heq, set_next rfl, set_pivot hcl, set_next hcl]
  · rw [pairs_mk]
    simp only [List.flatMap_append, List.flatMap_cons]
    rw [← List.append_assoc (Node.pairs c''), hpairs, List.append_assoc]

theorem getElem?_after_two {α : Type} (a b : List α) (x y : α) :
    (a ++ x :: y :: b)[a.length + 1 + 1]? = b[0]? := by
  rw [List.getElem?_append_right (by omega)]
  have : a.length + 1 + 1 - a.length = 2 := by omega
  rw [this]; rfl

theorem rebalance_left_ok (h : SWO lt) (P : Params K) (hP : P.lt = lt) (hpad : ∀ k, P.pad (some k) ≠ none)
    (ho : 4 ≤ P.order)
    (vr : Variant) (hvr : vr.noRefreshLeft = false) {d : Nat} (pid : Nat) (rA' rB : List K) (kl k : K)
    (cA' cB : List (Node K V d)) (cl c c' : Node K V d) (lo hi : Option K) (after : Option Nat)
    (hcl : cA'.length = rA'.length) (hlB : rB.length = cB.length)
    (hle : (rA' ++ kl :: k :: rB).length ≤ P.order)
    (hlo : ∀ k0, (rA' ++ kl :: k :: rB).head? = some k0 → leO lt lo k0)
    (hA' : Kids lt (RWF lt P.order d) (some kl) (rA'.zip cA'))
    (hclW : WF lt P.order d (P.order / 2) (some kl) (some k) cl) (hklk : lt kl k = true)
    (hc' : WF lt P.order d 0 (some k) (nextLo hi (rB.zip cB)) c') (hc'cnt : Node.count c' + 1 = P.order / 2)
    (hkhi : ltO lt k (nextLo hi (rB.zip cB)))
    (hB : Kids lt (RWF lt P.order d) hi (rB.zip cB))
    (hnoright : ¬ ∃ kr rB' cr cB', rB = kr :: rB' ∧ cB = cr :: cB' ∧ P.order / 2 < Node.count cr)
    (hL : LinkedKids (Linked d) (Node.firstId (d := d)) after (cA' ++ cl :: c' :: cB)) :
    Repaired lt P vr lo hi after pid (rA' ++ kl :: k :: rB) (cA' ++ cl :: c :: cB) (rA'.length + 1) c' (cA' ++ cl :: c' :: cB) := by
  subst hP
  obtain ⟨ha1, hao, hsum, h2⟩ := underfull_arith ho hc'cnt
  rw [LinkedKids_append, LinkedKids_cons, LinkedKids_cons] at hL
  obtain ⟨hLA, hLcl, hLc', hLB⟩ := hL
  have hclcnt := WF_count_le hclW
  have hle2 : rA'.length + 2 + rB.length ≤ P.order := Nat.le_trans (Nat.le_of_eq (length_next rA' rB kl k).symm) hle
  have hidx : rA'.length + 1 < (Inner.mk pid (rA' ++ kl :: k :: rB) (cA' ++ cl :: c :: cB) : Inner K (Node K V d)).runts.length := by simp
  have hidxk : rA'.length + 1 < (Inner.mk pid (rA' ++ kl :: k :: rB) (cA' ++ cl :: c :: cB) : Inner K (Node K V d)).kids.length := by
    show rA'.length + 1 < (cA' ++ cl :: c :: cB).length
    rw [length_next, hcl]; exact Nat.lt_of_lt_of_le (Nat.lt_succ_self _) (Nat.le_add_right _ _)
  have hleft : (Inner.mk pid (rA' ++ kl :: k :: rB) (cA' ++ cl :: c :: cB) : Inner K (Node K V d)).kids[rA'.length + 1 - 1]? = some cl := by
    simp only [Nat.add_sub_cancel]; exact getElem?_pivot hcl cl
  have hno : NoLend (P.order / 2)
      (rA'.length + 1 + 1 < (Inner.mk pid (rA' ++ kl :: k :: rB) (cA' ++ cl :: c :: cB) : Inner K (Node K V d)).runts.length)
      (Inner.mk pid (rA' ++ kl :: k :: rB) (cA' ++ cl :: c :: cB) : Inner K (Node K V d)).kids[rA'.length + 1 + 1]? := by
    intro hlt
    cases rB with
    | nil => exact absurd hlt (by simp)
    | cons kr rB' =>
      cases cB with
      | nil => cases hlB
      | cons cr cB' =>
        exact ⟨cr, by rw [← hcl]; exact getElem?_after_two cA' (cr :: cB') cl c, Nat.le_of_not_lt fun hrc => hnoright ⟨kr, rB', cr, cB', rfl, rfl, hrc⟩⟩
  by_cases hlc : P.order / 2 < Node.count cl
  · obtain ⟨cl', c'', s, hadopt, hs, hWcl', hWc'', hcnt1, hcnt2, hpairs, hsk, hkls, hLcl', hLc'', hfcl'⟩ :=
      adoptFromLeft_ok h P rfl hpad cl c' hclW hc' (Nat.le_trans h2 hclcnt.2) ha1 hao _ hLcl hLc'
    have heq := rebalance_of (P := P) (vr := vr) (.borrowLeft (child := c') cl cl' c'' _ hno (Nat.succ_pos _) hleft hlc hadopt
      (by rw [hvr]; exact ⟨s, hs, hidx, rfl⟩))
    obtain ⟨hW, hLk⟩ := inner_replace (m := 0) (lo := lo) pid (rM := [s]) (cM := [c'']) hcl rfl hlB
      hle2 (Nat.zero_le _) hlo hA'
      ⟨WF_set_m hWcl' (Nat.le_of_lt_succ (Nat.lt_of_lt_of_eq hlc hcnt1.symm)), hkls kl rfl,
        WF_set_m hWc'' (Nat.le_of_eq (hc'cnt.symm.trans hcnt2.symm)), ltO_of_lt h hsk hkhi, trivial⟩ hB
      (hfcl' ▸ hLA) ⟨hLcl', hLc'', trivial⟩ hLB
    have hl := (length_next rA' rB kl s).trans (length_next rA' rB kl k).symm
    refine ⟨Inner.mk pid (rA' ++ kl :: s :: rB) (cA' ++ cl' :: c'' :: cB), false, ?_, hW, fun e => absurd e Bool.false_ne_true,
      fun _ => Or.inl hl, Nat.le_succ_of_le (Nat.le_of_eq hl.symm), Nat.le_of_eq hl, ?_,
      hLk, firstId_mk_append cA' hfcl'⟩
    · rw [heq, set_next rfl, Nat.add_sub_cancel, set_pivot hcl, set_next hcl]
    · rw [pairs_mk]
      simp only [List.flatMap_append, List.flatMap_cons]
      rw [← List.append_assoc (Node.pairs cl'), hpairs, List.append_assoc]
  · have hclc : Node.count cl = P.order / 2 := Nat.le_antisymm (Nat.le_of_not_lt hlc) hclcnt.2
    have hcl1 : 1 ≤ Node.count cl := Nat.le_trans (Nat.le_of_succ_le h2) hclcnt.2
    obtain ⟨merged, habsorb, hWm, hcntm, hpm, hLm, hfm⟩ :=
      absorbRight_ok_of_bounds h cl c' hclW hc' (Nat.le_trans (Nat.add_le_add_right (Nat.le_of_eq hclc) _) hsum) (h.le_of_lt hklk) hkhi _ hLcl hLc'
    have heq := rebalance_of (P := P) (vr := vr) (m := P.order / 2) (.mergeLeft (child := c') cl merged hno (Nat.succ_pos _) hleft
      (Nat.le_of_eq hclc) hcl1 habsorb hidx hidxk)
    obtain ⟨hW, hLk⟩ := inner_replace (m := 0) (lo := lo) pid (rM := []) (cM := []) hcl rfl hlB
      (Nat.le_trans (Nat.add_le_add_right (Nat.le_succ (rA'.length + 1)) rB.length) hle2) (Nat.zero_le _)
      hlo hA'
      ⟨WF_set_m hWm (Nat.le_trans hclcnt.2 (Nat.le_trans (Nat.le_add_right _ _) (Nat.le_of_eq hcntm.symm))),
        ltO_of_lt h hklk hkhi, trivial⟩ hB (hfm ▸ hLA) ⟨hLm, trivial⟩ hLB
    refine ⟨Inner.mk pid (rA' ++ kl :: rB) (cA' ++ merged :: cB), decide ((rA' ++ kl :: rB).length < P.order / 2), ?_, hW,
      of_decide_eq_true, fun hs => Or.inr (Nat.le_of_not_lt (of_decide_eq_false hs)), ?_, by simp, ?_, hLk,
      firstId_mk_append cA' hfm⟩
    · rw [heq, deleteIdiom_next rfl, Nat.add_sub_cancel, set_pivot hcl, deleteIdiom_next hcl]
    · show (rA' ++ kl :: k :: rB).length ≤ (rA' ++ kl :: rB).length + 1
      rw [length_next, length_pivot]; exact Nat.le_of_eq (Nat.add_right_comm _ 1 _)
    · rw [pairs_mk]
      simp only [List.flatMap_append, List.flatMap_cons]
      rw [hpm, List.append_assoc]

theorem rebalance_mergeRight_ok (h : SWO lt) (P : Params K) (hP : P.lt = lt)
    (ho : 4 ≤ P.order)
    (vr : Variant) {d : Nat} (pid : Nat) (rB' : List K) (k kr : K)
    (cB' : List (Node K V d)) (c c' cr : Node K V d) (lo hi : Option K) (after : Option Nat)
    (hlB : rB'.length = cB'.length)
    (hle : (k :: kr :: rB').length ≤ P.order)
    (hlo : leO lt lo k)
    (hkkr : lt k kr = true)
    (hcr : WF lt P.order d (P.order / 2) (some kr) (nextLo hi (rB'.zip cB')) cr)
    (hkrhi : ltO lt kr (nextLo hi (rB'.zip cB')))
    (hB : Kids lt (RWF lt P.order d) hi (rB'.zip cB'))
    (hc' : WF lt P.order d 0 (some k) (some kr) c') (hc'cnt : Node.count c' + 1 = P.order / 2)
    (hrc : ¬ P.order / 2 < Node.count cr)
    (hL : LinkedKids (Linked d) (Node.firstId (d := d)) after (c' :: cr :: cB')) :
    Repaired lt P vr lo hi after pid (k :: kr :: rB') (c :: cr :: cB') 0 c' (c' :: cr :: cB') := by
  subst hP
  obtain ⟨-, -, hsum, h2⟩ := underfull_arith ho hc'cnt
  rw [LinkedKids_cons, LinkedKids_cons] at hL
  obtain ⟨hLc', hLcr, hLB⟩ := hL
  have hcrcnt := WF_count_le hcr
  have hcrc : Node.count cr = P.order / 2 := Nat.le_antisymm (Nat.le_of_not_lt hrc) hcrcnt.2
  have hcr1 : 1 ≤ Node.count cr := Nat.le_trans (Nat.le_of_succ_le h2) hcrcnt.2
  obtain ⟨merged, habsorb, hWm, hcntm, hpm, hLm, hfm⟩ :=
    absorbRight_ok_of_bounds h c' cr hc' hcr (Nat.add_comm _ _ ▸ Nat.le_trans (Nat.add_le_add_right (Nat.le_of_eq hcrc) _) hsum)
      (h.le_of_lt hkkr) hkrhi _ hLc' hLcr
  have heq := rebalance_of (P := P) (vr := vr) (m := P.order / 2) (.mergeRight (i := Inner.mk pid (k :: kr :: rB') (c :: cr :: cB')) (idx := 0)
    (child := c') cr merged (by simp) rfl (Nat.le_of_eq hcrc) (Nat.ne_of_gt hcr1) (fun h0 => absurd h0 (Nat.lt_irrefl 0)) habsorb (by simp))
  obtain ⟨hW, hLk⟩ := inner_replace (m := 0) (lo := lo) pid (rA := []) (cA := []) (rM := []) (cM := []) (X := []) rfl rfl hlB
    (Nat.le_trans (Nat.le_of_eq (Nat.add_comm _ _)) (Nat.le_of_succ_le hle)) (Nat.zero_le _)
    (fun k0 hk0 => Option.some.inj hk0 ▸ hlo) trivial
    ⟨WF_set_m hWm (Nat.le_trans hcrcnt.2 (Nat.le_trans (Nat.le_add_left _ _) (Nat.le_of_eq hcntm.symm))),
      ltO_of_lt h hkkr hkrhi, trivial⟩ hB trivial ⟨hLm, trivial⟩ hLB
  refine ⟨Inner.mk pid (k :: rB') (merged :: cB'), decide ((k :: rB').length < P.order / 2), ?_, hW, of_decide_eq_true,
    fun hs => Or.inr (Nat.le_of_not_lt (of_decide_eq_false hs)), Nat.le_refl _, Nat.le_succ _, ?_, hLk, hfm⟩
  · have e1 : deleteIdiom (k :: kr :: rB') 1 = k :: rB' := deleteIdiom_next (a := []) rfl k kr
    have e2 : deleteIdiom ((c :: cr :: cB').set 0 merged) 1 = merged :: cB' := deleteIdiom_next (a := []) rfl merged cr
    rw [heq]; simp only [e1, e2]
  · rw [pairs_mk]
    simp only [List.flatMap_cons]
    rw [hpm, List.append_assoc]

/-- `rebalance` of an under-full child: the right sibling lends if it can; failing that the left one
    lends or absorbs; the leftmost child, which has no left sibling, absorbs the right one.  The node
    must hold two entries, so that there is a sibling. -/
theorem rebalance_ok (h : SWO lt) (P : Params K) (hP : P.lt = lt) (hpad : ∀ k, P.pad (some k) ≠ none)
    (ho : 4 ≤ P.order) (vr : Variant) (hvr : vr.noRefreshLeft = false) {d : Nat} (pid : Nat) (rA rB : List K) (k : K)
    (cA cB : List (Node K V d)) (c c' : Node K V d) (lo hi : Option K) (after : Option Nat)
    (hcl : cA.length = rA.length) (hlB : rB.length = cB.length)
    (hle : (rA ++ k :: rB).length ≤ P.order) (hc2 : 2 ≤ (rA ++ k :: rB).length)
    (hlo : ∀ k0, (rA ++ k :: rB).head? = some k0 → leO lt lo k0)
    (hA : Kids lt (RWF lt P.order d) (some k) (rA.zip cA))
    (hkhi : ltO lt k (nextLo hi (rB.zip cB)))
    (hB : Kids lt (RWF lt P.order d) hi (rB.zip cB))
    (hWc' : WF lt P.order d 0 (some k) (nextLo hi (rB.zip cB)) c') (hc'cnt : Node.count c' + 1 = P.order / 2)
    (hLnew : LinkedKids (Linked d) (Node.firstId (d := d)) after (cA ++ c' :: cB)) :
    Repaired lt P vr lo hi after pid (rA ++ k :: rB) (cA ++ c :: cB) rA.length c' (cA ++ c' :: cB) := by
  by_cases hlend : ∃ kr rB' cr cB', rB = kr :: rB' ∧ cB = cr :: cB' ∧ P.order / 2 < Node.count cr
  · obtain ⟨kr, rB', cr, cB', rfl, rfl, hrc⟩ := hlend
    rw [List.zip_cons_cons] at hB hWc' hkhi
    obtain ⟨hcrW, -, hB'⟩ := hB
    exact rebalance_right_ok h P hP ho vr pid rA rB' k kr cA cB' c c' cr lo hi after hcl (Nat.succ.inj hlB) hle hlo hA
      hkhi hcrW hB' hWc' hc'cnt hrc hLnew
  · by_cases hrA : rA.length = 0
    · obtain rfl := List.eq_nil_of_length_eq_zero hrA
      obtain rfl := List.eq_nil_of_length_eq_zero (hcl.trans hrA)
      cases rB with
      | nil => exact absurd hc2 (Nat.not_succ_le_self 1)
      | cons kr rB' =>
        cases cB with
        | nil => cases hlB
        | cons cr cB' =>
          rw [List.zip_cons_cons] at hB hWc' hkhi
          obtain ⟨hcrW, hkrhi, hB'⟩ := hB
          exact rebalance_mergeRight_ok h P hP ho vr pid rB' k kr cB' c c' cr lo hi after (Nat.succ.inj hlB) hle
            (hlo k rfl) hkhi hcrW hkrhi hB' hWc' hc'cnt (fun hrc => hlend ⟨kr, rB', cr, cB', rfl, rfl, hrc⟩) hLnew
    · obtain ⟨rA', kl, rfl, _⟩ := snoc_of_length_pos rA (Nat.pos_of_ne_zero hrA)
      obtain ⟨cA', cl, rfl, _⟩ := snoc_of_length_pos cA (Nat.lt_of_lt_of_eq (Nat.pos_of_ne_zero hrA) hcl.symm)
      have hcl' : cA'.length = rA'.length := by
        rw [List.length_append, List.length_append] at hcl; exact Nat.add_right_cancel hcl
      rw [List.zip_append hcl'.symm, List.zip_cons_cons, List.zip_nil_right, Kids_append] at hA
      obtain ⟨hA', hclW, hklk, _⟩ := hA
      simp only [List.append_assoc, List.singleton_append] at hle hlo hLnew ⊢
      rw [show (rA' ++ [kl]).length = rA'.length + 1 from List.length_append]
      exact rebalance_left_ok h P hP hpad ho vr hvr pid rA' rB kl k cA' cB cl c c' lo hi after hcl' hlB hle hlo hA' hclW
        hklk hWc' hc'cnt hkhi hB hlend hLnew

end Gobptree
