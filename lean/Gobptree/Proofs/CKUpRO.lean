/-
  The blocks that do not write the tree (Search / NewScanner descent): the node waited for
  next is on the route of the key, and the leaf reached decides the key.
-/
import Gobptree.Proofs.CKUpLeaf
import Gobptree.Proofs.CSDelStep

namespace Gobptree.Conc
open Gobptree

variable {K V : Type} {lt : K → K → Bool}

theorem root_inBounds (t : Tree K V) (key : K) :
    InBounds lt t key t.rootId :=
  ⟨none, none, root_onRoute t key, trivial⟩

theorem roAbs_intro (t : Nat) (sc : Bool) (key : K) (hold : Lk) (want : Nat) (s s' : St K V) (fl : Flow K V)
    (habs : s'.tree.abs = s.tree.abs)
    (hv : sc = false → ∀ v, fl = .done (.found v) → v = Spec.lookup lt s.tree.abs key) :
    AbsEffect lt t (.roNode sc key hold want) s s' fl := by
  cases sc with
  | true => exact habs
  | false => exact ⟨habs, hv rfl⟩

theorem roNode_onRoute {t : Tree K V} {hole : Option Nat} (hok : TreeOk hole t) (sc : Bool) (key : K) (hold : Lk)
    (want : Nat) (hk : KontOk t (.roNode sc key hold want)) (hpos : KPos lt t (.roNode sc key hold want)) :
    OnRoute lt t key want := by
  have hids := hok.ids.1
  have hpar := parTree_of_treeOk hok
  cases hold with
  | tree =>
    have : want = t.rootId := hk
    subst this
    exact ⟨none, none, root_onRoute t key⟩
  | node p =>
    exact onRoute_kid hids hpar key hpos.1 rfl hpos.2

theorem roNode_kpost (P : Params K) (hK : KParams lt P) (t : Nat) (s : St K V) (sc : Bool) (key : K) (hold : Lk)
    (want : Nat) (H : List Lk) {hole : Option Nat} (hok : TreeOk hole s.tree) (hord : OrdTree lt s.tree)
    (hk : KontOk s.tree (.roNode sc key hold want)) (hpos : KPos lt s.tree (.roNode sc key hold want)) :
    KPost lt t (.roNode sc key hold want) s (resume P t s (.roNode sc key hold want)).1
        (resume P t s (.roNode sc key hold want)).2 ∧
      StableRoutes lt H s.tree (resume P t s (.roNode sc key hold want)).1.tree := by
  have hids := hok.ids.1
  have hpar := parTree_of_treeOk hok
  have hon := roNode_onRoute hok sc key hold want hk hpos
  suffices h : (resume P t s (.roNode sc key hold want)).1.tree = s.tree ∧
      (sc = false → ∀ v, (resume P t s (.roNode sc key hold want)).2 = .done (.found v) →
        v = Spec.lookup lt s.tree.abs key) ∧
      (∀ p, (resume P t s (.roNode sc key hold want)).2 = .park p → parkKPos lt s.tree p) by
    obtain ⟨h1, h2, h3⟩ := h
    refine ⟨⟨by rw [h1]; exact hord, roAbs_intro t sc key hold want _ _ _ (by rw [h1]) h2,
      fun p hp => by rw [h1]; exact h3 p hp⟩, by rw [h1]; exact StableRoutes.refl H _⟩
  have hres : resume P t s (.roNode sc key hold want) =
      roArrive P t (s.acq t (.node want)) sc key hold want := rfl
  rw [hres]
  obtain ⟨an, hfind⟩ := onRoute_find hon
  have hfind' : (s.acq t (.node want)).tree.find want = some an := hfind
  rcases descend_cases an with ⟨l, rfl, _⟩ | ⟨d, p, rfl, _, _, _⟩
  · cases sc with
    | true =>
      rw [roArrive_scanner hfind']
      exact ⟨rfl, (fun h => by cases h), (fun _ h => by cases h)⟩
    | false =>
      obtain ⟨hid, _⟩ := find_leaf_look hfind
      have hs := leaf_search_tree hK.swo P hK.lt l (by rw [hid]; exact hfind) hids hpar hord
        (leaf_par hok hfind) key (by rw [hid]; exact hon)
      rw [roArrive_leaf hfind' hs]
      exact ⟨rfl, fun _ v hv => by cases hv; rfl, (fun _ h => by cases h)⟩
  · obtain ⟨_, c, _, hc, _, _⟩ := routeB_inner (lt := lt) key none none p (ParTree_find hfind hpar)
    rw [← hK.lt] at hc
    rw [roArrive_inner hfind' hc]
    refine ⟨rfl, (fun _ _ h => by cases h), ?_⟩
    intro q hq
    cases hq
    refine ⟨hon, ?_⟩
    rw [keysOf_find hfind, kidAt_of_find hfind, ← hK.lt, hc]
    rfl

theorem kpost_unchanged (t : Nat) (k : Kont K V) (H : List Lk) (s s' : St K V) (fl : Flow K V)
    (hord : OrdTree lt s.tree) (htree : s'.tree = s.tree)
    (heff : s'.tree.abs = s.tree.abs → AbsEffect lt t k s s' fl)
    (hk : ∀ p, fl = .park p → parkKPos lt s.tree p) :
    KPost lt t k s s' fl ∧ StableRoutes lt H s.tree s'.tree :=
  ⟨⟨by rw [htree]; exact hord, heff (by rw [htree]), fun p hp => by rw [htree]; exact hk p hp⟩,
    by rw [htree]; exact StableRoutes.refl H _⟩

end Gobptree.Conc
