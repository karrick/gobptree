/-
  Facts about a single route under `Ord`: the index `searchLE` returns characterised (`Picks`),
  the entries of a route against the intervals the tree assigns to the nodes (`route_entry`, and
  back `mem_route_of_gbounds`), and authority (`Spec.lookup` of the whole subtree is `Spec.lookup`
  of the node the route passes), also for the leaf a route ends in (`routeLeaf`).
-/
import Gobptree.Proofs.CKZoomOrd

namespace Gobptree.Conc
open Gobptree

variable {K V : Type} {lt : K → K → Bool}

theorem decomp_at_index {d : Nat} (i : Inner K (Node K V d)) (hlen : i.runts.length = i.kids.length)
    (j : Nat) (s : K) (c : Node K V d) (hs : i.runts[j]? = some s) (hc : i.kids[j]? = some c) :
    ∃ (rA rB : List K) (A B : List (Node K V d)),
      i.runts = rA ++ s :: rB ∧ i.kids = A ++ c :: B ∧ rA.length = j ∧ A.length = j ∧ rB.length = B.length := by
  obtain ⟨hj, e1⟩ := List.getElem?_eq_some_iff.1 hs
  obtain ⟨hj', e2⟩ := List.getElem?_eq_some_iff.1 hc
  refine ⟨i.runts.take j, i.runts.drop (j + 1), i.kids.take j, i.kids.drop (j + 1), ?_, ?_,
    length_take_of_lt _ _ hj, length_take_of_lt _ _ hj', ?_⟩
  · rw [← e1]; exact self_form _ _ hj
  · rw [← e2]; exact self_form _ _ hj'
  · rw [List.length_drop, List.length_drop, hlen]

theorem Ord_kid_at {d : Nat} {lo hi : Option K} (i : Inner K (Node K V d))
    (hord : Ord lt (d + 1) lo hi i) (hpar : ParN (d + 1) i)
    (j : Nat) (s : K) (c : Node K V d) (hs : i.runts[j]? = some s) (hc : i.kids[j]? = some c) :
    Ord lt d (some s) (hiAt i.runts j hi) c := by
  obtain ⟨rA, rB, A, B, hr, hk, hlA, hlA', hlB⟩ := decomp_at_index i hpar.1 j s c hs hc
  have hl : rA.length = A.length := by omega
  have hk' := hord.2
  rw [hr, hk, Kids_decomp hi rA rB s A B c hl] at hk'
  rw [hr, ← hlA, hiAt_decomp rA rB s B hi hlB]
  exact hk'.2.1

theorem routeB_inner (key : K) {d : Nat} (lo hi : Option K) (i : Inner K (Node K V d))
    (hpar : ParN (d + 1) i) :
    ∃ (s : K) (c : Node K V d),
      i.runts[searchLE lt key i.runts]? = some s ∧ i.kids[searchLE lt key i.runts]? = some c ∧ ParN d c ∧
      routeB lt key (d + 1) lo hi i =
        (i.id, lo, hi) :: routeB lt key d (some s) (hiAt i.runts (searchLE lt key i.runts) hi) c := by
  obtain ⟨hlen, hne, hkids⟩ := hpar
  have hnil : i.runts ≠ [] := by intro e; rw [e] at hne; simp at hne
  have hj : searchLE lt key i.runts < i.runts.length := searchLE_lt_length key i.runts hnil
  have hj' : searchLE lt key i.runts < i.kids.length := by omega
  refine ⟨i.runts[searchLE lt key i.runts], i.kids[searchLE lt key i.runts],
    List.getElem?_eq_getElem hj, List.getElem?_eq_getElem hj', hkids _ (List.getElem_mem hj'), ?_⟩
  rw [routeB_succ key lo hi i]
  unfold routeKid
  rw [List.getElem?_eq_getElem hj, List.getElem?_eq_getElem hj']

theorem searchLE_route (h : SWO lt) (key : K) (runts : List K) (hs : Sorted lt runts) (hi : Option K)
    (hk : ltO lt key hi) : ltO lt key (hiAt runts (searchLE lt key runts) hi) := by
  unfold hiAt
  cases hn : runts[searchLE lt key runts + 1]? with
  | none => exact hk
  | some s =>
    obtain ⟨hlt, e⟩ := List.getElem?_eq_some_iff.1 hn
    have := searchLE_after h key runts hs (searchLE lt key runts + 1) (by omega) hlt
    rw [e] at this
    exact this

/-- `j` is where `searchLE` stops in `L`: the last entry not above the key, or 0 (the clamp) -/
def Picks (lt : K → K → Bool) (key : K) (L : List K) (j : Nat) : Prop :=
  (∃ a, L[j]? = some a ∧ (0 < j → lt key a = false)) ∧
  ∀ j' a, j < j' → L[j']? = some a → lt key a = true

theorem searchLE_picks (h : SWO lt) (key : K) (L : List K) (hs : Sorted lt L) (hne : L ≠ []) :
    Picks lt key L (searchLE lt key L) := by
  have hj := searchLE_lt_length (lt := lt) key L hne
  refine ⟨⟨L[searchLE lt key L], List.getElem?_eq_getElem hj, fun h0 => searchLE_at h key L hs h0 hj⟩, ?_⟩
  intro j' a hlt ha
  obtain ⟨hj', e⟩ := List.getElem?_eq_some_iff.1 ha
  rw [← e]
  exact searchLE_after h key L hs j' hlt hj'

theorem picks_unique (h : SWO lt) (key : K) (L : List K) (hs : Sorted lt L) (j : Nat)
    (hp : Picks lt key L j) : searchLE lt key L = j := by
  obtain ⟨⟨a, ha, h1⟩, h2⟩ := hp
  obtain ⟨hj, e⟩ := List.getElem?_eq_some_iff.1 ha
  have hne : L ≠ [] := by intro e; subst e; simp at hj
  obtain ⟨⟨b, hb, g1⟩, g2⟩ := searchLE_picks h key L hs hne
  apply Classical.byContradiction
  intro hne'
  rcases Nat.lt_or_gt_of_ne hne' with hlt | hgt
  ·
    have := g2 j a hlt ha
    rw [h1 (by omega)] at this
    cases this
  · have := h2 _ b hgt hb
    rw [g1 (by omega)] at this
    cases this

theorem searchLE_two (h : SWO lt) (key a b : K) (hab : lt a b = true) :
    searchLE lt key [a, b] = if lt key b then 0 else 1 := by
  have hs : Sorted lt [a, b] := by
    unfold Sorted
    simp [hab]
  apply picks_unique h key _ hs
  by_cases c : lt key b = true
  · rw [if_pos c]
    refine ⟨⟨a, rfl, fun h0 => absurd h0 (Nat.lt_irrefl 0)⟩, ?_⟩
    intro j' a' hj' ha'
    obtain ⟨n, rfl⟩ : ∃ n, j' = n + 1 := ⟨j' - 1, by omega⟩
    cases n with
    | zero =>
      have : some b = some a' := ha'
      cases this
      exact c
    | succ n => simp at ha'
  · rw [if_neg c]
    refine ⟨⟨b, rfl, fun _ => by simpa using c⟩, ?_⟩
    intro j' a' hj' ha'
    obtain ⟨n, rfl⟩ : ∃ n, j' = n + 2 := ⟨j' - 2, by omega⟩
    simp at ha'

theorem searchLE_eq_form (h : SWO lt) (key : K) (rA rB : List K) (k : K)
    (hs : Sorted lt (rA ++ k :: rB)) (h1 : rA ≠ [] → lt key k = false) (h2 : ∀ x ∈ rB, lt key x = true) :
    searchLE lt key (rA ++ k :: rB) = rA.length := by
  refine picks_unique h key _ hs _ ⟨⟨k, getElem?_pivot rfl k, fun hp => h1 (List.ne_nil_of_length_pos hp)⟩,
    fun j' a hj' ha => h2 a ?_⟩
  rw [List.getElem?_append_right (Nat.le_of_lt hj')] at ha
  obtain ⟨q, hq⟩ := Nat.exists_eq_succ_of_ne_zero (Nat.sub_ne_zero_of_lt hj')
  rw [hq] at ha
  exact List.mem_of_getElem? ha

theorem searchLE_eq_of (h : SWO lt) (key : K) (rA rB : List K) (k : K)
    (hs : Sorted lt (rA ++ k :: rB)) (h1 : lt key k = false) (h2 : ∀ x ∈ rB, lt key x = true) :
    searchLE lt key (rA ++ k :: rB) = rA.length :=
  searchLE_eq_form h key rA rB k hs (fun _ => h1) h2

theorem searchLE_zero_of_lt (h : SWO lt) (key : K) (runts : List K) (hs : Sorted lt runts)
    (k0 : K) (h0 : runts.head? = some k0) (hk : lt key k0 = true) : searchLE lt key runts = 0 := by
  cases runts with
  | nil => cases h0
  | cons r rs =>
    cases h0
    exact searchLE_eq_form h key [] rs k0 hs (fun hne => absurd rfl hne)
      (fun x hx => h.trans _ _ _ hk ((List.pairwise_cons.1 hs).1 x hx))

/-- An entry `(x, a, b)` of the route of `key` read against the intervals the tree assigns to `x`:
    `[a, b)` is the plain one, `key` is below `b`, and the clamped one, started from any `clo` not
    above `key`, ends at `b` too and begins not above `key`. -/
theorem route_entry (h : SWO lt) (key : K) {x : Nat} {a b : Option K} {d : Nat} (n : Node K V d)
    (lo clo hi : Option K) (hord : Ord lt d lo hi n) (hpar : ParN d n) (hnd : (idsOf n).Nodup)
    (hhi : ltO lt key hi) (hclo : leO lt clo key) (hx : (x, a, b) ∈ routeB lt key d lo hi n) :
    boundsOf x d lo hi n = some (a, b) ∧ ltO lt key b ∧
      ∃ a', gbounds true x d clo hi n = some (a', b) ∧ leO lt a' key := by
  obtain ⟨d', m, hf⟩ := findNode_of_mem (mem_routeB_ids key d lo hi n _ hx)
  revert lo clo hi
  refine findNode_rec x ?_ ?_ n hf hnd hpar
  · intro hid hndm _ lo clo hi _ hhi hclo hx
    obtain ⟨tl, htl, hne⟩ := routeB_cons (lt := lt) key d' lo hi m hndm
    rw [htl, List.mem_cons] at hx
    rcases hx with e | hin
    · cases e
      exact ⟨boundsOf_here _ _ _ m rfl, hhi, clo, gbounds_here true _ clo _ m rfl, hclo⟩
    · exact absurd hid.symm (hne _ hin)
  · intro d n rA k rB A c B hid _ hpar hr hk hl hlB _ hA hB ih lo clo hi hord hhi hclo hx
    obtain ⟨hj, hxc⟩ := route_below key lo hi n rA rB k A B c x hid hr hk hl hlB hA hB hx
    have hs := Ord_sorted h n hord hpar
    have hkids := hord.2
    have hup := searchLE_route h key _ hs hi hhi
    rw [hr, hk, Kids_decomp hi rA rB k A B c hl] at hkids
    rw [hr] at hs hj hup
    rw [hj.trans hl.symm, hiAt_decomp rA rB k B hi hlB] at hup
    -- the kid's clamped lower end is `clo` again (first kid), or its separator, which the search left below `key`
    obtain ⟨hb, hkb, a', hg, ha'⟩ := ih (some k) (lowD true clo rA k) _ hkids.2.1 hup (by
      cases rA with
      | nil => exact hclo
      | cons r0 rA => exact (searchLE_split_facts h key _ rB k hs (hj.trans hl.symm)).1 (List.cons_ne_nil _ _)) hxc
    exact ⟨(boundsOf_kid x lo hi n rA rB k A B c hid hr hk hl hA hB).trans hb, hkb, a',
      (gbounds_at_kid true x clo hi n rA rB k A B c hid hr hk hl hA hB).trans hg, ha'⟩

/-- The converse, for both intervals.  `clo` is the lower end `gbounds` starts from: `lo`, or, clamped,
    the lower end of an ancestor. -/
theorem mem_route_of_gbounds (h : SWO lt) (cl : Bool) (key : K) {x : Nat} {a' b : Option K} {d : Nat} (n : Node K V d)
    (lo clo hi : Option K) (hord : Ord lt d lo hi n) (hpar : ParN d n) (hnd : (idsOf n).Nodup)
    (hcl : ∀ y, leO lt lo y → leO lt clo y) (hb : gbounds cl x d clo hi n = some (a', b))
    (hlo : leO lt a' key) (hhi : ltO lt key b) :
    leO lt clo key ∧ ltO lt key hi ∧ ∃ a, (x, a, b) ∈ routeB lt key d lo hi n := by
  obtain ⟨d', m, hf⟩ := findNode_of_mem (gbounds_mem hb)
  revert lo clo hi
  refine findNode_rec x ?_ ?_ n hf hnd hpar
  · intro hid _ _ lo clo hi _ _ hb
    rw [gbounds_here cl x clo hi m hid] at hb
    cases hb
    obtain ⟨tl, htl⟩ := routeB_head (lt := lt) key d' lo b m
    exact ⟨hlo, hhi, lo, by rw [htl, hid]; exact List.mem_cons_self⟩
  · intro d n rA k rB A c B hid hnd hpar hr hk hl hlB _ hA hB ih lo clo hi hord hcl hb
    have hlok : leO lt lo k := Ord_lo_le_sep h n hord hpar rA rB k hr
    have hkids := hord.2
    rw [hr, hk, Kids_decomp hi rA rB k A B c hl] at hkids
    obtain ⟨_, hOc, _, hKB⟩ := hkids
    rw [gbounds_at_kid cl x clo hi n rA rB k A B c hid hr hk hl hA hB] at hb
    have hlow : (lowD cl clo rA k = clo ∧ rA = []) ∨ lowD cl clo rA k = some k := by
      cases rA with
      | nil => cases cl with
        | true => exact Or.inl ⟨rfl, rfl⟩
        | false => exact Or.inr rfl
      | cons _ _ => exact Or.inr rfl
    have hcl' : ∀ y, leO lt (some k) y → leO lt (lowD cl clo rA k) y := by
      intro y hy
      rcases hlow with ⟨e, _⟩ | e
      · rw [e]; exact hcl y (leO_trans h hlok hy)
      · rw [e]; exact hy
    obtain ⟨h1, h2, a, hm⟩ := ih (some k) (lowD cl clo rA k) (nextLo hi (rB.zip B)) hOc hcl' hb
    have hj : searchLE lt key n.runts = A.length := by
      rw [hr, ← hl]
      apply searchLE_eq_form h key rA rB k (by rw [← hr]; exact Ord_sorted h n hord hpar)
      · intro hne
        rcases hlow with ⟨_, e⟩ | e
        · exact absurd e hne
        · rw [e] at h1; exact h1
      · intro y hy
        obtain ⟨cy, hcy⟩ := mem_zip_of_mem_left rB B hlB y hy
        exact Kids_next_lt h hi _ hKB (y, cy) hcy key h2
    refine ⟨?_, ltO_nextLo h hi _ hKB key h2, a, ?_⟩
    · rcases hlow with ⟨e, _⟩ | e
      · rw [e] at h1; exact h1
      · rw [e] at h1; exact hcl key (leO_trans h hlok h1)
    · rw [routeB_succ key lo hi n, routeKid_at key hi n rA rB k A B c hr hk hl hlB hj]
      exact List.mem_cons_of_mem _ hm

/-- the leaf the search for `key` ends in -/
def routeLeaf (lt : K → K → Bool) (key : K) : (d : Nat) → Node K V d → Option (Leaf K V)
  | 0, (l : Leaf K V) => some l
  | d + 1, (i : Inner K (Node K V d)) =>
    match i.runts[searchLE lt key i.runts]?, i.kids[searchLE lt key i.runts]? with
    | some _, some c => routeLeaf lt key d c
    | _, _ => none

theorem routeLeaf_succ (key : K) {d : Nat} (i : Inner K (Node K V d)) (s : K) (c : Node K V d)
    (hs : i.runts[searchLE lt key i.runts]? = some s) (hc : i.kids[searchLE lt key i.runts]? = some c) :
    routeLeaf lt key (d + 1) i = routeLeaf lt key d c := by
  show (match i.runts[searchLE lt key i.runts]?, i.kids[searchLE lt key i.runts]? with
    | some _, some c => routeLeaf lt key d c
    | _, _ => none) = _
  rw [hs, hc]

theorem routeLeaf_some (key : K) : ∀ (d : Nat) (n : Node K V d), ParN d n →
    ∃ l, routeLeaf lt key d n = some l := by
  intro d
  induction d with
  | zero => intro n _; exact ⟨n, rfl⟩
  | succ d ih =>
    intro (n : Inner K (Node K V d)) hpar
    obtain ⟨s, c, hs, hc, hparc, _⟩ := routeB_inner (lt := lt) key none none n hpar
    rw [routeLeaf_succ key n s c hs hc]
    exact ih c hparc

theorem routeLeaf_last (key : K) : ∀ (d : Nat) (lo hi : Option K) (n : Node K V d) (l : Leaf K V),
    ParN d n → routeLeaf lt key d n = some l →
    ∃ pre a b, routeB lt key d lo hi n = pre ++ [(l.id, a, b)] ∧
      (routeB lt key d lo hi n).head? = some (Node.id n, lo, hi) := by
  intro d
  induction d with
  | zero =>
    intro lo hi (n : Leaf K V) l _ hl
    have : n = l := by injection hl
    subst this
    exact ⟨[], lo, hi, rfl, rfl⟩
  | succ d ih =>
    intro lo hi (n : Inner K (Node K V d)) l hpar hl
    obtain ⟨s, c, hs, hc, hparc, hr⟩ := routeB_inner (lt := lt) key lo hi n hpar
    rw [routeLeaf_succ key n s c hs hc] at hl
    obtain ⟨pre, a, b, hpre, _⟩ := ih (some s) (hiAt n.runts (searchLE lt key n.runts) hi) c l hparc hl
    refine ⟨(n.id, lo, hi) :: pre, a, b, ?_, ?_⟩
    · rw [hr, hpre]; rfl
    · rw [hr]; rfl

theorem findNode_kid (id : Nat) {d : Nat} (i : Inner K (Node K V d)) (j : Nat) (c : Node K V d)
    (hc : i.kids[j]? = some c) (hnd : (idsOf (d := d + 1) i).Nodup) (hid : id ∈ idsOf c) :
    findNode id (d + 1) i = findNode id d c := by
  obtain ⟨hj, e⟩ := List.getElem?_eq_some_iff.1 hc
  have hk : i.kids = i.kids.take j ++ c :: i.kids.drop (j + 1) := by rw [← e]; exact self_form _ _ hj
  obtain ⟨_, hx⟩ := nodup_kid i _ _ c hk hnd
  obtain ⟨hne, hA, _⟩ := hx id hid
  rw [findNode_inner, if_neg (fun e => hne e.symm), hk, List.findSome?_append]
  have : (i.kids.take j).findSome? (findNode id d) = none := by
    rw [List.findSome?_eq_none_iff]
    intro a ha
    exact (findNode_none id _ a).2 (hA a ha)
  rw [this]
  simp only [Option.none_or, List.findSome?_cons]
  cases hf : findNode id d c with
  | some x => rfl
  | none => exact absurd hid ((findNode_none id _ c).1 hf)

theorem routeLeaf_find (key : K) : ∀ (d : Nat) (n : Node K V d) (l : Leaf K V),
    ParN d n → (idsOf n).Nodup → routeLeaf lt key d n = some l →
    findNode l.id d n = some ⟨0, l⟩ := by
  intro d
  induction d with
  | zero =>
    intro (n : Leaf K V) l _ _ hl
    have : n = l := by injection hl
    subst this
    show (if n.id = n.id then some (⟨0, n⟩ : AnyNode K V) else none) = _
    simp
  | succ d ih =>
    intro (n : Inner K (Node K V d)) l hpar hnd hl
    obtain ⟨s, c, hs, hc, hparc, _⟩ := routeB_inner (lt := lt) key none none n hpar
    rw [routeLeaf_succ key n s c hs hc] at hl
    obtain ⟨hj, e⟩ := List.getElem?_eq_some_iff.1 hc
    have hk : n.kids = n.kids.take (searchLE lt key n.runts) ++ c :: n.kids.drop (searchLE lt key n.runts + 1) := by
      rw [← e]; exact self_form _ _ hj
    have hfc := ih c l hparc (nodup_kid n _ _ c hk hnd).1 hl
    rw [findNode_kid l.id n _ c hc hnd (findNode_some_mem hfc)]
    exact hfc

/-- no assumption relates `key` to `lo` or `hi` -/
theorem lookup_of_onRoute (h : SWO lt) (key : K) (id : Nat) {d d' : Nat} (n : Node K V d) (lo hi : Option K)
    (m : Node K V d') (hf : findNode id d n = some ⟨d', m⟩) (hnd : (idsOf n).Nodup) (hpar : ParN d n)
    (hord : Ord lt d lo hi n) (a b : Option K) (hon : (id, a, b) ∈ routeB lt key d lo hi n) :
    Spec.lookup lt (Node.pairs n) key = Spec.lookup lt (Node.pairs m) key := by
  obtain ⟨lo', hi', PL, PR, z⟩ := zoom h id n m hf hnd hpar lo hi hord
  obtain ⟨hl, hr⟩ := z.onRoute key a b hon
  rw [z.pairs, List.append_assoc, Spec.lookup_append_left _ _ _ hl, Spec.lookup_append_right _ _ _ hr]

/-- the leaf decides its key: authority once more, from `Ord` and parallel lengths alone (`lookup_of_onRoute`
    above goes through an identity and needs them distinct) -/
theorem lookup_routeLeaf (h : SWO lt) (key : K) : ∀ (d : Nat) (lo hi : Option K) (n : Node K V d) (l : Leaf K V),
    Ord lt d lo hi n → ParN d n → routeLeaf lt key d n = some l →
    Spec.lookup lt (Node.pairs n) key = Spec.lookup lt (l.keys.zip l.vals) key := by
  intro d
  induction d with
  | zero =>
    intro lo hi (n : Leaf K V) l _ _ hl
    have : n = l := by injection hl
    subst this
    rfl
  | succ d ih =>
    intro lo hi (n : Inner K (Node K V d)) l hord hpar hl
    obtain ⟨s, c, hs, hc, hparc, _⟩ := routeB_inner (lt := lt) key lo hi n hpar
    rw [routeLeaf_succ key n s c hs hc] at hl
    obtain ⟨rA, rB, A, B, hr, hk, hlA, hlA', hlB⟩ := decomp_at_index n hpar.1 _ s c hs hc
    have hlAA : rA.length = A.length := by omega
    have hsorted := Ord_sorted h n hord hpar
    have hkids := hord.2
    rw [hr, hk, Kids_decomp hi rA rB s A B c hlAA] at hkids
    obtain ⟨hKA, hOc, _, hKB⟩ := hkids
    have hparA : ∀ a ∈ A, ParN d a := fun a ha => hpar.2.2 a (by rw [hk]; simp [ha])
    have hparB : ∀ b ∈ B, ParN d b := fun b hb => hpar.2.2 b (by rw [hk]; simp [hb])
    obtain ⟨hL, hR⟩ := route_sep h key hi rA rB s A B hlAA hlB (by rw [← hr]; exact hsorted)
      (by rw [← hr, hlA]) hparA hparB hKA hKB
    rw [pairs_succ n, hk, List.flatMap_append, List.flatMap_cons,
      Spec.lookup_append_left _ _ _ hL, Spec.lookup_append_right _ _ _ hR]
    exact ih _ _ c l hOc hparc hl

end Gobptree.Conc
