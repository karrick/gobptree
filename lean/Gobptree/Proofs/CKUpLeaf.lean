/-
  The last stretch of an Insert/Update block (`upLeaf`, `upContinue`) and the return of the
  update callback: what they do to the ordering, the abstract map and the log.
-/
import Gobptree.Proofs.CKUpBase
import Gobptree.Proofs.CKPar
import Gobptree.Proofs.CBlockUp

namespace Gobptree.Conc
open Gobptree

variable {K V : Type} {lt : K → K → Bool}

theorem UpEff.unchanged {t : Nat} {key : K} {f : Option V → V} {s s' : St K V} {fl : Flow K V}
    (hord : OrdTree lt s.tree) (htree : s'.tree = s.tree) (hevs : s'.evs = s.evs)
    (hdone : ∀ r, fl ≠ .done r) (hk : ∀ p, fl = .park p → parkKPos lt s.tree p) :
    UpEff lt t key f s s' fl where
  ord := by rw [htree]; exact hord
  done := fun r hr => absurd hr (hdone r)
  park := fun _ _ => by rw [htree]
  cb := fun arg ha => Or.inl (by rw [hevs] at ha; exact ha)
  kpos := fun p hp => by rw [htree]; exact hk p hp
  routes := fun _ => by rw [htree]

theorem leaf_par {hole : Option Nat} {t : Tree K V} (hok : TreeOk hole t) {n : Nat} {l : Leaf K V}
    (hf : t.find n = some ⟨0, l⟩) : l.keys.length = l.vals.length := by
  obtain ⟨_, hl⟩ := find_leaf_look hf
  exact (par_leaf l).1 (occ_of_look hok.occ hl).par

theorem onRoute_find {t : Tree K V} {key : K} {n : Nat} (h : OnRoute lt t key n) : ∃ a, t.find n = some a := by
  obtain ⟨a, b, hab⟩ := h
  cases hfind : t.find n with
  | none => exact absurd (mem_routeB_ids key _ _ _ _ _ hab) ((findNode_none n _ _).1 hfind)
  | some an => exact ⟨an, rfl⟩

theorem UpLeafAt.ord {P : Params K} (hK : KParams lt P) (hpad : PadOk P) {hole : Option Nat} {s : St K V} {key : K}
    {f : Option V → V} {n : Nat} {l l' : Leaf K V} {arg : Option V} {T : Tree K V}
    (w : UpLeafAt P hole s key f n l l' arg T) (hok : TreeOk hole s.tree) (hord : OrdTree lt s.tree)
    (hin : InBounds lt s.tree key n) :
    OrdTree lt T ∧ T.abs = Spec.update lt s.tree.abs key f ∧ (∀ key', T.routeB lt key' = s.tree.routeB lt key') ∧
    arg = Spec.lookup lt s.tree.abs key ∧ s.tree.look n = some (shallow (d := 0) l) ∧
    Spec.lookup lt s.tree.abs key = Spec.lookup lt (l.keys.zip l.vals) key := by
  obtain ⟨hid, hlook⟩ := find_leaf_look w.find
  have hids := hok.ids.1
  have hpar := parTree_of_treeOk hok
  have ⟨a, b, hab, _⟩ := hin
  obtain ⟨harg, hO, _, habs, hroutes, _⟩ :=
    putLeaf_upsert hK.swo P hK.lt hpad l (by rw [hid]; exact w.find) hids hpar hord (leaf_par hok w.find) key f
      (by rw [hid]; exact hin) l' arg w.ups
  rw [w.Teq]
  exact ⟨hO, habs, hroutes, harg, hlook, lookup_of_find hK.swo w.find hids hpar hord key ⟨a, b, hab⟩⟩

theorem upContinue_keff (P : Params K) (hK : KParams lt P) (hpad : PadOk P) (t : Nat) (s : St K V) (key : K)
    (f : Option V → V) (y : Option Bool) (n : Nat) {hole : Option Nat}
    (hok : TreeOk hole s.tree) (hord : OrdTree lt s.tree) (hin : InBounds lt s.tree key n) :
    UpEff lt t key f s (upContinue P t s key f y n).1 (upContinue P t s key f y n).2 := by
  have ⟨a, b, hab, _⟩ := hin
  obtain ⟨an, hfind⟩ := onRoute_find ⟨a, b, hab⟩
  have out := upContinue_report P t s key f y n hole hok hpad (look_of_find hfind)
  generalize upContinue P t s key f y n = res at out
  cases out with
  | @leaf l l' arg T res w out =>
    obtain ⟨hO, habs, hroutes, harg, hlook, hleaf⟩ := w.ord hK hpad hok hord hin
    have hcb : ∀ a, CbIn t a (Ev.note t (Note.cb arg) :: s.evs) → CbIn t a s.evs ∨ a = Spec.lookup lt s.tree.abs key := by
      intro a ha
      rw [cbIn_note_cb] at ha
      rcases ha with e | h
      · exact Or.inr (by rw [e, harg])
      · exact Or.inl h
    cases out with
    | done =>
      exact ⟨hO, fun _ _ => habs, (fun _ h => by cases h), fun a ha => Or.inl ((cbIn_rel t t a _ _).1 ha),
        (fun _ h => by cases h), hroutes⟩
    | noted =>
      exact ⟨hO, fun _ _ => habs, (fun _ h => by cases h), fun a ha => hcb a ((cbIn_rel t t a _ _).1 ha),
        (fun _ h => by cases h), hroutes⟩
    | yield =>
      refine ⟨hord, (fun _ h => by cases h), fun _ _ => rfl, hcb, ?_, fun _ => rfl⟩
      intro p hp
      cases hp
      exact ⟨hin, _, hlook, harg.trans hleaf⟩
  | inner hf _ =>
    refine UpEff.unchanged hord rfl rfl (by intro r; simp) ?_
    intro q hq
    cases hq
    exact ⟨hin, by rw [keysOf_find hf, hK.lt]⟩

theorem upCallback_kpost (P : Params K) (hK : KParams lt P) (hpad : PadOk P) (t : Nat) (s : St K V) (key : K)
    (f : Option V → V) (leaf : Nat) (arg : Option V) (H : List Lk) {hole : Option Nat}
    (hok : TreeOk hole s.tree) (hord : OrdTree lt s.tree)
    (hk : KontOk s.tree (.upCallback key f leaf arg))
    (hpos : KPos lt s.tree (.upCallback key f leaf arg)) :
    KPost lt t (.upCallback key f leaf arg) s (resume P t s (.upCallback key f leaf arg)).1
        (resume P t s (.upCallback key f leaf arg)).2 ∧
      StableRoutes lt H s.tree (resume P t s (.upCallback key f leaf arg)).1.tree := by
  obtain ⟨hin, sh, hlook, harg⟩ := hpos
  obtain ⟨l, l', arg', T, w, e⟩ := upCallback_report P t s key f leaf arg hole hok hpad hk
  obtain ⟨hO, habs, hroutes, -, hl, hleaf⟩ := w.ord hK hpad hok hord hin
  rw [hl] at hlook
  cases hlook
  rw [e]
  exact ⟨⟨hO, ⟨habs, harg.trans hleaf.symm⟩, (fun _ h => by cases h)⟩, StableRoutes.of_routes hroutes⟩

end Gobptree.Conc
