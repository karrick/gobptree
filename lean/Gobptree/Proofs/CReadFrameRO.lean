/-
  Read frame: the blocks that do not write the tree (`roArrive`, `startOp`) and the
  loop that starts the following client operations (`threadLoop`).
-/
import Gobptree.Proofs.CReadFrameBase

namespace Gobptree.Conc
open Gobptree

variable {K V : Type}

section
variable {S : Nat → Prop} {R : Prop} {b1 b2 : List (Ev K V)} {s1 s2 : St K V}

theorem roArrive_rf (P : Params K) (t : Nat) (sc : Bool) (key : K) (hold : Lk) (n : Nat)
    (hr : SRel S R b1 b2 s1 s2) (hn : S n) :
    BRel S R b1 b2 (roArrive P t s1 sc key hold n) (roArrive P t s2 sc key hold n) := by
  have hr1 := hr.rel t hold
  rcases find_split hr.tree hn with ⟨h1, h2⟩ | ⟨l, h1, h2⟩ | ⟨d, p1, p2, h1, h2, hru, hk⟩
  · rw [roArrive_none h1, roArrive_none h2]
    exact ⟨hr1, rfl⟩
  · rw [roArrive_at_leaf h1, roArrive_at_leaf h2]
    cases sc with
    | true => exact ⟨hr1.withCursor _ _ (fun leaf i e => by cases e; exact hn), rfl⟩
    | false =>
      simp only [Bool.false_eq_true, if_false]
      cases Leaf.search P l key with
      | ok v => exact ⟨hr1.rel t _, rfl⟩
      | error _ => exact ⟨hr1, rfl⟩
  · rw [roArrive_kid h1, roArrive_kid h2, hru, hk]
    cases (p2.kids[searchLE P.lt key p2.runts]?).map Node.id <;> exact ⟨hr1, rfl⟩

theorem parkRoot_rf (t : Nat) (hr : SRel S R b1 b2 s1 s2) (hR : R) (k : Nat → Kont K V) :
    BRel S R b1 b2 (s1.acq t .tree, .park (.want (.node s1.tree.rootId) (k s1.tree.rootId)))
      (s2.acq t .tree, .park (.want (.node s2.tree.rootId) (k s2.tree.rootId))) := by
  refine ⟨hr.acq t _, ?_⟩
  show Flow.park (Park.want (Lk.node s1.tree.rootId) (k s1.tree.rootId)) =
    Flow.park (Park.want (Lk.node s2.tree.rootId) (k s2.tree.rootId))
  rw [(hr.tree.root hR).1]

theorem SRel.cursorLeaf (hr : SRel S R b1 b2 s1 s2) {leaf : Nat} {i : Int} (hc : s1.cursor = some (some leaf, i)) :
    (s1.tree.find leaf).bind leafOf? = (s2.tree.find leaf).bind leafOf? := by
  rcases find_split hr.tree (hr.curS leaf i hc) with ⟨h1, h2⟩ | ⟨l, h1, h2⟩ | ⟨d, p1, p2, h1, h2, _, _⟩ <;>
    rw [h1, h2] <;> rfl

/-- starting a client operation: only the cursor's leaf is read -/
theorem startOp_rf (t : Nat) (op : COp K V) (hr : SRel S R b1 b2 s1 s2) :
    BRel S R b1 b2 (startOp t s1 op) (startOp t s2 op) := by
  cases hk : firstKont op with
  | some k =>
    have hm : misuse s1 = misuse s2 := by unfold misuse; rw [hr.cursor]
    rw [startOp_point t s1 hk, startOp_point t s2 hk, hm]
    split
    · exact ⟨hr, rfl⟩
    · exact ⟨hr, rfl⟩
  | none =>
    rcases firstKont_none hk with rfl | rfl | rfl | rfl
    · simp only [startOp]
      rw [← hr.cursor, ← hr.exhausted]
      split
      · rename_i leaf i hc _
        rw [← hr.cursorLeaf hc]
        have hS : ∀ leaf' (i' j : Int), some (some leaf, j) = some (some leaf', i') → S leaf' := by
          intro leaf' i' j e
          cases e
          exact hr.curS leaf i hc
        cases (s1.tree.find leaf).bind leafOf? with
        | none => exact ⟨hr, rfl⟩
        | some l =>
          simp only []
          split
          · cases l.next with
            | none => exact ⟨(hr.rel t _).withCursor _ _ (fun _ _ e => by cases e), rfl⟩
            | some nx =>
              refine ⟨hr.withCursor _ _ ?_, rfl⟩
              exact fun _ _ => hS _ _ _
          · refine ⟨hr.withCursor _ _ ?_, rfl⟩
            exact fun _ _ => hS _ _ _
      · exact ⟨hr, rfl⟩
    · simp only [startOp]
      rw [← hr.cursor, ← hr.exhausted]
      split
      · rename_i leaf i hc _
        rw [← hr.cursorLeaf hc]
        cases (s1.tree.find leaf).bind leafOf? with
        | none => exact ⟨hr, rfl⟩
        | some l =>
          simp only []
          split
          · exact ⟨hr, rfl⟩
          · split
            · exact ⟨hr, rfl⟩
            · exact ⟨hr, rfl⟩
      · exact ⟨hr, rfl⟩
    · simp only [startOp]
      rw [← hr.cursor]
      cases s1.cursor with
      | none => exact ⟨hr, rfl⟩
      | some p =>
        obtain ⟨lf, i⟩ := p
        cases lf with
        | none => exact ⟨hr.withCursor _ _ (fun _ _ e => by cases e), rfl⟩
        | some leaf => exact ⟨(hr.rel t _).withCursor _ _ (fun _ _ e => by cases e), rfl⟩
    · exact ⟨hr, rfl⟩

def TRes (S : Nat → Prop) (R : Prop) (b1 b2 : List (Ev K V)) (r1 r2 : Thread K V × St K V × Bool) : Prop :=
  r1.1 = r2.1 ∧ SRel S R b1 b2 r1.2.1 r2.2.1 ∧ r1.2.2 = r2.2.2

theorem threadLoop_rf (t : Nat) (th : Thread K V) :
    ∀ (fuel : Nat) (s1 s2 : St K V) (fl : Flow K V) (pc : Nat), SRel S R b1 b2 s1 s2 →
      TRes S R b1 b2 (threadLoop t th fuel s1 fl pc) (threadLoop t th fuel s2 fl pc) :=
  -- what the loop writes back into the thread is the same in the two runs; starting the next
  -- operation is `startOp_rf`
  threadLoop_induct₂ t th (fun s1 s2 _ _ => SRel S R b1 b2 s1 s2) (TRes S R b1 b2)
    (fun _ _ _ _ hr => ⟨by rw [hr.held, hr.cursor, hr.exhausted], hr, rfl⟩)
    (fun _ _ _ hr => ⟨by rw [hr.held, hr.cursor, hr.exhausted], hr.note t _, rfl⟩)
    (fun _ _ _ _ hr => ⟨by rw [hr.held, hr.cursor, hr.exhausted], hr.note t _, rfl⟩)
    (fun _ _ r pc op hr _ => startOp_rf t op ((hr.note t (.ret pc r)).note t (.inv (pc + 1))))

theorem runThread_rf (P : Params K) (t : Nat) (th : Thread K V) (hr : SRel S R b1 b2 s1 s2)
    (hres : ∀ k, (th.park = .yielded k ∨ ∃ l, th.park = .want l k) →
      BRel S R b1 b2 (resume P t s1 k) (resume P t s2 k)) :
    TRes S R b1 b2 (runThread P t th s1) (runThread P t th s2) := by
  have hloop : ∀ {r1 r2 : St K V × Flow K V} (pc : Nat), BRel S R b1 b2 r1 r2 →
      TRes S R b1 b2 (threadLoop t th th.prog.length r1.1 r1.2 pc) (threadLoop t th th.prog.length r2.1 r2.2 pc) := by
    intro r1 r2 pc h
    rw [h.2]
    exact threadLoop_rf t th _ _ _ _ _ h.1
  cases hp : th.park with
  | start =>
    cases hop : th.prog[0]? with
    | none =>
      rw [runThread_start_nil P t th s1 hp hop, runThread_start_nil P t th s2 hp hop]
      exact ⟨rfl, hr, rfl⟩
    | some op =>
      rw [runThread_start P t th s1 hp hop, runThread_start P t th s2 hp hop]
      exact hloop 0 (startOp_rf t op (hr.note t (.inv 0)))
  | want l k =>
    rw [runThread_want P t th s1 hp, runThread_want P t th s2 hp]
    exact hloop _ (hres k (Or.inr ⟨l, hp⟩))
  | yielded k =>
    rw [runThread_yielded P t th s1 hp, runThread_yielded P t th s2 hp]
    exact hloop _ (hres k (Or.inl hp))
  | finished =>
    unfold runThread
    rw [hp]
    exact ⟨rfl, hr, rfl⟩

end

end Gobptree.Conc
