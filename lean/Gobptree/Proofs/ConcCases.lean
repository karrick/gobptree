/-
  The ways a block of Conc.lean can end, whatever the tree holds.

  For each block one rule: to show `Q` of the block's result it is enough to show `Q` of each
  of the few shapes the result can take (a panic, a park with a given continuation, a return
  after given unlocks and writes, or the result of the block it goes on with).  Of a tree that
  Insert/Update rewrote the rules say which inner node was written back (`rewritten`) or that the
  root was split (`splitRoot`); of one that Delete rebalanced only the depth.  The walk
  through the code of a block is made here, once; a property of all blocks that does not look
  inside the tree (what is held, what is logged, which park comes next, how deep the tree gets)
  is proved by instantiating `Q`.  (The outcomes of `Scan`, `Pair` and `Close` are listed in
  ConcCursorOps.lean, as the relation `CursorOut`.)
-/
import Gobptree.Proofs.ConcBlocks

namespace Gobptree.Conc
open Gobptree

variable {K V : Type} {Q : St K V × Flow K V → Prop}

theorem roArrive_cases (P : Params K) (t : Nat) (s : St K V) (sc : Bool) (key : K) (hold : Lk) (n : Nat)
    (hpanic : Q (s.rel t hold, .panic))
    (hscan : sc = true → ∀ idx : Nat,
      Q ({ s.rel t hold with cursor := some (some n, (idx : Int) - 1), exhausted := false }, .done .ok))
    (hfound : ∀ v, Q ((s.rel t hold).rel t (.node n), .done (.found v)))
    (hpark : ∀ c, Q (s.rel t hold, .park (.want (.node c) (.roNode sc key (.node n) c)))) :
    Q (roArrive P t s sc key hold n) := by
  unfold roArrive
  simp only
  split
  · exact hpanic
  · split
    · split
      · rename_i h; exact hscan h _
      · split
        · exact hfound _
        · exact hpanic
    · split
      · exact hpanic
      · split
        · exact hpanic
        · exact hpark _

theorem roArrive_tree (P : Params K) (t : Nat) (s : St K V) (sc : Bool) (key : K) (hold : Lk) (n : Nat) :
    (roArrive P t s sc key hold n).1.tree = s.tree :=
  roArrive_cases P t s sc key hold n (Q := fun r => r.1.tree = s.tree) rfl (fun _ _ => rfl) (fun _ => rfl)
    (fun _ => rfl)

theorem upLeaf_cases (P : Params K) (t : Nat) (s : St K V) (key : K) (f : Option V → V) (y : Option Bool) (n : Nat)
    (l : Leaf K V)
    (hpanic : Q (s, .panic))
    (hcb : y = some true → ∀ arg, Q (s.note t (.cb arg), .park (.yielded (.upCallback key f n arg))))
    (hnoted : y = some false → ∀ arg l',
      Q (({ s.note t (.cb arg) with tree := putLeaf s.tree l' }).rel t (.node n), .done .ok))
    (hdone : y = none → ∀ l', Q (({ s with tree := putLeaf s.tree l' }).rel t (.node n), .done .ok)) :
    Q (upLeaf P t s key f y n l) := by
  unfold upLeaf
  split
  · exact hpanic
  · split
    · exact hcb rfl _
    · exact hnoted rfl _ _
    · exact hdone rfl _

theorem upContinue_cases (P : Params K) (t : Nat) (s : St K V) (key : K) (f : Option V → V) (y : Option Bool) (n : Nat)
    (hpanic : Q (s, .panic))
    (hleaf : ∀ l, Q (upLeaf P t s key f y n l))
    (hpark : ∀ i c, Q (s, .park (.want (.node c) (.upChild key f y n i c)))) :
    Q (upContinue P t s key f y n) := by
  unfold upContinue
  split
  · exact hpanic
  · split
    · exact hleaf _
    · split
      · exact hpanic
      · simp only
        split
        · exact hpanic
        · exact hpark _ _

@[reducible] def rewritten (tr : Tree K V) {d : Nat} (p' : Inner K (Node K V d)) (n : Nat) : Tree K V :=
  { putInner tr p' with nextId := n }

theorem upChildArrive_cases (P : Params K) (t : Nat) (s : St K V) (key : K) (f : Option V → V) (y : Option Bool)
    (parent index child : Nat)
    (hpanic : Q (s, .panic))
    (hcont : ∀ {d : Nat} (p p' : Inner K (Node K V d)) (n : Nat), s.tree.find parent = some ⟨d + 1, p⟩ → p'.id = p.id →
      Q (upContinue P t ((s.setTree (rewritten s.tree p' n)).rel t (.node parent)) key f y child))
    (hsib : ∀ {d : Nat} (p p' : Inner K (Node K V d)) (n x : Nat), s.tree.find parent = some ⟨d + 1, p⟩ → p'.id = p.id →
      Q (s.setTree (rewritten s.tree p' n), .park (.want (.node x) (.upSib key f y parent child x)))) :
    Q (upChildArrive P t s key f y parent index child) := by
  unfold upChildArrive
  split
  · rename_i d p hfind
    split
    · exact hpanic
    · split
      · exact hpanic
      · split
        · exact hpanic
        · exact hcont p _ _ hfind rfl
        · split
          · split
            · exact hsib p _ _ _ hfind rfl
            · exact hcont p _ _ hfind rfl
          · exact hpanic
  · exact hpanic

theorem upRootArrive_cases (P : Params K) (t : Nat) (s : St K V) (key : K) (f : Option V → V) (y : Option Bool)
    (root : Nat)
    (hpanic : Q (s, .panic))
    (hcont : ∀ tr, (tr = s.tree ∨ ∃ ls rs left right, tr = splitRoot s.tree ls rs left right) →
      Q (upContinue P t ((s.setTree tr).rel t .tree) key f y root))
    (hsib : ∀ ls rs left right x,
      Q (s.setTree (splitRoot s.tree ls rs left right), .park (.want (.node x) (.upRootSib key f y root x)))) :
    Q (upRootArrive P t s key f y root) := by
  unfold upRootArrive
  simp only
  split
  · exact hpanic
  · exact hcont s.tree (.inl rfl)
  · split
    · split
      · exact hsib _ _ _ _ _
      · exact hcont _ (.inr ⟨_, _, _, _, rfl⟩)
    · exact hpanic

theorem resume_upCallback_cases (P : Params K) (t : Nat) (s : St K V) (key : K) (f : Option V → V) (leaf : Nat)
    (arg : Option V)
    (hpanic : Q (s, .panic))
    (hdone : ∀ l', Q (({ s with tree := putLeaf s.tree l' }).rel t (.node leaf), .done .ok)) :
    Q (resume P t s (.upCallback key f leaf arg)) := by
  simp only [resume]
  split
  · split
    · split
      · exact hdone _
      · exact hpanic
    · exact hpanic
  · exact hpanic

theorem delFinish_cases (t : Nat) (s : St K V) (small : Bool) (root : Nat)
    (hdone : ∀ tr, (tr = s.tree ∨ collapseRoot s.tree.order s.tree.nextId s.tree.depth s.tree.root = .ok tr) →
      Q ((({ s with tree := tr }).rel t (.node root)).rel t .tree, .done .ok)) :
    Q (delFinish t s small root) := by
  unfold delFinish
  simp only
  split
  · exact hdone s.tree (.inl rfl)
  · split
    · rename_i tr' heq; exact hdone tr' (.inr heq)
    · exact hdone s.tree (.inl rfl)

theorem delUnwind_cons_cases (P : Params K) (t : Nat) (s : St K V) (key : K) (fr : Frame) (rest : List Frame)
    (small : Bool) (root : Nat)
    (hpanic : Q (s, .panic))
    (hnext : ∀ tr small', tr.depth = s.tree.depth →
      Q (delUnwind P t (frameUnlock t { s with tree := tr } fr none) key rest small' root))
    (hright : ∀ r, Q (s, .park (.want (.node r) (.delRight key rest fr r root)))) :
    Q (delUnwind P t s key (fr :: rest) small root) := by
  unfold delUnwind
  split
  · exact hnext s.tree false rfl
  · split
    · split
      · split
        · exact hpanic
        · exact hright _
      · split
        · exact hpanic
        · split
          · exact hpanic
          · exact hnext _ _ rfl
    · exact hpanic

theorem delRightArrive_cases (P : Params K) (t : Nat) (s : St K V) (key : K) (rest : List Frame) (fr : Frame)
    (right root : Nat)
    (hpanic : Q (s, .panic))
    (hnext : ∀ tr small', tr.depth = s.tree.depth →
      Q (delUnwind P t (frameUnlock t { s with tree := tr } fr (some right)) key rest small' root)) :
    Q (delRightArrive P t s key rest fr right root) := by
  unfold delRightArrive
  split
  · split
    · exact hpanic
    · split
      · exact hpanic
      · exact hnext _ _ rfl
  · exact hpanic

theorem delEnter_cases {R : St K V × Flow K V × Option (List Frame × Bool) → Prop}
    (P : Params K) (t : Nat) (s : St K V) (key : K) (frames : List Frame) (n root : Nat)
    (hpanic : R (s, .panic, none))
    (hleaf : ∀ l' small, R ({ s with tree := putLeaf s.tree l' }, .done .ok, some (frames, small)))
    (hleft : ∀ i l, R (s, .park (.want (.node l) (.delLeft key frames n i l root)), none))
    (hchild : ∀ i c, R (s, .park (.want (.node c) (.delChild key frames n i none c root)), none)) :
    R (delEnter P t s key frames n root) := by
  unfold delEnter
  split
  · exact hpanic
  · split
    · split
      · exact hpanic
      · exact hleaf _ _
    · split
      · exact hpanic
      · simp only
        split
        · split
          · exact hpanic
          · exact hleft _ _
        · split
          · exact hpanic
          · exact hchild _ _

theorem delGo_cases (P : Params K) (t : Nat) (s : St K V) (key : K) (frames : List Frame) (n root : Nat)
    (hpanic : Q (s, .panic))
    (hleaf : ∀ l' small, Q (delUnwind P t { s with tree := putLeaf s.tree l' } key frames small root))
    (hleft : ∀ i l, Q (s, .park (.want (.node l) (.delLeft key frames n i l root))))
    (hchild : ∀ i c, Q (s, .park (.want (.node c) (.delChild key frames n i none c root)))) :
    Q (delGo P t s key frames n root) := by
  unfold delGo
  exact delEnter_cases P t s key frames n root
    (R := fun r => Q (match r with
      | (s, fl, none) => (s, fl)
      | (s, _, some (frames, small)) => delUnwind P t s key frames small root))
    hpanic hleaf hleft hchild

theorem resume_delLeft_cases (P : Params K) (t : Nat) (s : St K V) (key : K) (frames : List Frame)
    (node index left root : Nat)
    (hpanic : Q (s.acq t (.node left), .panic))
    (hpark : ∀ c, Q (s.acq t (.node left),
      .park (.want (.node c) (.delChild key frames node index (some left) c root)))) :
    Q (resume P t s (.delLeft key frames node index left root)) := by
  simp only [resume]
  split
  · split
    · exact hpark _
    · exact hpanic
  · exact hpanic

end Gobptree.Conc
