/-
  A stretch of any of Delete's continuations is one `DStep` with the expected abstract effect
  (`resume_dstep`); the key-order layer reads `resume_kpost_D` off it.
-/
import Gobptree.Proofs.CKDelUnwind
import Gobptree.Proofs.CSDel

namespace Gobptree.Conc
open Gobptree

variable {K V : Type} {lt : K → K → Bool}

theorem resume_dstep (P : Params K) (t : Nat) (s : St K V) (k : Kont K V) (H : List Lk)
    (hd : isDelK k = true) (h4 : 4 ≤ s.tree.order) (hkp : KParams lt P) (hpre : Pre P (kontHole k) s)
    (hk : KontOk s.tree k) (hcov : Covers H s.cursor k) (hO : OrdTree lt s.tree) (hpos : KPos lt s.tree k) :
    DStep lt (fun x => Lk.node x ∈ H) s.tree (resume P t s k).1.tree ∧
      AbsEffect lt t k s (resume P t s k).1 (resume P t s k).2 ∧
      ∀ p, (resume P t s k).2 = .park p → parkKPos lt (resume P t s k).1.tree p := by
  have h := hkp.swo
  have hids : s.tree.ids.Nodup := hpre.tree.ids.1
  have hpar : ParTree s.tree := parTree_of_treeOk hpre.tree
  obtain ⟨hheld, hlock, hcl⟩ := hcov
  cases k with
  | delTree key =>
    refine ⟨DStep.refl h _ hO, ?_, ?_⟩
    · show (resume P t s (.delTree key)).1.tree.abs = s.tree.abs
      rfl
    · intro p hp
      simp only [resume] at hp
      cases hp
      trivial
  | delRoot key r =>
    have hr : Lk.node r ∈ H := hlock _ rfl
    have hk' : r = s.tree.rootId := hk
    have hon : OnRoute lt s.tree key r := by rw [hk']; exact ⟨none, none, root_onRoute _ key⟩
    have go := delGo_out h P hkp.lt hpre.pad t key r H hr (s.acq t (.node r)) [] r hpre.tree h4 hpre.order hk' rfl
      (by intro l hl; cases hl) hO hon
    exact ⟨go.step, ⟨go.erased, go.same⟩, go.kpos⟩
  | delLeft key frames node index left root =>
    obtain ⟨hroot, hfr, hposi, hl, c, hc⟩ := hk
    obtain ⟨d, i, hf, _, kc, hkc, hkcid⟩ := inner_of_kidAt hc
    rw [resume_delLeft hf hkc]
    refine ⟨DStep.refl h _ hO, rfl, ?_⟩
    intro p hp
    cases hp
    exact hpos
  | delChild key frames node index left child root =>
    obtain ⟨hrootH, hroot, hfr, hH⟩ := delChild_setup hk ⟨hheld, hlock, hcl⟩
    have hon : OnRoute lt s.tree key child := onRoute_kid hids hpar key hpos.1 hpos.2 hfr.2.1.1
    have go := delGo_out h P hkp.lt hpre.pad t key root H hrootH (s.acq t (.node child)) _ child hpre.tree h4
      hpre.order hroot hfr hH hO hon
    exact ⟨go.step, ⟨go.erased, go.same⟩, go.kpos⟩
  | delRight key rest fr right root =>
    obtain ⟨hrootH, hinv, hH, hr, hrH⟩ := delRight_setup t h4 hpre hk ⟨hheld, hlock, hcl⟩
    have out := (delUnwind_out h P hpre.pad t key root H hrootH).2 (s.acq t (.node right)) rest fr right hinv hH hr
      hrH hO
    exact ⟨out.step, out.abs, kpos_of_postLeaf _ out.post⟩
  | _ => cases hd

theorem resume_kpost_D : ResumeKD K V := by
  intro lt P t s k H hd h4 hkp hpre hk hkpre hcov hO hpos
  have hpost := resume_post_D P t s k H hd h4 hpre hk hkpre hcov
  obtain ⟨st, eff, kpos⟩ := resume_dstep P t s k H hd h4 hkp hpre hk hcov hO hpos
  exact ⟨⟨st.ord, eff, kpos⟩, stableBounds_of_widen hkp.swo st.widen hpre.tree.ids.1 (parTree_of_treeOk hpre.tree) hO
    hpost.tree.ids.1 (parTree_of_treeOk hpost.tree) st.ord⟩

end Gobptree.Conc

open Gobptree.Conc in
#print axioms resume_kpost_D
