/-
  Client discipline (the proviso of C06/C09), as a static property of a thread's program:
  a three-state automaton over-approximating the cursor state.
    N : no cursor is open
    F : a cursor may be open (freshly created: `Pair` not yet allowed)
    S : a cursor may be open, and if it is, `Scan` has been called (index ≥ 0)
  Allowed: tree operations and `NewScanner` only in N; `Pair` only in S (or N, where it is a
  no-op); `Scan`, `Close`, `pause` anywhere.
-/
import Gobptree.Conc

namespace Gobptree.Conc
open Gobptree

variable {K V : Type}

inductive CSt where
  | N | F | S
  deriving DecidableEq, Repr

def discStep : CSt → COp K V → Option CSt
  | .N, .ins _ _ => some .N
  | .N, .upd _ _ _ => some .N
  | .N, .del _ => some .N
  | .N, .get _ => some .N
  | .N, .ns _ => some .F
  | _, .ins _ _ => none
  | _, .upd _ _ _ => none
  | _, .del _ => none
  | _, .get _ => none
  | _, .ns _ => none
  | .N, .scan => some .N
  | _, .scan => some .S
  | .S, .pair => some .S
  | .N, .pair => some .N
  | .F, .pair => none
  | _, .close => some .N
  | st, .pause => some st

def disciplined : CSt → List (COp K V) → Bool
  | _, [] => true
  | st, op :: rest =>
    match discStep st op with
    | none => false
    | some st' => disciplined st' rest

/-- what the abstract state claims about the concrete cursor -/
def AbsC : CSt → Option (Option Nat × Int) → Bool → Prop
  | .N, c, _ => cursorLocks c = []
  | .F, _, _ => True
  | .S, c, e => ∀ leaf i, c = some (some leaf, i) → e = false → 0 ≤ i

/-- client faults: a tree operation while a cursor is open; `Pair` before any `Scan` -/
def opFault (s : St K V) : COp K V → Bool
  | .ins _ _ | .upd _ _ _ | .del _ | .get _ | .ns _ => misuse s
  | .pair => match s.cursor, s.exhausted with
      | some (some _, i), false => decide (i < 0)
      | _, _ => false
  | _ => false

/-- the abstract state the operation a continuation belongs to will end in -/
def kontAbs (st' : CSt) (k : Kont K V) (c : Option (Option Nat × Int)) (e : Bool) : Prop :=
  match k with
  | .roTree true _ => st' = .F
  | .roNode true _ _ _ => st' = .F
  | .hop _ _ => st' = .S
  | .paused => AbsC st' c e
  | _ => st' = .N

def parkAbs (st' : CSt) (p : Park K V) (c : Option (Option Nat × Int)) (e : Bool) : Prop :=
  match p with
  | .want _ k => kontAbs st' k c e
  | .yielded k => kontAbs st' k c e
  | _ => True

def flowAbs (st' : CSt) (fl : Flow K V) (c : Option (Option Nat × Int)) (e : Bool) : Prop :=
  match fl with
  | .done _ => AbsC st' c e
  | .park p => parkAbs st' p c e
  | .panic => True

/-- discipline invariant of a thread: the rest of its program is allowed from the abstract
    state its current operation will end in -/
def DiscOk (th : Thread K V) : Prop :=
  match th.park with
  | .start => disciplined .N th.prog = true ∧ th.cursor = none
  | .finished => True
  | .want _ k => ∃ st', disciplined st' (th.prog.drop (th.pc + 1)) = true ∧ kontAbs st' k th.cursor th.exhausted
  | .yielded k => ∃ st', disciplined st' (th.prog.drop (th.pc + 1)) = true ∧ kontAbs st' k th.cursor th.exhausted

end Gobptree.Conc
