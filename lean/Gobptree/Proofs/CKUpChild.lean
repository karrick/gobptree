/-
  The descent block of Insert/Update (`upChildArrive`) keeps the key order: it lowers the
  parent's first separator and splits a full child.  The positions of the other threads
  survive because both rewrites keep or widen the intervals of every node the thread does not
  hold; the thread's own next position is read off the route inside the rewritten parent.
-/
import Gobptree.Proofs.CKUpSplit
import Gobptree.Proofs.CKUpRoot
import Gobptree.Proofs.CKSeg

namespace Gobptree.Conc
open Gobptree

variable {K V : Type} {lt : K → K → Bool}

theorem putInner_kfacts (h : SWO lt) {t : Tree K V} {id d : Nat} {p : Node K V (d + 1)} (p' : Inner K (Node K V d))
    (hid : p'.id = id) {lo' hi' : Option K} {PL PR : List (K × V)}
    (hf : t.find id = some ⟨d + 1, p⟩) (hids : t.ids.Nodup) (hpar : ParTree t) (hord : OrdTree lt t)
    (z : Zoom lt id t.depth none none t.root (d + 1) p lo' hi' PL PR)
    (hO : Ord lt (d + 1) lo' hi' p') (hP : ParN (d + 1) p')
    (hpairs : Node.pairs (d := d + 1) p' = Node.pairs (d := d + 1) p) :
    OrdTree lt (putInner t p') ∧ (putInner t p').abs = t.abs ∧
    (∀ key, OnRoute lt t key id → ∀ e ∈ routeB lt key (d + 1) lo' hi' p', e ∈ (putInner t p').routeB lt key) := by
  obtain ⟨h1, _, h3⟩ := z.putInnerAt p' hid hO hP
  refine ⟨h1, ?_, ?_⟩
  · rw [h3, hpairs, z.abs]
  · rintro key ⟨a, b, hab⟩ e he
    obtain ⟨pre, _, _, hnew⟩ := putInner_route_on p' hid hf hids hpar key a b hab
    cases (Tree.route_entry h hids hpar hord hab).1.symm.trans z.tree_bounds
    rw [hnew]
    exact List.mem_append_right _ he

theorem putInner_widen (h : SWO lt) (cl : Bool) {t : Tree K V} {id d : Nat} {p : Node K V (d + 1)}
    (p' : Inner K (Node K V d)) (hid : p'.id = id) (hf : t.find id = some ⟨d + 1, p⟩) (hids : t.ids.Nodup)
    (hpar : ParTree t) {lo' hi' : Option K} (hb : t.gbounds cl id = some (lo', hi')) (W : Nat → Prop)
    (hsub : ∀ x, ¬ W x → x ∈ idsOf (d := d + 1) p' → x ∈ idsOf p)
    (hw : ∀ x, ¬ W x → OW lt (gbounds cl x (d + 1) lo' hi' p) (gbounds cl x (d + 1) lo' hi' p')) :
    WidenG lt cl W t (putInner t p') := by
  subst hid
  exact Tree.widen_modify h cl hf hids hpar hb _ p' (putInner_apply p' p) W hsub hw

/-- What the key order adds to the block report `UpChildAt`: the parent zoomed on in its interval
    `[a0, b0)`, where the key routes, and the lowered separator `k1` with what makes `(k1, c)` an
    entry in the place of `(k, c)`. -/
structure UpChildSetup (lt : K → K → Bool) (s : St K V) (key : K) (parent : Nat) {d : Nat} (rA rB : List K)
    (k k1 : K) (A B : List (Node K V d)) (c : Node K V d) (a0 b0 : Option K) (PL PR : List (K × V)) : Prop where
  half : 1 ≤ s.tree.order / 2
  hab : (parent, a0, b0) ∈ s.tree.routeB lt key
  le : leO lt a0 key
  z : Zoom lt parent s.tree.depth none none s.tree.root (d + 1)
    (Inner.mk parent (rA ++ k :: rB) (A ++ c :: B) : Inner K (Node K V d)) a0 b0 PL PR
  F2 : ∀ x ∈ rB, lt key x = true
  k1le : lt k k1 = false
  k1ne : rA ≠ [] → k1 = k
  k1key : lt key k1 = false
  k1lo : rA = [] → leO lt a0 k1
  k1hi : ltO lt k1 (nextLo b0 (rB.zip B))
  Oc : Ord lt d (some k1) (nextLo b0 (rB.zip B)) c
  Pc : ParN d c

theorem upChild_setup (P : Params K) (hK : KParams lt P) (s : St K V) (key : K) (f : Option V → V)
    (y : Option Bool) (parent index child : Nat) (hole : Option Nat) (hpre : Pre P hole s)
    (hord : OrdTree lt s.tree) (hpos : KPos lt s.tree (.upChild key f y parent index child))
    {d : Nat} {rA rB : List K} {k k1 : K} {A B : List (Node K V d)} {c : Node K V d} (hi : index = A.length)
    (hk1 : lowKey P.lt key rA k = k1) (at_ : UpChildAt s parent child rA rB k A B c) :
    ∃ (a0 b0 : Option K) (PL PR : List (K × V)), UpChildSetup lt s key parent rA rB k k1 A B c a0 b0 PL PR := by
  have hsw := hK.swo
  obtain ⟨hin, hidx⟩ : InBounds lt s.tree key parent ∧ index = searchLE lt key (keysOf s.tree parent) := hpos
  have hok := hpre.tree
  have hids := hok.ids.1
  have hpar := parTree_of_treeOk hok
  have hfind := at_.find
  have hlA := at_.lA
  rw [keysOf_find hfind] at hidx
  have hidx' : searchLE lt key (rA ++ k :: rB) = rA.length := by rw [hlA, ← hi]; exact hidx.symm
  obtain ⟨a0, b0, hab, hle⟩ := hin
  obtain ⟨PL, PR, z, _, _⟩ := Tree.zoomOn hsw hfind hids hpar hord hab
  have hsorted : Sorted lt (rA ++ k :: rB) := Ord_sorted hsw _ z.ord z.par
  obtain ⟨hF1, hF2⟩ := searchLE_split_facts hsw key rA rB k hsorted hidx'
  rw [hK.lt] at hk1
  have hkey : lt key k1 = false := hk1 ▸ lowKey_le_key hsw key rA k hF1
  have hk1le : lt k k1 = false := hk1 ▸ lowKey_le hsw key rA k
  have hk1ne : rA ≠ [] → k1 = k := fun hne => hk1 ▸ lowKey_of_ne key rA k hne
  have hk1lo : rA = [] → leO lt a0 k1 := by
    intro e
    rw [← hk1]
    refine lowKey_lo key rA k a0 hle (z.ord.1 k ?_)
    subst e
    rfl
  obtain ⟨-, hOc, hklt, -⟩ := (Kids_decomp b0 rA rB k A B c hlA).1 z.ord.2
  exact ⟨a0, b0, PL, PR, (Nat.le_div_iff_mul_le Nat.two_pos).2 hok.order2, hab, hle, z, hF2, hk1le, hk1ne, hkey,
    hk1lo, ltO_of_le hsw hklt hk1le, Ord_mono_lo hsw (show loLe lt (some k1) (some k) from hk1le) hOc,
    z.par.2.2 c (List.mem_append_right _ List.mem_cons_self)⟩

theorem UpChildSplit.ord (hsw : SWO lt) {P : Params K} {H : List Lk} {hole : Option Nat} {s : St K V} {key : K}
    {parent d : Nat} {rA rB : List K} {k k1 rs : K} {A B : List (Node K V d)} {c l r : Node K V d}
    {p2 : Inner K (Node K V d)} {T2 : Tree K V} {a0 b0 : Option K} {PL PR : List (K × V)}
    (su : UpChildSetup lt s key parent rA rB k k1 A B c a0 b0 PL PR)
    (sp : UpChildSplit P H hole s parent rA rB k1 A B c l r rs p2 T2) :
    ∃ s0, SplitOrd lt d (some k1) (nextLo b0 (rB.zip B)) c l r s.tree.nextId rs s0 := by
  obtain ⟨rs', s0, so⟩ := split_ord hsw su.half sp.out.cut su.Oc su.Pc
  cases so.smr.symm.trans sp.smr
  exact ⟨s0, so⟩

theorem upChildArrive_kres (P : Params K) (hK : KParams lt P) (t : Nat) (s : St K V) (key : K) (f : Option V → V)
    (y : Option Bool) (parent index child : Nat) (H : List Lk) (hole : Option Nat) (hpre : Pre P hole s)
    (hord : OrdTree lt s.tree) (hk : KontOk s.tree (.upChild key f y parent index child))
    (hpos : KPos lt s.tree (.upChild key f y parent index child))
    (hHp : Lk.node parent ∈ H) (hHc : Lk.node child ∈ H) :
    KRes lt t key f H s (upChildArrive P t s key f y parent index child).1
      (upChildArrive P t s key f y parent index child).2 := by
  have hsw := hK.swo
  have hok := hpre.tree
  have hids := hok.ids.1
  have hpar := parTree_of_treeOk hok
  obtain ⟨d, rA, rB, k, k1, A, B, c, hi, hk1, at_, out⟩ :=
    upChildArrive_report P t s key f y parent index child H hole hpre hk hHp hHc
  obtain ⟨a0, b0, PL, PR, su⟩ := upChild_setup P hK s key f y parent index child hole hpre hord hpos hi hk1 at_
  have hso := fun {l r rs p2 T2} => UpChildSplit.ord hsw (P := P) (H := H) (hole := hole)
    (l := l) (r := r) (rs := rs) (p2 := p2) (T2 := T2) su
  obtain ⟨hfind, hcid, hlA, -⟩ := at_
  obtain ⟨-, hab, -, z, hF2, hk1le, hk1ne, hk1key, hk1lo, hk1hi, hOc, hPc⟩ := su
  generalize upChildArrive P t s key f y parent index child = res at out
  have hrel : ∀ (s' : St K V) arg, CbIn t arg (s'.rel t (Lk.node parent)).evs → CbIn t arg s'.evs :=
    fun s' arg ha => (cbIn_rel t t arg (Lk.node parent) s'.evs).1 ha
  have hW : ∀ x, ¬ (Lk.node x ∈ H ∨ x ∉ s.tree.ids) → parent ≠ x ∧ x ≠ Node.id c ∧ x ≠ s.tree.nextId := by
    intro x hx
    rw [not_or, Classical.not_not] at hx
    refine ⟨fun e => hx.1 (e ▸ hHp), fun e => hx.1 ((e.trans hcid) ▸ hHc), fun e => ?_⟩
    have := hok.ids.2 x hx.2
    rw [e] at this
    exact Nat.lt_irrefl _ this
  have hgb : ∀ cl, ∃ lo', s.tree.gbounds cl parent = some (lo', b0) := by
    intro cl
    cases cl with
    | false => exact ⟨a0, (Tree.gbounds_false _ _).trans z.tree_bounds⟩
    | true =>
      obtain ⟨-, -, a', hb, -⟩ := Tree.route_entry hsw hids hpar hord hab
      exact ⟨a', hb⟩
  -- the entry `(k, c)` of the parent becomes the window `(k1, c') :: M'`, written back as `T`: order,
  -- contents, the route inside the new parent, positions kept
  have hwrite : ∀ (p' : Inner K (Node K V d)) (M' : List (K × Node K V d)) (c' : Node K V d) (T : Tree K V),
      p'.id = parent → p'.runts = rA ++ k1 :: (M'.map Prod.fst ++ rB) → p'.kids = A ++ c' :: (M'.map Prod.snd ++ B) →
      TreeOk hole T → (T = putInner s.tree p' ∨ T = allocId (putInner s.tree p')) →
      Kids lt (fun a b c => Ord lt d a b c) (nextLo b0 (rB.zip B)) ((k1, c') :: M') →
      (∀ y ∈ c' :: M'.map Prod.snd, ParN d y) →
      (c' :: M'.map Prod.snd).flatMap (Node.pairs (d := d)) = [c].flatMap (Node.pairs (d := d)) →
      (∀ y ∈ c' :: M'.map Prod.snd, ∀ x ∈ idsOf y, x = s.tree.nextId ∨ x ∈ idsOf c) →
      (∀ cl a x, x ≠ Node.id c → x ≠ s.tree.nextId →
        OW lt (gbounds cl x d a (nextLo b0 (rB.zip B)) c) (winE (gbounds cl x d) a (nextLo b0 (rB.zip B)) c' M')) →
      Sorted lt p'.runts ∧ OrdTree lt T ∧ T.abs = s.tree.abs ∧
        (∀ e ∈ routeB lt key (d + 1) a0 b0 p', e ∈ T.routeB lt key) ∧ Stable lt H s.tree T := by
    intro p' M' c' T hid hr' hc' hokT hT hM hPM hprs hsub hwin
    obtain ⟨hO, hP, hpairs⟩ := replace_entries (Inner.mk parent (rA ++ k :: rB) (A ++ c :: B)) p'
      rA rB k k1 A B c c' [] M' hlA rfl rfl hr' hc' z.ord z.par hk1ne hk1lo hM hPM hprs
    obtain ⟨hids', hwid'⟩ := replace_entries_widen hsw (Inner.mk parent (rA ++ k :: rB) (A ++ c :: B)) p'
      rA rB k k1 A B c c' [] M' hlA rfl rfl hid hr' hc' hk1ne
    obtain ⟨hOt, habs, hin1⟩ := putInner_kfacts hsw p' hid hfind hids hpar hord z hO hP hpairs
    have hwid : ∀ cl, WidenG lt cl (fun x => Lk.node x ∈ H ∨ x ∉ s.tree.ids) s.tree (putInner s.tree p') := by
      intro cl
      obtain ⟨lo', hb⟩ := hgb cl
      refine putInner_widen hsw cl p' hid hfind hids hpar hb _ (fun x hx hm => ?_) (fun x hx => ?_)
      · rcases hids' x hm with e | e
        · obtain ⟨y, hy, hxy⟩ := List.mem_flatMap.1 e
          rw [idsOf_succ]
          exact List.mem_cons_of_mem _ (List.mem_flatMap.2 ⟨c, List.mem_append_right _ List.mem_cons_self,
            (hsub y hy x hxy).resolve_left (hW x hx).2.2⟩)
        · exact e
      · refine hwid' cl lo' b0 x (hW x hx).1 ?_
        rw [winE_nil]
        exact (gbounds_mono hsw cl x d c _ _ _ _ (loLe_lowD hsw cl lo' rA k k1 hk1le hk1ne) (hiLe_refl hsw _)).trans hsw
          (hwin cl _ x (hW x hx).2.1 (hW x hx).2.2)
    -- `allocId` only advances the allocation counter, which none of these notions looks at
    rcases hT with rfl | rfl
    · exact ⟨Ord_sorted hsw _ hO hP, hOt, habs, hin1 key ⟨a0, b0, hab⟩,
        stable_of_widen hsw hwid hids hpar hord hokT.ids.1 (parTree_of_treeOk hokT) hOt⟩
    · exact ⟨Ord_sorted hsw _ hO hP, hOt, habs, hin1 key ⟨a0, b0, hab⟩,
        stable_of_widen hsw hwid hids hpar hord hokT.ids.1 (parTree_of_treeOk hokT) hOt⟩
  cases out with
  | @stay p1 T1 p1eq T1eq w hms _ _ =>
    subst p1eq
    obtain ⟨hs1, hOt, habs, hin1, hst⟩ := hwrite _ [] c T1 rfl rfl rfl w.step.tree (Or.inl T1eq) ⟨hOc, hk1hi, trivial⟩
      (List.forall_mem_singleton.2 hPc) rfl (List.forall_mem_singleton.2 fun x hx => Or.inr hx)
      (fun cl a x _ _ => OW.of_eq hsw (winE_nil _ a _ c))
    have hidx1 : searchLE lt key (rA ++ k1 :: rB) = A.length := by
      rw [← hlA]
      exact searchLE_eq_of hsw key rA rB k1 hs1 hk1key hF2
    refine KRes.continue P hK hpre.pad y child (s1 := (s.setTree T1).rel t (.node parent))
      w.step.tree hOt ?_ habs (hrel _) hst
    rw [← hcid]
    exact ⟨_, _, hin1 _ (routeB_kid_mem key a0 b0 _ A.length k1 c hidx1
      (getElem?_pivot hlA k1) (getElem?_pivot rfl c)), hk1key⟩
  | @split l r rs p2 T2 sp =>
    have hsplit := sp.out.cut
    obtain ⟨s0, so⟩ := hso sp
    obtain ⟨hM, hPM, hprs⟩ := so.window hsw
    obtain ⟨-, -, -, -, -, p2eq, T2eq, w, -, -⟩ := sp
    subst p2eq
    rw [hK.lt]
    obtain ⟨hs2, hOt, habs, hin1, hst⟩ := hwrite _ [(rs, r)] l T2 rfl rfl rfl w.step.tree (Or.inr T2eq) hM hPM hprs
      (List.forall_mem_cons.2 ⟨fun x hx => Or.inr ((isSplit_idsOf hsplit).1 x hx),
        List.forall_mem_singleton.2 (isSplit_idsOf hsplit).2⟩)
      (fun cl a x h1 h2 => OW.of_eq hsw ((winE_one _ a _ l r rs).trans (so.bounds cl x a _ h1 h2).symm))
    by_cases cc : (!lt key rs) = true
    · rw [if_pos cc]
      have cc' : lt key rs = false := by simpa using cc
      have hidx2 : searchLE lt key (rA ++ k1 :: rs :: rB) = A.length + 1 := by
        have e : rA ++ k1 :: rs :: rB = (rA ++ [k1]) ++ rs :: rB := by rw [List.append_assoc]; rfl
        rw [e, searchLE_eq_of hsw key (rA ++ [k1]) rB rs (e ▸ hs2) cc' hF2, List.length_append, hlA]
        rfl
      refine ⟨hOt, ⟨(fun r' hr' => by cases hr'), fun _ _ => habs, fun arg ha => Or.inl ha⟩, ?_,
        fun key' id _ hH => hst key' id hH⟩
      intro q hq
      cases hq
      exact ⟨_, _, hin1 _ (routeB_kid_mem key a0 b0 _ (A.length + 1) rs r hidx2
        (getElem?_next hlA k1 rs) (getElem?_next rfl l r)), cc'⟩
    · rw [if_neg cc]
      have cc' : lt key rs = true := by simpa using cc
      have hidx2 : searchLE lt key (rA ++ k1 :: rs :: rB) = A.length := by
        rw [← hlA]
        exact searchLE_eq_of hsw key rA (rs :: rB) k1 hs2 hk1key
          (fun y hy => (List.mem_cons.1 hy).elim (fun e => e ▸ cc') (hF2 y))
      refine KRes.continue P hK hpre.pad y child (s1 := (s.setTree T2).rel t (.node parent)) w.step.tree hOt ?_
        habs (hrel _) hst
      rw [← hcid, ← so.idl]
      exact ⟨_, _, hin1 _ (routeB_kid_mem key a0 b0 _ A.length k1 l hidx2
        (getElem?_pivot hlA k1) (getElem?_pivot rfl l)), hk1key⟩

end Gobptree.Conc
