/-
  The leaf operations of Ops.lean read off the code once, with no invariant assumed: a success
  of `Leaf.upsert` is one of its three exits (append, replace, insert) and a success of
  `Leaf.deleteKey` one of two (absent, removed), each with the new keys and values as list
  surgery at the index `g = searchGE key keys`.
-/
import Gobptree.Proofs.Slice
import Gobptree.Proofs.Search
import Gobptree.Ops

namespace Gobptree

variable {K V : Type}

/-- the append test of `Leaf.upsert` (`len(ln.runts) == 0 || key > ln.runts[len-1]`) -/
def Leaf.beyond (P : Params K) (l : Leaf K V) (key : K) : Prop :=
  ∀ last, l.keys.getLast? = some last → P.lt last key = true

theorem Leaf.upsert_inv {P : Params K} {l l' : Leaf K V} {key : K} {f : Option V → V} {arg : Option V}
    (h : Leaf.upsert P l key f = .ok (l', arg)) :
    ∃ ks vs, l' = { l with keys := ks, vals := vs } ∧
      ((Leaf.beyond P l key ∧ ks = l.keys ++ [key] ∧ vs = l.vals ++ [f none] ∧ arg = none) ∨
       (¬ Leaf.beyond P l key ∧ ∃ k, l.keys[searchGE P.lt key l.keys]? = some k ∧
         ((eqv P.lt key k = true ∧ ∃ old, l.vals[searchGE P.lt key l.keys]? = some old ∧ ks = l.keys ∧
             vs = l.vals.set (searchGE P.lt key l.keys) (f (some old)) ∧ arg = some old) ∨
          (eqv P.lt key k = false ∧ searchGE P.lt key l.keys ≤ l.vals.length ∧
             ks = l.keys.take (searchGE P.lt key l.keys) ++ key :: l.keys.drop (searchGE P.lt key l.keys) ∧
             vs = l.vals.take (searchGE P.lt key l.keys) ++ f none :: l.vals.drop (searchGE P.lt key l.keys) ∧
             arg = none)))) := by
  unfold Leaf.upsert at h
  dsimp only at h
  generalize searchGE P.lt key l.keys = g at h ⊢
  cases hl : l.keys.getLast? with
  | none =>
    rw [hl, if_pos rfl] at h
    cases h
    exact ⟨_, _, rfl, .inl ⟨(fun _ e => nomatch hl.symm.trans e), rfl, rfl, rfl⟩⟩
  | some last =>
    rw [hl] at h
    dsimp only at h
    by_cases hlt : P.lt last key = true
    · rw [if_pos hlt] at h
      cases h
      exact ⟨_, _, rfl, .inl ⟨fun _ e => Option.some.inj (hl.symm.trans e) ▸ hlt, rfl, rfl, rfl⟩⟩
    rw [if_neg hlt] at h
    have hna : ¬ Leaf.beyond P l key := fun c => hlt (c last hl)
    cases hk : l.keys[g]? with
    | none => rw [hk] at h; cases h
    | some k =>
      rw [hk] at h
      dsimp only at h
      by_cases he : eqv P.lt key k = true
      · rw [if_pos he] at h
        cases ho : l.vals[g]? with
        | none => rw [ho] at h; cases h
        | some old =>
          rw [ho] at h
          cases h
          exact ⟨_, _, rfl, .inr ⟨hna, k, rfl, .inl ⟨he, old, rfl, rfl, rfl, rfl⟩⟩⟩
      · rw [if_neg he] at h
        cases hp : P.pad (some key) with
        | none => rw [hp] at h; cases h
        | some pad =>
          rw [hp] at h
          dsimp only at h
          by_cases hv : l.vals.length < g
          · rw [if_pos hv] at h; cases h
          · rw [if_neg hv] at h
            cases h
            exact ⟨_, _, rfl, .inr ⟨hna, k, rfl, .inr ⟨Bool.eq_false_iff.2 he, Nat.le_of_not_lt hv,
              insertIdiom_eq _ _ _ _ (Nat.le_of_lt (List.getElem?_eq_some_iff.1 hk).1),
              insertIdiom_eq _ _ _ _ (Nat.le_of_not_lt hv), rfl⟩⟩⟩

theorem length_insert_at {α : Type} (l : List α) (g : Nat) (x : α) (hg : g ≤ l.length) :
    (l.take g ++ x :: l.drop g).length = l.length + 1 := by
  rw [List.length_append, List.length_cons, List.length_take, List.length_drop, Nat.min_eq_left hg,
    ← Nat.add_assoc, Nat.add_sub_cancel' hg]

theorem Leaf.upsert_lengths {P : Params K} {l l' : Leaf K V} {key : K} {f : Option V → V} {arg : Option V}
    (h : Leaf.upsert P l key f = .ok (l', arg)) :
    l'.id = l.id ∧ l'.next = l.next ∧ ∃ n, n ≤ 1 ∧ l'.keys.length = l.keys.length + n ∧ l'.vals.length = l.vals.length + n := by
  obtain ⟨ks, vs, rfl, ⟨-, rfl, rfl, -⟩ | ⟨-, k, hk, ⟨-, old, -, rfl, rfl, -⟩ | ⟨-, hv, rfl, rfl, -⟩⟩⟩ := Leaf.upsert_inv h
  · exact ⟨rfl, rfl, 1, Nat.le_refl _, List.length_append, List.length_append⟩
  · exact ⟨rfl, rfl, 0, Nat.zero_le _, rfl, List.length_set⟩
  · exact ⟨rfl, rfl, 1, Nat.le_refl _, length_insert_at _ _ _ (Nat.le_of_lt (List.getElem?_eq_some_iff.1 hk).1),
      length_insert_at _ _ _ hv⟩

theorem Leaf.upsert_total (P : Params K) (hpad : ∀ k, P.pad (some k) ≠ none) (l : Leaf K V) (key : K)
    (f : Option V → V) (hpar : l.keys.length = l.vals.length) : ∃ l' arg, Leaf.upsert P l key f = .ok (l', arg) := by
  unfold Leaf.upsert
  dsimp only
  cases hl : l.keys.getLast? with
  | none => exact ⟨_, _, if_pos rfl⟩
  | some last =>
    dsimp only
    by_cases hlt : P.lt last key = true
    · exact ⟨_, _, if_pos hlt⟩
    have hg := searchGE_lt_length (lt := P.lt) key l.keys (fun e => by rw [e] at hl; cases hl)
    obtain ⟨pad, hp⟩ := Option.ne_none_iff_exists'.1 (hpad key)
    rw [if_neg hlt, List.getElem?_eq_getElem hg, List.getElem?_eq_getElem (hpar ▸ hg), hp]
    dsimp only
    by_cases he : eqv P.lt key l.keys[searchGE P.lt key l.keys] = true
    · exact ⟨_, _, if_pos he⟩
    · rw [if_neg he, if_neg (Nat.not_lt.2 (hpar ▸ Nat.le_of_lt hg))]
      exact ⟨_, _, rfl⟩

theorem length_erase_at {α : Type} (l : List α) (g : Nat) (hg : g < l.length) :
    (l.take g ++ l.drop (g + 1)).length + 1 = l.length := by
  rw [List.length_append, List.length_take, List.length_drop, Nat.min_eq_left (Nat.le_of_lt hg), Nat.add_right_comm]
  exact Nat.add_sub_cancel' hg

theorem Leaf.deleteKey_inv {P : Params K} {l l' : Leaf K V} {m : Nat} {key : K} {small : Bool}
    (h : Leaf.deleteKey P l m key = .ok (l', small)) :
    (l' = l ∧ small = false ∧ ∀ k, l.keys[searchGE P.lt key l.keys]? = some k → eqv P.lt key k = false) ∨
    (∃ k, l.keys[searchGE P.lt key l.keys]? = some k ∧ eqv P.lt key k = true ∧
      searchGE P.lt key l.keys < l.vals.length ∧
      l' = { l with keys := l.keys.take (searchGE P.lt key l.keys) ++ l.keys.drop (searchGE P.lt key l.keys + 1),
                    vals := l.vals.take (searchGE P.lt key l.keys) ++ l.vals.drop (searchGE P.lt key l.keys + 1) } ∧
      small = decide (l'.keys.length < m)) := by
  unfold Leaf.deleteKey at h
  dsimp only at h
  generalize searchGE P.lt key l.keys = g at h ⊢
  cases hk : l.keys[g]? with
  | none =>
    rw [hk] at h
    cases h
    exact .inl ⟨rfl, rfl, nofun⟩
  | some k =>
    rw [hk] at h
    dsimp only at h
    cases he : eqv P.lt key k with
    | false =>
      rw [he, if_pos (show (!false) = true from rfl)] at h
      cases h
      exact .inl ⟨rfl, rfl, fun _ e => Option.some.inj e ▸ he⟩
    | true =>
      rw [he, if_neg (show ¬ (!true) = true from Bool.false_ne_true)] at h
      by_cases hv : l.vals.length ≤ g
      · rw [if_pos hv] at h; cases h
      · rw [if_neg hv, deleteIdiom_eq _ _ (List.getElem?_eq_some_iff.1 hk).1, deleteIdiom_eq _ _ (Nat.lt_of_not_le hv)] at h
        cases h
        exact .inr ⟨k, rfl, he, Nat.lt_of_not_le hv, rfl, rfl⟩

theorem Leaf.deleteKey_lengths {P : Params K} {l l' : Leaf K V} {m : Nat} {key : K} {small : Bool}
    (h : Leaf.deleteKey P l m key = .ok (l', small)) :
    l'.id = l.id ∧ l'.next = l.next ∧
      ((l' = l ∧ small = false) ∨
       (l'.keys.length + 1 = l.keys.length ∧ l'.vals.length + 1 = l.vals.length ∧ small = decide (l'.keys.length < m))) := by
  obtain ⟨rfl, rfl, -⟩ | ⟨k, hk, -, hv, rfl, rfl⟩ := Leaf.deleteKey_inv h
  · exact ⟨rfl, rfl, .inl ⟨rfl, rfl⟩⟩
  · exact ⟨rfl, rfl, .inr ⟨length_erase_at _ _ (List.getElem?_eq_some_iff.1 hk).1, length_erase_at _ _ hv, rfl⟩⟩

theorem Leaf.deleteKey_total (P : Params K) (l : Leaf K V) (m : Nat) (key : K) (hpar : l.keys.length = l.vals.length) :
    ∃ l' small, Leaf.deleteKey P l m key = .ok (l', small) := by
  unfold Leaf.deleteKey
  dsimp only
  cases hk : l.keys[searchGE P.lt key l.keys]? with
  | none => exact ⟨_, _, rfl⟩
  | some k =>
    dsimp only
    cases eqv P.lt key k with
    | false => exact ⟨_, _, rfl⟩
    | true => exact ⟨_, _, if_neg (Nat.not_le.2 (hpar ▸ (List.getElem?_eq_some_iff.1 hk).1))⟩

theorem Leaf.search_eq (P : Params K) (l : Leaf K V) (key : K) (hpar : l.keys.length = l.vals.length) :
    Leaf.search P l key = .ok (match l.keys[searchGE P.lt key l.keys]? with
      | some k => if eqv P.lt key k then l.vals[searchGE P.lt key l.keys]? else none
      | none => none) := by
  unfold Leaf.search
  by_cases h0 : l.keys.length = 0
  · rw [if_pos h0, List.getElem?_eq_none (h0 ▸ Nat.zero_le _)]; rfl
  · have hg := searchGE_lt_length (lt := P.lt) key l.keys (fun e => h0 (e ▸ rfl))
    rw [if_neg h0]
    dsimp only
    rw [List.getElem?_eq_getElem hg, List.getElem?_eq_getElem (hpar ▸ hg)]
    dsimp only
    cases eqv P.lt key l.keys[searchGE P.lt key l.keys] <;> rfl

theorem startIndex_cases (P : Params K) (key : K) (l : Leaf K V) :
    (startIndex P {} key l = searchGE P.lt key l.keys ∧
      ∀ k, l.keys[searchGE P.lt key l.keys]? = some k → P.lt k key = false) ∨
    (startIndex P {} key l = searchGE P.lt key l.keys + 1 ∧
      ∃ k, l.keys[searchGE P.lt key l.keys]? = some k ∧ P.lt k key = true) := by
  unfold startIndex
  rw [if_neg Bool.false_ne_true]
  cases hk : l.keys[searchGE P.lt key l.keys]? with
  | none => exact .inl ⟨rfl, nofun⟩
  | some k =>
    cases hc : P.lt k key with
    | true => exact .inr ⟨if_pos hc, k, rfl, hc⟩
    | false => exact .inl ⟨if_neg (hc ▸ Bool.false_ne_true), fun _ e => Option.some.inj e ▸ hc⟩

theorem startIndex_le (P : Params K) (key : K) (l : Leaf K V) : startIndex P {} key l ≤ l.keys.length := by
  obtain ⟨e, -⟩ | ⟨e, k, hk, -⟩ := startIndex_cases P key l
  · exact e ▸ searchGE_le_length key l.keys
  · exact e ▸ (List.getElem?_eq_some_iff.1 hk).1

end Gobptree
