/-
  What the code between two parks does, whatever the tree holds.

  Two facts are read off the blocks of Conc.lean together (`Block`), through the case rules of
  ConcCases.lean:
  * `Eff`: after the acquisition that starts it, the code only unlocks (as the stepping
    thread), notes, writes the tree and, where its index says so, the cursor.  Every
    bookkeeping relation between the state before and after a step (owner table, held list,
    event log, cursor) is a projection of it.
  * `Succ`: the park a continuation can end in is fixed by the continuation.  Facts about
    "which park comes next" (a `want` or a `yielded`, naming the lock its continuation takes,
    of the same operation, never `rootMutex` again) are case distinctions on this relation.
-/
import Gobptree.Proofs.ConcHeld

namespace Gobptree.Conc
open Gobptree

variable {K V : Type}

inductive Eff (cw : Bool) (t : Nat) (s : St K V) : St K V → Prop where
  | refl : Eff cw t s s
  | rel {s1 : St K V} (l : Lk) : Eff cw t s s1 → Eff cw t s (s1.rel t l)
  | note {s1 : St K V} (n : Note K V) : Eff cw t s s1 → Eff cw t s (s1.note t n)
  | setTree {s1 : St K V} (tr : Tree K V) : Eff cw t s s1 → Eff cw t s { s1 with tree := tr }
  | setCursor {s1 : St K V} (hc : cw = true) (cur : Option (Option Nat × Int)) (e : Bool) :
      Eff cw t s s1 → Eff cw t s { s1 with cursor := cur, exhausted := e }

theorem Eff.trans {cw : Bool} {t : Nat} {s s1 s2 : St K V} (h1 : Eff cw t s s1) (h2 : Eff cw t s1 s2) : Eff cw t s s2 := by
  induction h2 with
  | refl => exact h1
  | rel l _ ih => exact ih.rel l
  | note n _ ih => exact ih.note n
  | setTree tr _ ih => exact ih.setTree tr
  | setCursor hc cur e _ ih => exact ih.setCursor hc cur e

theorem Eff.weaken {cw : Bool} {t : Nat} {s s' : St K V} (h : Eff cw t s s') : Eff true t s s' := by
  induction h with
  | refl => exact .refl
  | rel l _ ih => exact ih.rel l
  | note n _ ih => exact ih.note n
  | setTree tr _ ih => exact ih.setTree tr
  | setCursor _ cur e _ ih => exact ih.setCursor rfl cur e

theorem Eff.cursor {t : Nat} {s s' : St K V} (h : Eff false t s s') :
    s'.cursor = s.cursor ∧ s'.exhausted = s.exhausted := by
  induction h with
  | refl => exact ⟨rfl, rfl⟩
  | rel _ _ ih => exact ih
  | note _ _ ih => exact ih
  | setTree _ _ ih => exact ih
  | setCursor hc => cases hc

theorem Eff.relOpt {cw : Bool} {t : Nat} {s s1 : St K V} (o : Option Nat) (h : Eff cw t s s1) :
    Eff cw t s (relOpt t s1 o) := by
  cases o with
  | none => exact h
  | some r => exact h.rel _

theorem Eff.frameUnlock {cw : Bool} {t : Nat} {s s1 : St K V} (fr : Frame) (right : Option Nat) (h : Eff cw t s s1) :
    Eff cw t s (frameUnlock t s1 fr right) :=
  ((h.relOpt right).rel _).relOpt fr.left

def Flow.parksIn (A : Park K V → Prop) : Flow K V → Prop
  | .park p => A p
  | _ => True

theorem Flow.parksIn.park {A : Park K V → Prop} {fl : Flow K V} {p : Park K V} (h : fl.parksIn A)
    (hp : fl = .park p) : A p := by
  subst hp; exact h

def Block (cw : Bool) (t : Nat) (A : Park K V → Prop) (s : St K V) (r : St K V × Flow K V) : Prop :=
  Eff cw t s r.1 ∧ r.2.parksIn A

theorem Block.of {cw : Bool} {t : Nat} {A : Park K V → Prop} {s s1 : St K V} {r : St K V × Flow K V}
    (h : Eff cw t s s1) (hb : Block cw t A s1 r) : Block cw t A s r :=
  ⟨h.trans hb.1, hb.2⟩

/-! ### the blocks: each lists, as hypotheses on `A`, the parks it can end in -/

theorem roArrive_block (P : Params K) (t : Nat) (s : St K V) (sc : Bool) (key : K) (hold : Lk) (n : Nat)
    {A : Park K V → Prop} (hA : ∀ c, A (.want (.node c) (.roNode sc key (.node n) c))) :
    Block sc t A s (roArrive P t s sc key hold n) :=
  roArrive_cases P t s sc key hold n (Q := Block sc t A s) ⟨.rel _ .refl, trivial⟩
    (fun h _ => ⟨.setCursor h _ _ (.rel _ .refl), trivial⟩) (fun _ => ⟨.rel _ (.rel _ .refl), trivial⟩)
    (fun c => ⟨.rel _ .refl, hA c⟩)

theorem upLeaf_block (P : Params K) (t : Nat) (s : St K V) (key : K) (f : Option V → V) (y : Option Bool) (n : Nat)
    (l : Leaf K V) {cw : Bool} {A : Park K V → Prop} (hcb : ∀ arg, A (.yielded (.upCallback key f n arg))) :
    Block cw t A s (upLeaf P t s key f y n l) :=
  upLeaf_cases P t s key f y n l (Q := Block cw t A s) ⟨.refl, trivial⟩ (fun _ arg => ⟨.note _ .refl, hcb arg⟩)
    (fun _ _ _ => ⟨.rel _ (.setTree _ (.note _ .refl)), trivial⟩) (fun _ _ => ⟨.rel _ (.setTree _ .refl), trivial⟩)

theorem upContinue_block (P : Params K) (t : Nat) (s : St K V) (key : K) (f : Option V → V) (y : Option Bool) (n : Nat)
    {cw : Bool} {A : Park K V → Prop} (hc : ∀ i c, A (.want (.node c) (.upChild key f y n i c)))
    (hcb : ∀ arg, A (.yielded (.upCallback key f n arg))) :
    Block cw t A s (upContinue P t s key f y n) :=
  upContinue_cases P t s key f y n (Q := Block cw t A s) ⟨.refl, trivial⟩
    (fun l => upLeaf_block P t s key f y n l hcb) (fun i c => ⟨.refl, hc i c⟩)

theorem upChildArrive_block (P : Params K) (t : Nat) (s : St K V) (key : K) (f : Option V → V) (y : Option Bool)
    (parent index child : Nat) {cw : Bool} {A : Park K V → Prop}
    (hs : ∀ x, A (.want (.node x) (.upSib key f y parent child x)))
    (hc : ∀ i c, A (.want (.node c) (.upChild key f y child i c)))
    (hcb : ∀ arg, A (.yielded (.upCallback key f child arg))) :
    Block cw t A s (upChildArrive P t s key f y parent index child) :=
  upChildArrive_cases P t s key f y parent index child (Q := Block cw t A s) ⟨.refl, trivial⟩
    (fun _ _ _ _ _ => .of (.rel _ (.setTree _ .refl)) (upContinue_block P t _ key f y child hc hcb))
    (fun _ _ _ x _ _ => ⟨.setTree _ .refl, hs x⟩)

theorem upRootArrive_block (P : Params K) (t : Nat) (s : St K V) (key : K) (f : Option V → V) (y : Option Bool)
    (root : Nat) {cw : Bool} {A : Park K V → Prop}
    (hs : ∀ x, A (.want (.node x) (.upRootSib key f y root x)))
    (hc : ∀ i c, A (.want (.node c) (.upChild key f y root i c)))
    (hcb : ∀ arg, A (.yielded (.upCallback key f root arg))) :
    Block cw t A s (upRootArrive P t s key f y root) :=
  upRootArrive_cases P t s key f y root (Q := Block cw t A s) ⟨.refl, trivial⟩
    (fun _ _ => .of (.rel _ (.setTree _ .refl)) (upContinue_block P t _ key f y root hc hcb))
    (fun _ _ _ _ x => ⟨.setTree _ .refl, hs x⟩)

theorem delFinish_block (t : Nat) (s : St K V) (small : Bool) (root : Nat) {cw : Bool} {A : Park K V → Prop} :
    Block cw t A s (delFinish t s small root) :=
  delFinish_cases t s small root (Q := Block cw t A s) fun _ _ => ⟨.rel _ (.rel _ (.setTree _ .refl)), trivial⟩

theorem delUnwind_block (P : Params K) (t : Nat) (key : K) (root : Nat) {cw : Bool} {A : Park K V → Prop}
    (hr : ∀ rest fr r, A (.want (.node r) (.delRight key rest fr r root))) :
    ∀ (frames : List Frame) (s : St K V) (small : Bool), Block cw t A s (delUnwind P t s key frames small root) := by
  intro frames
  induction frames with
  | nil => intro s small; rw [delUnwind_nil]; exact delFinish_block t s small root
  | cons fr rest ih =>
    intro s small
    exact delUnwind_cons_cases P t s key fr rest small root (Q := Block cw t A s) ⟨.refl, trivial⟩
      (fun _ small' _ => .of (.frameUnlock fr none (.setTree _ .refl)) (ih _ small')) (fun r => ⟨.refl, hr rest fr r⟩)

theorem delRightArrive_block (P : Params K) (t : Nat) (s : St K V) (key : K) (rest : List Frame) (fr : Frame)
    (right root : Nat) {cw : Bool} {A : Park K V → Prop}
    (hr : ∀ rest fr r, A (.want (.node r) (.delRight key rest fr r root))) :
    Block cw t A s (delRightArrive P t s key rest fr right root) :=
  delRightArrive_cases P t s key rest fr right root (Q := Block cw t A s) ⟨.refl, trivial⟩
    (fun _ small' _ => .of (.frameUnlock fr (some right) (.setTree _ .refl)) (delUnwind_block P t key root hr rest _ small'))

theorem delGo_block (P : Params K) (t : Nat) (s : St K V) (key : K) (frames : List Frame) (n root : Nat)
    {cw : Bool} {A : Park K V → Prop}
    (hl : ∀ i l, A (.want (.node l) (.delLeft key frames n i l root)))
    (hc : ∀ i c, A (.want (.node c) (.delChild key frames n i none c root)))
    (hr : ∀ rest fr r, A (.want (.node r) (.delRight key rest fr r root))) :
    Block cw t A s (delGo P t s key frames n root) :=
  delGo_cases P t s key frames n root (Q := Block cw t A s) ⟨.refl, trivial⟩
    (fun _ small => .of (.setTree _ .refl) (delUnwind_block P t key root hr frames _ small))
    (fun i l => ⟨.refl, hl i l⟩) (fun i c => ⟨.refl, hc i c⟩)

inductive Succ : Kont K V → Park K V → Prop where
  | roTree (sc : Bool) (key : K) (r : Nat) : Succ (.roTree sc key) (.want (.node r) (.roNode sc key .tree r))
  | roNode (sc : Bool) (key : K) (hold : Lk) (n c : Nat) :
      Succ (.roNode sc key hold n) (.want (.node c) (.roNode sc key (.node n) c))
  | upTree (key : K) (f : Option V → V) (y : Option Bool) (r : Nat) :
      Succ (.upTree key f y) (.want (.node r) (.upRoot key f y r))
  | upRoot_sib (key : K) (f : Option V → V) (y : Option Bool) (r x : Nat) :
      Succ (.upRoot key f y r) (.want (.node x) (.upRootSib key f y r x))
  | upRoot_child (key : K) (f : Option V → V) (y : Option Bool) (r i c : Nat) :
      Succ (.upRoot key f y r) (.want (.node c) (.upChild key f y r i c))
  | upRoot_cb (key : K) (f : Option V → V) (y : Option Bool) (r : Nat) (arg : Option V) :
      Succ (.upRoot key f y r) (.yielded (.upCallback key f r arg))
  | upRootSib_child (key : K) (f : Option V → V) (y : Option Bool) (root sib i c : Nat) :
      Succ (.upRootSib key f y root sib) (.want (.node c) (.upChild key f y sib i c))
  | upRootSib_cb (key : K) (f : Option V → V) (y : Option Bool) (root sib : Nat) (arg : Option V) :
      Succ (.upRootSib key f y root sib) (.yielded (.upCallback key f sib arg))
  | upChild_sib (key : K) (f : Option V → V) (y : Option Bool) (parent index child x : Nat) :
      Succ (.upChild key f y parent index child) (.want (.node x) (.upSib key f y parent child x))
  | upChild_child (key : K) (f : Option V → V) (y : Option Bool) (parent index child i c : Nat) :
      Succ (.upChild key f y parent index child) (.want (.node c) (.upChild key f y child i c))
  | upChild_cb (key : K) (f : Option V → V) (y : Option Bool) (parent index child : Nat) (arg : Option V) :
      Succ (.upChild key f y parent index child) (.yielded (.upCallback key f child arg))
  | upSib_child (key : K) (f : Option V → V) (y : Option Bool) (parent child sib i c : Nat) :
      Succ (.upSib key f y parent child sib) (.want (.node c) (.upChild key f y sib i c))
  | upSib_cb (key : K) (f : Option V → V) (y : Option Bool) (parent child sib : Nat) (arg : Option V) :
      Succ (.upSib key f y parent child sib) (.yielded (.upCallback key f sib arg))
  | delTree (key : K) (r : Nat) : Succ (.delTree key) (.want (.node r) (.delRoot key r))
  | delRoot_left (key : K) (r i l : Nat) :
      Succ (.delRoot key r) (.want (.node l) (.delLeft key [] r i l r))
  | delRoot_child (key : K) (r i c : Nat) :
      Succ (.delRoot key r) (.want (.node c) (.delChild key [] r i none c r))
  | delRoot_right (key : K) (r : Nat) (rest : List Frame) (fr : Frame) (x : Nat) :
      Succ (.delRoot key r) (.want (.node x) (.delRight key rest fr x r))
  | delLeft (key : K) (frames : List Frame) (node index left root c : Nat) :
      Succ (.delLeft key frames node index left root)
        (.want (.node c) (.delChild key frames node index (some left) c root))
  | delChild_left (key : K) (frames : List Frame) (node index : Nat) (left : Option Nat) (child root i l : Nat) :
      Succ (.delChild key frames node index left child root)
        (.want (.node l) (.delLeft key (⟨node, index, left, child⟩ :: frames) child i l root))
  | delChild_child (key : K) (frames : List Frame) (node index : Nat) (left : Option Nat) (child root i c : Nat) :
      Succ (.delChild key frames node index left child root)
        (.want (.node c) (.delChild key (⟨node, index, left, child⟩ :: frames) child i none c root))
  | delChild_right (key : K) (frames : List Frame) (node index : Nat) (left : Option Nat) (child root : Nat)
      (rest : List Frame) (fr : Frame) (x : Nat) :
      Succ (.delChild key frames node index left child root) (.want (.node x) (.delRight key rest fr x root))
  | delRight (key : K) (rest : List Frame) (fr : Frame) (right root : Nat) (rest' : List Frame) (fr' : Frame) (x : Nat) :
      Succ (.delRight key rest fr right root) (.want (.node x) (.delRight key rest' fr' x root))

/-- the state in which the code of continuation `k` starts: its `Lock()` call, if it was
    parked at one, has returned -/
def St.enter (s : St K V) (t : Nat) (k : Kont K V) : St K V :=
  match kontLock k with
  | some l => s.acq t l
  | none => s

def setsCursor : Kont K V → Bool
  | .roNode sc _ _ _ => sc
  | .hop _ _ => true
  | _ => false

theorem resume_block (P : Params K) (t : Nat) (s : St K V) (k : Kont K V) :
    Block (setsCursor k) t (Succ k) (s.enter t k) (resume P t s k) := by
  cases k with
  | roTree sc key => exact ⟨.refl, .roTree sc key _⟩
  | roNode sc key hold want => exact roArrive_block P t _ sc key hold want (.roNode sc key hold want)
  | upTree key f y => exact ⟨.refl, .upTree key f y _⟩
  | upRoot key f y r =>
    exact upRootArrive_block P t _ key f y r (.upRoot_sib key f y r) (.upRoot_child key f y r) (.upRoot_cb key f y r)
  | upRootSib key f y root sib =>
    exact .of (.rel _ (.rel _ .refl))
      (upContinue_block P t _ key f y sib (.upRootSib_child key f y root sib) (.upRootSib_cb key f y root sib))
  | upChild key f y parent index child =>
    exact upChildArrive_block P t _ key f y parent index child (.upChild_sib key f y parent index child)
      (.upChild_child key f y parent index child) (.upChild_cb key f y parent index child)
  | upSib key f y parent child sib =>
    exact .of (.rel _ (.rel _ .refl))
      (upContinue_block P t _ key f y sib (.upSib_child key f y parent child sib) (.upSib_cb key f y parent child sib))
  | upCallback key f leaf arg =>
    exact resume_upCallback_cases P t s key f leaf arg (Q := Block false t (Succ (.upCallback key f leaf arg)) s)
      ⟨.refl, trivial⟩ (fun _ => ⟨.rel _ (.setTree _ .refl), trivial⟩)
  | delTree key => exact ⟨.refl, .delTree key _⟩
  | delRoot key r =>
    exact delGo_block P t _ key [] r r (.delRoot_left key r) (.delRoot_child key r) (.delRoot_right key r)
  | delLeft key frames node index left root =>
    exact resume_delLeft_cases P t s key frames node index left root
      (Q := Block false t (Succ (.delLeft key frames node index left root)) (s.acq t (.node left)))
      ⟨.refl, trivial⟩ (fun c => ⟨.refl, .delLeft key frames node index left root c⟩)
  | delChild key frames node index left child root =>
    exact delGo_block P t _ key _ child root (.delChild_left key frames node index left child root)
      (.delChild_child key frames node index left child root) (.delChild_right key frames node index left child root)
  | delRight key rest fr right root =>
    exact delRightArrive_block P t _ key rest fr right root (.delRight key rest fr right root)
  | hop cur next => exact ⟨.setCursor rfl _ _ (.rel _ .refl), trivial⟩
  | paused => exact ⟨.refl, trivial⟩

theorem resume_succ {P : Params K} {t : Nat} {s : St K V} {k : Kont K V} {p : Park K V}
    (h : (resume P t s k).2 = .park p) : Succ k p :=
  (resume_block P t s k).2.park h

inductive Start : COp K V → Park K V → Prop where
  | point {op : COp K V} {k : Kont K V} : firstKont op = some k → Start op (.want .tree k)
  | pause : Start .pause (.yielded .paused)
  | hop (leaf n : Nat) : Start .scan (.want (.node n) (.hop leaf n))

theorem CursorOut.block {t : Nat} {s : St K V} {op : COp K V} {r : St K V × Flow K V} (h : CursorOut t s op r) :
    Block true t (Start op) s r := by
  cases h with
  | scanEnd => exact ⟨.setCursor rfl _ _ (.rel _ .refl), trivial⟩
  | scanHop => exact ⟨.setCursor rfl _ _ .refl, .hop _ _⟩
  | scanNext => exact ⟨.setCursor rfl _ _ .refl, trivial⟩
  | close =>
    rename_i leaf? _ _
    cases leaf? with
    | none => exact ⟨.setCursor rfl _ _ .refl, trivial⟩
    | some leaf => exact ⟨.setCursor rfl _ _ (.rel _ .refl), trivial⟩
  | _ => exact ⟨.refl, trivial⟩

theorem startOp_block (t : Nat) (s : St K V) (op : COp K V) : Block true t (Start op) s (startOp t s op) :=
  startOp_cases t s op (Q := Block true t (Start op) s) (fun _ _ _ => ⟨.refl, trivial⟩)
    (fun _ hk _ => ⟨.refl, .point hk⟩)
    (fun _ _ h => h.block) (fun e => ⟨.refl, e ▸ .pause⟩)

theorem startOp_start {t : Nat} {s : St K V} {op : COp K V} {p : Park K V}
    (h : (startOp t s op).2 = .park p) : Start op p :=
  (startOp_block t s op).2.park h

def St.grant (s : St K V) (t : Nat) : Park K V → St K V
  | .want l _ => s.acq t l
  | _ => s

theorem St.grant_kont (s : St K V) (t : Nat) {p : Park K V} {k : Kont K V} (hk : p.kont? = some k)
    (hpl : ParkLockOk p) : s.grant t p = s.enter t k := by
  cases p <;> cases hk <;> simp only [St.grant, St.enter, show kontLock k = _ from hpl]

theorem runThread_eff (P : Params K) (t : Nat) (th : Thread K V) (s0 : St K V) (hpl : ParkLockOk th.park)
    (h0 : s0.held = th.held) :
    Eff true t (s0.grant t th.park) (runThread P t th s0).2.1 ∧
      (runThread P t th s0).1.held = (runThread P t th s0).2.1.held :=
  runThread_induct P t th s0 (fun s _ _ => Eff true t (s0.grant t th.park) s)
    (fun r => Eff true t (s0.grant t th.park) r.2.1 ∧ r.1.held = r.2.1.held)
    (fun _ _ _ h => ⟨h, rfl⟩) (fun _ _ h => ⟨h.note _, rfl⟩) (fun _ _ _ h _ => ⟨h.note _, rfl⟩)
    (fun _ _ _ op h _ => ((h.note _).note _).trans (startOp_block t _ op).1)
    (fun hp => by rw [hp]; exact ⟨.refl, h0.symm⟩) (fun hp _ => by rw [hp]; exact ⟨.refl, h0.symm⟩)
    (fun op hp _ => by rw [hp]; exact (Eff.refl.note _).trans (startOp_block t _ op).1)
    (fun k hk => by rw [s0.grant_kont t hk hpl]; exact (resume_block P t s0 k).1.weaken)

end Gobptree.Conc
