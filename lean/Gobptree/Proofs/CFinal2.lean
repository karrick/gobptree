/-
  The per-block results put in: a primed name is the unprimed theorem with its per-block hypothesis
  discharged.  For program families without Delete (`ResumeKU` alone): the key-order invariant holds in
  every reachable configuration, and every history is linearizable.  For arbitrary program families
  (Delete included; the four results of `KBlocks`): the full invariant `KFInv` holds in every reachable
  configuration, and every history is linearizable.
-/
import Gobptree.Proofs.CKUp
import Gobptree.Proofs.CIUp
import Gobptree.Proofs.CIDel
import Gobptree.Proofs.CLinDel
import Gobptree.Proofs.CCbOnce

namespace Gobptree.Conc
open Gobptree

variable {K V : Type}

theorem reachable_kinv (lt : K → K → Bool) (P : Params K) (tree : Tree K V) (progs : List (List (COp K V)))
    (hkp : KParams lt P) (ht : TreeOk none tree) (hord : OrdTree lt tree) (ho : tree.order = P.order)
    (hp : PadOk P) (hd : Disciplined progs) (hnd : NoDelete progs)
    (c : Config K V) (hr : Reachable (Config.init P tree progs) c) : KInv lt c :=
  (reachable_kcinv resume_kpost_U lt P tree progs hkp ht hord ho hp hd hnd c hr).kinv

/-- cursor sessions may run alongside -/
theorem linearizable_nodelete' (lt : K → K → Bool) (P : Params K) (tree : Tree K V)
    (progs : List (List (COp K V)))
    (hkp : KParams lt P) (ht : TreeOk none tree) (hord : OrdTree lt tree) (ho : tree.order = P.order)
    (hp : PadOk P) (hd : Disciplined progs) (hnd : NoDelete progs)
    (c : Config K V) (hr : Reachable (Config.init P tree progs) c) :
    Lin.Linearizable lt tree.abs (history c) :=
  linearizable_nodelete resume_kpost_U lt P tree progs hkp ht hord ho hp hd hnd c hr

theorem kblocks_ok : KBlocks K V :=
  ⟨resume_kpost_U, resume_kpost_D, resume_isep_U, resume_isep_D⟩

theorem reachable_kfinv' (lt : K → K → Bool) (P : Params K) (tree : Tree K V) (progs : List (List (COp K V)))
    (hkp : KParams lt P) (ht : TreeOk none tree) (hord : OrdTree lt tree) (hsep : SepTree lt tree)
    (ho : tree.order = P.order) (hp : PadOk P) (hd : Disciplined progs)
    (hdel : 4 ≤ tree.order ∨ NoDelete progs)
    (c : Config K V) (hr : Reachable (Config.init P tree progs) c) : KFInv lt c :=
  reachable_kfinv kblocks_ok lt P tree progs hkp ht hord hsep ho hp hd hdel c hr

theorem linearizable_full' (lt : K → K → Bool) (P : Params K) (tree : Tree K V) (progs : List (List (COp K V)))
    (hkp : KParams lt P) (ht : TreeOk none tree) (hord : OrdTree lt tree) (hsep : SepTree lt tree)
    (ho : tree.order = P.order) (hp : PadOk P) (hd : Disciplined progs)
    (hdel : 4 ≤ tree.order ∨ NoDelete progs)
    (c : Config K V) (hr : Reachable (Config.init P tree progs) c) :
    Lin.Linearizable lt tree.abs (history c) :=
  linearizable_full kblocks_ok lt P tree progs hkp ht hord hsep ho hp hd hdel c hr

end Gobptree.Conc

#print axioms Gobptree.Conc.reachable_kinv
#print axioms Gobptree.Conc.linearizable_nodelete'
#print axioms Gobptree.Conc.reachable_kfinv'
#print axioms Gobptree.Conc.linearizable_full'
#print axioms Gobptree.Conc.callback_exactly_once
