/-
  Read frame: list surgery on related children lists.
-/
import Gobptree.Proofs.CReadFrameWrite

namespace Gobptree.Conc
open Gobptree

variable {K V : Type}

section
variable {S : Nat → Prop} {d : Nat}

theorem KRel.nil : KRel S ([] : List (Node K V d)) [] := ⟨rfl, fun j c1 c2 h => by simp at h⟩

theorem KRel.single' {c1 c2 : Node K V d} (hid : Node.id c1 = Node.id c2)
    (hsh : S (Node.id c1) → shallow c1 = shallow c2) : KRel S [c1] [c2] := by
  refine ⟨rfl, ?_⟩
  intro j a1 a2 h1 h2
  cases j with
  | zero =>
    simp only [List.getElem?_cons_zero, Option.some.injEq] at h1 h2
    subst h1 h2
    exact ⟨hid, hsh⟩
  | succ j => simp at h1

theorem KRel.single {c1 c2 : Node K V d} (h : NRel c1 c2) : KRel S [c1] [c2] := KRel.single' h.1 (fun _ => h.2)

theorem KRel.append {a1 a2 b1 b2 : List (Node K V d)} (ha : KRel S a1 a2) (hb : KRel S b1 b2) :
    KRel S (a1 ++ b1) (a2 ++ b2) := by
  refine ⟨by rw [List.length_append, List.length_append, ha.1, hb.1], ?_⟩
  intro j c1 c2 h1 h2
  by_cases hj : j < a1.length
  · rw [List.getElem?_append_left hj] at h1
    rw [List.getElem?_append_left (by rw [← ha.1]; exact hj)] at h2
    exact ha.2 j c1 c2 h1 h2
  · have hj' := Nat.le_of_not_lt hj
    rw [List.getElem?_append_right hj'] at h1
    rw [List.getElem?_append_right (ha.1 ▸ hj'), ← ha.1] at h2
    exact hb.2 _ c1 c2 h1 h2

theorem KRel.split {a1 a2 b1 b2 : List (Node K V d)} (h : KRel S (a1 ++ b1) (a2 ++ b2))
    (hl : a1.length = a2.length) : KRel S a1 a2 ∧ KRel S b1 b2 := by
  have hlen := h.1
  rw [List.length_append, List.length_append] at hlen
  refine ⟨⟨hl, ?_⟩, ⟨by omega, ?_⟩⟩
  · intro j c1 c2 h1 h2
    have hj : j < a1.length := (List.getElem?_eq_some_iff.1 h1).1
    apply h.2 j c1 c2
    · rw [List.getElem?_append_left hj]; exact h1
    · rw [List.getElem?_append_left (by rw [← hl]; exact hj)]; exact h2
  · intro j c1 c2 h1 h2
    apply h.2 (a1.length + j) c1 c2
    · rw [List.getElem?_append_right (Nat.le_add_right _ _), Nat.add_sub_cancel_left]; exact h1
    · rw [List.getElem?_append_right (hl ▸ Nat.le_add_right _ _), ← hl, Nat.add_sub_cancel_left]; exact h2

theorem KRel.cons {c1 c2 : Node K V d} {k1 k2 : List (Node K V d)} (hid : Node.id c1 = Node.id c2)
    (hsh : S (Node.id c1) → shallow c1 = shallow c2) (hk : KRel S k1 k2) : KRel S (c1 :: k1) (c2 :: k2) :=
  (KRel.single' hid hsh).append hk

theorem KRel.cons_inv {c1 c2 : Node K V d} {k1 k2 : List (Node K V d)} (h : KRel S (c1 :: k1) (c2 :: k2)) :
    (Node.id c1 = Node.id c2 ∧ (S (Node.id c1) → shallow c1 = shallow c2)) ∧ KRel S k1 k2 :=
  ⟨h.2 0 c1 c2 rfl rfl, (KRel.split (a1 := [c1]) (a2 := [c2]) h rfl).2⟩

theorem KRel.getElem? {k1 k2 : List (Node K V d)} (h : KRel S k1 k2) (j : Nat) :
    (k1[j]? = none ∧ k2[j]? = none) ∨
    ∃ c1 c2, k1[j]? = some c1 ∧ k2[j]? = some c2 ∧ Node.id c1 = Node.id c2 ∧ (S (Node.id c1) → shallow c1 = shallow c2) := by
  by_cases hj : j < k1.length
  · right
    have hj2 : j < k2.length := by rw [← h.1]; exact hj
    refine ⟨k1[j], k2[j], List.getElem?_eq_getElem hj, List.getElem?_eq_getElem hj2, ?_⟩
    exact h.2 j _ _ (List.getElem?_eq_getElem hj) (List.getElem?_eq_getElem hj2)
  · left
    exact ⟨List.getElem?_eq_none (by omega), List.getElem?_eq_none (by rw [← h.1]; omega)⟩

end

theorem TRel.bump {S : Nat → Prop} {R : Prop} {T1 T2 : Tree K V} (h : TRel S R T1 T2) (k : Nat) :
    TRel S R { T1 with nextId := T1.nextId + k } { T2 with nextId := T2.nextId + k } :=
  ⟨h.order, by show T1.nextId + k = T2.nextId + k; rw [h.nextId], h.look, h.root⟩

theorem smallest_eq_shallow : ∀ {d : Nat} (n : Node K V d),
    Node.smallest n = match (shallow n).keys with
      | [] => throw .noChildren
      | k :: _ => pure k
  | 0, _ => rfl
  | _ + 1, _ => rfl

theorem smallest_of_shallow {d : Nat} {n1 n2 : Node K V d} (h : shallow n1 = shallow n2) :
    Node.smallest n1 = Node.smallest n2 := by
  rw [smallest_eq_shallow, smallest_eq_shallow, h]

end Gobptree.Conc
