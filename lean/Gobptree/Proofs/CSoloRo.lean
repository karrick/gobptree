/-
  `Search` of a lone thread computes `Tree.search`.
-/
import Gobptree.Proofs.CSoloRun
import Gobptree.Proofs.Ids
import Gobptree.Proofs.CSoloCtx

namespace Gobptree.Conc
open Gobptree

variable {K V : Type}

/-- the statement proved by induction on the height: the thread has just locked `x`; `hold` is
    the lock it came through and releases first -/
def RoSim (P : Params K) (key : K) (d : Nat) : Prop :=
  ∀ {D : Nat} (c : Ctx K V D d) (x : Node K V d) (o nid : Nat) (v : Option V) (hold : Lk) (s : St K V),
    s.tree = treeOf o c x nid → IdInv c x nid →
    searchNode P key d x = .ok v →
    Solo P s (roArrive P 0 s false key hold (Node.id x)) (treeOf o c x nid) (.found v) []

theorem searchNode_succ_inv (P : Params K) (key : K) {d : Nat} (p : Inner K (Node K V d)) (v : Option V)
    (h : searchNode P key (d + 1) p = .ok v) :
    ∃ child, p.kids[searchLE P.lt key p.runts]? = some child ∧ searchNode P key d child = .ok v := by
  simp only [searchNode] at h
  split at h
  · cases h
  · rename_i child hk
    exact ⟨child, hk, h⟩

theorem ro_leaf (P : Params K) (key : K) : RoSim (V := V) P key 0 := by
  intro D c l o nid v hold s htree hinv hs
  have hfind : s.tree.find (Node.id (d := 0) l) = some ⟨0, l⟩ := find_treeOf htree hinv.not_mem
  rw [roArrive_leaf hfind hs]
  exact Solo.done htree (((Ext.refl s).rel _).rel _)

theorem ro_inner (P : Params K) (key : K) (d : Nat) (ih : RoSim (V := V) P key d) : RoSim (V := V) P key (d + 1) := by
  intro D c p o nid v hold s htree hinv hs
  obtain ⟨child, hk, hs'⟩ := searchNode_succ_inv P key p v hs
  obtain ⟨A, B, hkids, -⟩ := getElem?_split _ _ _ hk
  have hfind : s.tree.find p.id = some ⟨d + 1, p⟩ := find_treeOf htree hinv.not_mem
  show Solo P s (roArrive P 0 s false key hold p.id) _ _ _
  rw [roArrive_inner hfind hk]
  obtain ⟨pid, prunts, pkids⟩ := p
  simp only at hkids
  subst hkids
  have hinv2 : IdInv (Ctx.kid c pid prunts A B) child nid := IdInv.kid_iff.2 hinv
  have hne : Node.id child ≠ pid := fun e => hinv2.not_mem (by rw [Ctx.ids_kid, e]; simp)
  refine Solo.park (fun _ => id) (fun h => hne (Lk.node.inj (List.mem_singleton.1 h))) ?_
  refine (ih (Ctx.kid c pid prunts A B) child o nid v (.node pid) _ ?_ hinv2 hs').rebase (((Ext.refl s).rel _).tick.acq _)
  exact htree

theorem ro_all (P : Params K) (key : K) : ∀ d, RoSim (V := V) P key d
  | 0 => ro_leaf P key
  | d + 1 => ro_inner P key d (ro_all P key d)

theorem ro_tree (P : Params K) (key : K) (v : Option V) (s : St K V)
    (hinv : IdInv Ctx.top s.tree.root s.tree.nextId) (hs : s.tree.search P key = .ok v) :
    Solo P s (s, .park (.want .tree (.roTree false key))) s.tree (.found v) [] := by
  refine Solo.enter (fun _ => id) (fun _ => id) rfl rfl rfl ?_
  have h := ro_all P key _ Ctx.top s.tree.root s.tree.order s.tree.nextId v .tree s.entered (treeOf_eta s.tree).symm hinv hs
  rw [treeOf_eta] at h
  exact h

end Gobptree.Conc
