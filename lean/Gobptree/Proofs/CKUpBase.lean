/-
  What the Insert/Update blocks share: the effect record `UpEff` of the final stretch of a
  block, positions kept by widening (`stable_of_widen`), and bookkeeping about the event log.
-/
import Gobptree.Proofs.CKBlock
import Gobptree.Proofs.CKDelBounds

namespace Gobptree.Conc
open Gobptree

variable {K V : Type} {lt : K → K → Bool}

/-- `routeB` is the entry of `n` followed by `rtail`; only its two equations below mention it -/
def rtail (lt : K → K → Bool) (key : K) : (d : Nat) → Option K → Node K V d → List (Nat × Option K × Option K)
  | 0, _, _ => []
  | _ + 1, hi, (i : Inner K _) => routeKid lt key hi i

theorem rtail_zero (key : K) (hi : Option K) (l : Leaf K V) : rtail (V := V) lt key 0 hi l = [] := rfl

theorem rtail_succ (key : K) {d : Nat} (hi : Option K) (i : Inner K (Node K V d)) :
    rtail lt key (d + 1) hi i = routeKid lt key hi i := rfl

theorem find_leaf_look {t : Tree K V} {n : Nat} {l : Leaf K V} (hf : t.find n = some ⟨0, l⟩) :
    l.id = n ∧ t.look n = some (shallow (d := 0) l) :=
  ⟨findNode_id hf, look_of_find hf⟩

def CbIn (t : Nat) (arg : Option V) (evs : List (Ev K V)) : Prop := Ev.note t (Note.cb arg) ∈ evs

theorem cbIn_acq (t t' : Nat) (arg : Option V) (l : Lk) (evs : List (Ev K V)) :
    CbIn t arg (Ev.acq t' l :: evs) ↔ CbIn t arg evs := by
  unfold CbIn
  simp

theorem cbIn_rel (t t' : Nat) (arg : Option V) (l : Lk) (evs : List (Ev K V)) :
    CbIn t arg (Ev.rel t' l :: evs) ↔ CbIn t arg evs := by
  unfold CbIn
  simp

theorem cbIn_note_cb (t : Nat) (arg arg' : Option V) (evs : List (Ev K V)) :
    CbIn t arg (Ev.note t (Note.cb arg') :: evs) ↔ arg = arg' ∨ CbIn t arg evs := by
  unfold CbIn
  simp

/-- what the rest of an Insert/Update block (from the state `s1` reached after the structural
    rewrite of the block) does -/
structure UpEff (lt : K → K → Bool) (t : Nat) (key : K) (f : Option V → V) (s1 s' : St K V) (fl : Flow K V) :
    Prop where
  ord    : OrdTree lt s'.tree
  done   : ∀ r, fl = .done r → s'.tree.abs = Spec.update lt s1.tree.abs key f
  park   : ∀ p, fl = .park p → s'.tree.abs = s1.tree.abs
  cb     : ∀ arg, CbIn t arg s'.evs → CbIn t arg s1.evs ∨ arg = Spec.lookup lt s1.tree.abs key
  kpos   : ∀ p, fl = .park p → parkKPos lt s'.tree p
  routes : ∀ key', s'.tree.routeB lt key' = s1.tree.routeB lt key'

def UpAbs (lt : K → K → Bool) (t : Nat) (key : K) (f : Option V → V) (s s' : St K V) (fl : Flow K V) : Prop :=
  (∀ r, fl = .done r → s'.tree.abs = Spec.update lt s.tree.abs key f) ∧
  (∀ p, fl = .park p → s'.tree.abs = s.tree.abs) ∧
  (∀ arg, Ev.note t (.cb arg) ∈ s'.evs → Ev.note t (.cb arg) ∈ s.evs ∨ arg = Spec.lookup lt s.tree.abs key)

theorem StableRoutes.of_routes {H : List Lk} {t t' : Tree K V}
    (h : ∀ key, t'.routeB lt key = t.routeB lt key) : StableRoutes lt H t t' := by
  intro key id _ _
  unfold OnRoute InBounds
  rw [h key]
  exact ⟨fun h => h, fun h => h⟩

theorem StableRoutes.refl (H : List Lk) (t : Tree K V) : StableRoutes lt H t t :=
  StableRoutes.of_routes (fun _ => rfl)

/-- `StableRoutes` without the side condition `id < t.nextId`: what the Insert/Update blocks
    prove (from widening, `stable_of_widen`) and hand to `KRes.continue`; `StableRoutes`, which has
    the condition, follows.  For Delete's blocks the key-order layer proves only `StableBounds` (the
    `InBounds` half): without the separator invariant a borrow or merge may re-route a reader clamped
    to kid 0. -/
def Stable (lt : K → K → Bool) (H : List Lk) (t t' : Tree K V) : Prop :=
  ∀ key id, Lk.node id ∉ H →
    (OnRoute lt t key id → OnRoute lt t' key id) ∧ (InBounds lt t key id → InBounds lt t' key id)

theorem stable_of_widen (h : SWO lt) {H : List Lk} {t t' : Tree K V}
    (hw : ∀ cl, WidenG lt cl (fun x => Lk.node x ∈ H ∨ x ∉ t.ids) t t')
    (hids : t.ids.Nodup) (hpar : ParTree t) (hord : OrdTree lt t)
    (hids' : t'.ids.Nodup) (hpar' : ParTree t') (hord' : OrdTree lt t') : Stable lt H t t' := by
  intro key id hH
  have hW : OnRoute lt t key id → ¬ (Lk.node id ∈ H ∨ id ∉ t.ids) :=
    fun ⟨_, _, hab⟩ hc => hc.elim hH (fun hn => hn (mem_routeB_ids key _ _ _ _ _ hab))
  refine ⟨fun hon => (onRoute_iff_cbounds h hids' hpar' hord' key id).2
    ((hw true id (hW hon)).contains h ((onRoute_iff_cbounds h hids hpar hord key id).1 hon)), fun hin => ?_⟩
  have := hw false id (hW ⟨_, _, hin.choose_spec.choose_spec.1⟩)
  rw [Tree.gbounds_false, Tree.gbounds_false] at this
  exact (inBounds_iff h hids' hpar' hord' key id).2 (this.contains h ((inBounds_iff h hids hpar hord key id).1 hin))

theorem UpEff.compose {H : List Lk} {t : Nat} {key : K} {f : Option V → V} {s s1 s' : St K V} {fl : Flow K V}
    (he : UpEff lt t key f s1 s' fl) (habs : s1.tree.abs = s.tree.abs)
    (hevs : ∀ arg, CbIn t arg s1.evs → CbIn t arg s.evs)
    (hst : Stable lt H s.tree s1.tree) :
    OrdTree lt s'.tree ∧ UpAbs lt t key f s s' fl ∧ (∀ p, fl = .park p → parkKPos lt s'.tree p) ∧
    StableRoutes lt H s.tree s'.tree := by
  refine ⟨he.ord, ⟨?_, ?_, ?_⟩, he.kpos, ?_⟩
  · intro r hr; rw [he.done r hr, habs]
  · intro p hp; rw [he.park p hp, habs]
  · intro arg ha
    rcases he.cb arg ha with h | h
    · exact Or.inl (hevs arg h)
    · exact Or.inr (by rw [h, habs])
  · intro key' id _ hH
    obtain ⟨h1, h2⟩ := hst key' id hH
    unfold OnRoute InBounds at *
    rw [he.routes key']
    exact ⟨h1, h2⟩

end Gobptree.Conc
