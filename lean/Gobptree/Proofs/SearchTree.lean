/-
  `Search` returns exactly `Spec.lookup` of the abstract contents.
-/
import Gobptree.Proofs.Context
import Gobptree.Proofs.Leaf

namespace Gobptree

variable {K V : Type} {lt : K → K → Bool}

theorem searchNode_ok (h : SWO lt) (P : Params K) (hP : P.lt = lt) (key : K) :
    ∀ (d : Nat) (n : Node K V d) (m : Nat) (lo hi : Option K), WF lt P.order d m lo hi n →
      searchNode P key d n = .ok (Spec.lookup lt (Node.pairs n) key) := by
  intro d
  induction d with
  | zero =>
    intro n m lo hi hw
    obtain ⟨a, b, _, _, _⟩ := hw
    exact Leaf.search_ok h P hP (n : Leaf K V) key a b
  | succ d ih =>
    intro n m lo hi hw
    obtain ⟨rA, rB, k, cA, cB, c, R⟩ := route_facts h key (n : Inner K (Node K V d)) hw
    subst hP
    show (match (n : Inner K (Node K V d)).kids[searchLE P.lt key (n : Inner K (Node K V d)).runts]? with
      | none => throw Panic.indexOutOfRange
      | some child => searchNode P key d child) = _
    rw [R.kid]
    simp only
    rw [ih c _ _ _ R.child, R.pairs, Spec.lookup_append_left _ _ _ R.pairs_before,
      Spec.lookup_append_right _ _ _ R.pairs_after]

theorem Tree.search_ok (h : SWO lt) (P : Params K) (hP : P.lt = lt) (t : Tree K V) (hto : t.order = P.order)
    (hw : TreeWF lt t) (key : K) :
    t.search P key = .ok (Spec.lookup lt (Node.pairs t.root) key) := by
  unfold TreeWF at hw
  rw [hto] at hw
  exact searchNode_ok h P hP key t.depth t.root _ none none hw

end Gobptree
