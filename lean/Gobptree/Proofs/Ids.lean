/-
  Leaf identities: allocation keeps them pairwise distinct.  These facts do not depend
  on keys or on the shape invariant: they are read off the code of the operations,
  Insert/Update through the inversions `Conc.upsertNode_succ_inv` (one level of the
  descent) and `Conc.Tree.upsert_inv` (the root), which the concurrent layers share.
-/
import Gobptree.Proofs.LeafOps
import Gobptree.Proofs.Except
import Gobptree.Proofs.NodeView

namespace Gobptree

variable {K V : Type}

def leafIds {d : Nat} (n : Node K V d) : List Nat := (Node.leaves n).map (·.id)

def idsOf {d : Nat} (cs : List (Node K V d)) : List Nat := cs.flatMap leafIds

theorem leafIds_leaf (l : Leaf K V) : leafIds (d := 0) l = [l.id] := rfl

theorem leafIds_inner {d : Nat} (p : Inner K (Node K V d)) :
    leafIds (d := d + 1) p = idsOf p.kids := by
  simp only [leafIds, idsOf, Node.leaves, List.map_flatMap]
  rfl

theorem idsOf_form1 {d : Nat} (A B : List (Node K V d)) (x : Node K V d) :
    idsOf (A ++ x :: B) = idsOf A ++ leafIds x ++ idsOf B := by
  simp [idsOf, List.flatMap_append, List.flatMap_cons]

theorem idsOf_form2 {d : Nat} (A B : List (Node K V d)) (x y : Node K V d) :
    idsOf (A ++ x :: y :: B) = idsOf A ++ (leafIds x ++ leafIds y) ++ idsOf B := by
  simp [idsOf, List.flatMap_append, List.flatMap_cons]

theorem leafIds_pair {d : Nat} (id : Nat) (rs : List K) (x y : Node K V d) :
    leafIds (d := d + 1) (Inner.mk id rs [x, y] : Inner K (Node K V d)) = leafIds x ++ leafIds y := by
  rw [leafIds_inner]
  simp only [idsOf, List.flatMap_cons, List.flatMap_nil, List.append_nil]

/-- one allocation step on identity lists: `new` arises from `old` by dropping
    identities and adding fresh ones from `[a, b)` -/
def IdStep (old new : List Nat) (a b : Nat) : Prop :=
  a ≤ b ∧ (∀ id ∈ new, id ∈ old ∨ (a ≤ id ∧ id < b)) ∧
  (old.Nodup → (∀ id ∈ old, id < a) → new.Nodup)

theorem IdStep.refl (l : List Nat) (a : Nat) : IdStep l l a a :=
  ⟨Nat.le_refl _, fun _ h => Or.inl h, fun h _ => h⟩

theorem IdStep.bound {old new : List Nat} {a b : Nat} (h : IdStep old new a b)
    (hb : ∀ id ∈ old, id < a) : ∀ id ∈ new, id < b := by
  intro id hid
  rcases h.2.1 id hid with h1 | h1
  · have := hb id h1; have := h.1; omega
  · exact h1.2

theorem IdStep.trans {l₁ l₂ l₃ : List Nat} {a b c : Nat}
    (h₁ : IdStep l₁ l₂ a b) (h₂ : IdStep l₂ l₃ b c) : IdStep l₁ l₃ a c := by
  refine ⟨Nat.le_trans h₁.1 h₂.1, ?_, ?_⟩
  · intro id hid
    rcases h₂.2.1 id hid with h | h
    · rcases h₁.2.1 id h with h' | h'
      · exact Or.inl h'
      · have := h₂.1; exact Or.inr ⟨h'.1, by omega⟩
    · have := h₁.1; exact Or.inr ⟨by omega, h.2⟩
  · intro hn hb
    exact h₂.2.2 (h₁.2.2 hn hb) (h₁.bound hb)

theorem IdStep.mono {old new : List Nat} {a b a' b' : Nat} (h : IdStep old new a b)
    (ha : a' ≤ a) (hb : b ≤ b') : IdStep old new a' b' := by
  have := h.1
  refine ⟨by omega, ?_, ?_⟩
  · intro id hid
    rcases h.2.1 id hid with h1 | h1
    · exact Or.inl h1
    · exact Or.inr ⟨by omega, by omega⟩
  · intro hn hlt
    exact h.2.2 hn (fun id hid => by have := hlt id hid; omega)

theorem IdStep.append_left {old new : List Nat} {a b : Nat} (A : List Nat)
    (h : IdStep old new a b) : IdStep (A ++ old) (A ++ new) a b := by
  refine ⟨h.1, ?_, ?_⟩
  · intro id hid
    rcases List.mem_append.1 hid with h1 | h1
    · exact Or.inl (List.mem_append_left _ h1)
    · rcases h.2.1 id h1 with h2 | h2
      · exact Or.inl (List.mem_append_right _ h2)
      · exact Or.inr h2
  · intro hn hlt
    rw [List.nodup_append] at hn ⊢
    obtain ⟨hA, hO, hD⟩ := hn
    refine ⟨hA, h.2.2 hO (fun id hid => hlt id (List.mem_append_right _ hid)), ?_⟩
    intro x hx y hy hxy
    subst hxy
    rcases h.2.1 x hy with h2 | h2
    · exact hD x hx x h2 rfl
    · have := hlt x (List.mem_append_left _ hx); omega

theorem IdStep.append_right {old new : List Nat} {a b : Nat} (B : List Nat)
    (h : IdStep old new a b) : IdStep (old ++ B) (new ++ B) a b := by
  refine ⟨h.1, ?_, ?_⟩
  · intro id hid
    rcases List.mem_append.1 hid with h1 | h1
    · rcases h.2.1 id h1 with h2 | h2
      · exact Or.inl (List.mem_append_left _ h2)
      · exact Or.inr h2
    · exact Or.inl (List.mem_append_right _ h1)
  · intro hn hlt
    rw [List.nodup_append] at hn ⊢
    obtain ⟨hO, hB, hD⟩ := hn
    refine ⟨h.2.2 hO (fun id hid => hlt id (List.mem_append_left _ hid)), hB, ?_⟩
    intro x hx y hy hxy
    subst hxy
    rcases h.2.1 x hx with h2 | h2
    · exact hD x h2 x hy rfl
    · have := hlt x (List.mem_append_right _ hy); omega

theorem IdStep.context {old new : List Nat} {a b : Nat} (A B : List Nat)
    (h : IdStep old new a b) : IdStep (A ++ old ++ B) (A ++ new ++ B) a b :=
  (h.append_left A).append_right B

theorem IdStep.of_sublist {old new : List Nat} (h : new.Sublist old) (a : Nat) :
    IdStep old new a (a + 1) :=
  ⟨Nat.le_succ _, fun _ hid => Or.inl (h.subset hid), fun hn _ => h.nodup hn⟩

theorem Leaf.upsert_id (P : Params K) (l l' : Leaf K V) (key : K) (f : Option V → V) (a : Option V)
    (h : Leaf.upsert P l key f = .ok (l', a)) : l'.id = l.id :=
  (Leaf.upsert_lengths h).1

def eids : (d : Nat) → Nat → List (Ent K V d) → List Nat
  | 0, i, _ => [i]
  | d + 1, _, (es : List (Node K V d)) => idsOf es

theorem leafIds_view {d : Nat} (n : Node K V d) : leafIds n = eids d (Node.id n) (Node.ents n) := by
  cases d with
  | zero => rfl
  | succ d => exact leafIds_inner n

/-- some of the entries of a node cut in two, the second part under the identity `fresh`: a leaf
    becomes two leaves, one of them new; below an inner node no leaf is new -/
theorem eids_cut (i fresh : Nat) {d : Nat} (es a b : List (Ent K V d)) (h : (a ++ b).Sublist es) :
    IdStep (eids d i es) (eids d i a ++ eids d fresh b) fresh (fresh + 1) := by
  cases d with
  | zero =>
    refine ⟨Nat.le_succ _, fun id hid => ?_, fun _ hlt => ?_⟩
    · rcases List.mem_cons.1 hid with h | h
      · exact .inl (h ▸ List.mem_singleton_self _)
      · obtain rfl := List.mem_singleton.1 h
        exact .inr ⟨Nat.le_refl _, Nat.lt_succ_self _⟩
    · have := hlt i (List.mem_singleton_self _)
      exact List.nodup_cons.2 ⟨fun hm => by rw [List.mem_singleton.1 hm] at this; exact Nat.lt_irrefl _ this,
        List.nodup_cons.2 ⟨List.not_mem_nil, List.nodup_nil⟩⟩
  | succ d => exact IdStep.of_sublist (List.flatMap_append ▸ sublist_flatMap leafIds h) fresh

theorem maybeSplit_none (o fresh : Nat) {d : Nat} (n l : Node K V d)
    (h : Node.maybeSplit o fresh n = .ok (l, none)) : l = n := by
  rcases Node.maybeSplit_inv o fresh h with ⟨e, -⟩ | ⟨-, -, -, e⟩
  · exact e
  · cases e

theorem maybeSplit_some (o fresh : Nat) {d : Nat} (n l r : Node K V d)
    (h : Node.maybeSplit o fresh n = .ok (l, some r)) :
    IdStep (leafIds n) (leafIds l ++ leafIds r) fresh (fresh + 1) := by
  rcases Node.maybeSplit_inv o fresh h with ⟨-, e⟩ | ⟨-, -, rfl, e⟩
  · cases e
  cases e
  rw [leafIds_view n, leafIds_view, leafIds_view, Node.id_put, Node.id_make, Node.ents_put, Node.ents_make]
  exact eids_cut _ _ _ _ _ (halves_sublist _ _)

namespace Conc

/-- the three ways one iteration of the descent loop continues below the parent
    `⟨pid, _, A ++ child :: B⟩`: the child is full or not, and if it was split the key belongs
    to the right or to the left half -/
inductive UpCase (P : Params K) (key : K) (f : Option V → V) {d : Nat} (pid : Nat) (A B : List (Node K V d))
    (child : Node K V d) (runts : List K) (nid : Nat) (p' : Inner K (Node K V d)) (nid' : Nat) (cb : Option V) : Prop where
  | nosplit (c' : Node K V d) :
      Node.maybeSplit P.order nid child = .ok (child, none) →
      upsertNode P key f d child nid = .ok (c', nid', cb) →
      p' = ⟨pid, runts, A ++ c' :: B⟩ →
      UpCase P key f pid A B child runts nid p' nid' cb
  | right (left right : Node K V d) (pad rs : K) (c' : Node K V d) :
      Node.maybeSplit P.order nid child = .ok (left, some right) →
      P.pad (some key) = some pad → Node.smallest right = .ok rs → P.lt key rs = false →
      upsertNode P key f d right (nid + 1) = .ok (c', nid', cb) →
      p' = ⟨pid, insertIdiom pad runts (A.length + 1) rs, (A ++ [left]) ++ c' :: B⟩ →
      UpCase P key f pid A B child runts nid p' nid' cb
  | left (left right : Node K V d) (pad rs : K) (c' : Node K V d) :
      Node.maybeSplit P.order nid child = .ok (left, some right) →
      P.pad (some key) = some pad → Node.smallest right = .ok rs → P.lt key rs = true →
      upsertNode P key f d left (nid + 1) = .ok (c', nid', cb) →
      p' = ⟨pid, insertIdiom pad runts (A.length + 1) rs, A ++ c' :: right :: B⟩ →
      UpCase P key f pid A B child runts nid p' nid' cb

theorem upsertNode_succ_inv (P : Params K) (key : K) (f : Option V → V) {d : Nat}
    (p : Inner K (Node K V d)) (nid : Nat) (p' : Inner K (Node K V d)) (nid' : Nat) (cb : Option V)
    (h : upsertNode P key f (d + 1) p nid = .ok (p', nid', cb)) :
    ∃ A child B runts, p.kids = A ++ child :: B ∧ A.length = searchLE P.lt key p.runts ∧
      lowerFirst P key A.length p.runts child = .ok runts ∧ UpCase P key f p.id A B child runts nid p' nid' cb := by
  rw [upsertNode] at h
  cases hk : p.kids[searchLE P.lt key p.runts]? with
  | none => rw [hk] at h; cases h
  | some child =>
    rw [hk] at h
    obtain ⟨A, B, hkids, hA⟩ := getElem?_split _ _ _ hk
    obtain ⟨runts, hlf, h⟩ := bind_ok h
    obtain ⟨⟨left, right?⟩, hms, h⟩ := bind_ok h
    refine ⟨A, child, B, runts, hkids, hA, by rw [hA]; exact hlf, ?_⟩
    cases right? with
    | none =>
      obtain ⟨⟨c', nid2, cb2⟩, hrec, h⟩ := bind_ok h
      cases h
      have := maybeSplit_none _ _ _ _ hms; subst this
      exact UpCase.nosplit c' hms hrec (by rw [hkids, set_pivot hA])
    | some right =>
      cases hpad : P.pad (some key) with
      | none => rw [hpad] at h; cases h
      | some pad =>
        rw [hpad] at h
        obtain ⟨rs, hrs, h⟩ := bind_ok h
        cases hlt : P.lt key rs with
        | false =>
          rw [hlt] at h
          obtain ⟨⟨c', nid2, cb2⟩, hrec, h⟩ := bind_ok h
          cases h
          exact UpCase.right left right pad rs c' hms hpad hrs hlt hrec
            (by rw [hkids, ← hA, insertIdiom_next rfl, set_pivot rfl, set_next rfl, List.append_assoc]; rfl)
        | true =>
          rw [hlt] at h
          obtain ⟨⟨c', nid2, cb2⟩, hrec, h⟩ := bind_ok h
          cases h
          exact UpCase.left left right pad rs c' hms hpad hrs hlt hrec
            (by rw [hkids, ← hA, insertIdiom_next rfl, set_pivot rfl, set_pivot rfl])

inductive RootCase (P : Params K) (key : K) (f : Option V → V) (t t' : Tree K V) (cb : Option V) : Prop where
  | nosplit (r' : Node K V t.depth) (nid' : Nat) :
      Node.maybeSplit t.order t.nextId t.root = .ok (t.root, none) →
      upsertNode P key f t.depth t.root t.nextId = .ok (r', nid', cb) →
      t' = { t with root := r', nextId := nid' } →
      RootCase P key f t t' cb
  | right (left right : Node K V t.depth) (ls rs : K) (c' : Node K V t.depth) (nid' : Nat) :
      Node.maybeSplit t.order t.nextId t.root = .ok (left, some right) →
      Node.smallest left = .ok ls → Node.smallest right = .ok rs → P.lt key rs = false →
      upsertNode P key f t.depth right (t.nextId + 2) = .ok (c', nid', cb) →
      t' = { order := t.order, depth := t.depth + 1,
             root := (⟨t.nextId + 1, [if P.lt key ls then key else ls, rs], [left, c']⟩ : Inner K (Node K V t.depth)),
             nextId := nid' } →
      RootCase P key f t t' cb
  | left (left right : Node K V t.depth) (ls rs : K) (c' : Node K V t.depth) (nid' : Nat) :
      Node.maybeSplit t.order t.nextId t.root = .ok (left, some right) →
      Node.smallest left = .ok ls → Node.smallest right = .ok rs → P.lt key rs = true →
      upsertNode P key f t.depth left (t.nextId + 2) = .ok (c', nid', cb) →
      t' = { order := t.order, depth := t.depth + 1,
             root := (⟨t.nextId + 1, [if P.lt key ls then key else ls, rs], [c', right]⟩ : Inner K (Node K V t.depth)),
             nextId := nid' } →
      RootCase P key f t t' cb

theorem Tree.upsert_inv (P : Params K) (key : K) (f : Option V → V) (t t' : Tree K V) (cb : Option V)
    (h : t.upsert P key f = .ok (t', cb)) : RootCase P key f t t' cb := by
  rw [Tree.upsert] at h
  obtain ⟨⟨left, right?⟩, hms, h⟩ := bind_ok h
  cases right? with
  | none =>
    obtain ⟨⟨r', nid2, cb2⟩, hrec, h⟩ := bind_ok h
    cases h
    have := maybeSplit_none _ _ _ _ hms; subst this
    exact RootCase.nosplit r' nid2 hms hrec rfl
  | some right =>
    obtain ⟨ls, hls, h⟩ := bind_ok h
    obtain ⟨rs, hrs, h⟩ := bind_ok h
    cases hlt : P.lt key rs with
    | false =>
      rw [hlt] at h
      obtain ⟨⟨c', nid2, cb2⟩, hrec, h⟩ := bind_ok h
      cases h
      exact RootCase.right left right ls rs c' nid2 hms hls hrs hlt hrec rfl
    | true =>
      rw [hlt] at h
      obtain ⟨⟨c', nid2, cb2⟩, hrec, h⟩ := bind_ok h
      cases h
      exact RootCase.left left right ls rs c' nid2 hms hls hrs hlt hrec rfl

end Conc

theorem Conc.upsertNode_zero_inv (P : Params K) (key : K) (f : Option V → V) (l : Leaf K V) (nid : Nat)
    (l' : Leaf K V) (nid' : Nat) (cb : Option V)
    (h : upsertNode P key f 0 l nid = .ok (l', nid', cb)) :
    Leaf.upsert P l key f = .ok (l', cb) ∧ nid' = nid := by
  rw [upsertNode] at h
  obtain ⟨⟨l1, cb1⟩, hv, h⟩ := bind_ok h
  cases h
  exact ⟨hv, rfl⟩

theorem upsertNode_IdStep (P : Params K) (key : K) (f : Option V → V) :
    ∀ (d : Nat) (n : Node K V d) (nid : Nat) (n' : Node K V d) (nid' : Nat) (cb : Option V),
      upsertNode P key f d n nid = .ok (n', nid', cb) →
      IdStep (leafIds n) (leafIds n') nid nid'
  | 0, n, nid, n', nid', cb, h => by
    obtain ⟨hl, rfl⟩ := Conc.upsertNode_zero_inv P key f n nid n' nid' cb h
    show IdStep [Leaf.id n] [Leaf.id n'] _ _
    rw [Leaf.upsert_id P n n' key f cb hl]
    exact IdStep.refl _ _
  | d + 1, p, nid, n', nid', cb, h => by
    obtain ⟨A, child, B, runts, hk, -, -, hcase⟩ := Conc.upsertNode_succ_inv P key f p nid n' nid' cb h
    rw [leafIds_inner p, leafIds_inner n', hk]
    -- after a split the pair `left, right` sits where `child` was, and the descent rewrites one of the two
    cases hcase with
    | nosplit c' hms hrec hp' =>
      subst hp'
      show IdStep _ (idsOf (A ++ c' :: B)) _ _
      rw [idsOf_form1, idsOf_form1]
      exact (upsertNode_IdStep P key f d _ _ _ _ _ hrec).context _ _
    | right left right pad rs c' hms hpad hrs hlt hrec hp' =>
      subst hp'
      show IdStep _ (idsOf (A ++ [left] ++ c' :: B)) _ _
      rw [List.append_assoc, List.singleton_append, idsOf_form1, idsOf_form2]
      exact ((maybeSplit_some _ _ _ _ _ hms).trans ((upsertNode_IdStep P key f d _ _ _ _ _ hrec).append_left _)).context _ _
    | left left right pad rs c' hms hpad hrs hlt hrec hp' =>
      subst hp'
      show IdStep _ (idsOf (A ++ c' :: right :: B)) _ _
      rw [idsOf_form1, idsOf_form2]
      exact ((maybeSplit_some _ _ _ _ _ hms).trans ((upsertNode_IdStep P key f d _ _ _ _ _ hrec).append_right _)).context _ _

theorem upsertNode_ids (P : Params K) (key : K) (f : Option V → V) :
    ∀ (d : Nat) (n : Node K V d) (nid : Nat) (n' : Node K V d) (nid' : Nat) (cb : Option V),
      upsertNode P key f d n nid = .ok (n', nid', cb) →
      nid ≤ nid' ∧
      (∀ id ∈ leafIds n', id ∈ leafIds n ∨ (nid ≤ id ∧ id < nid')) ∧
      ((leafIds n).Nodup → (∀ id ∈ leafIds n, id < nid) → (leafIds n').Nodup) :=
  fun d n nid n' nid' cb h => upsertNode_IdStep P key f d n nid n' nid' cb h

theorem Tree.upsert_ids (P : Params K) (t t' : Tree K V) (key : K) (f : Option V → V) (cb : Option V)
    (h : t.upsert P key f = .ok (t', cb))
    (hn : (leafIds t.root).Nodup) (hb : ∀ id ∈ leafIds t.root, id < t.nextId) :
    (leafIds t'.root).Nodup ∧ (∀ id ∈ leafIds t'.root, id < t'.nextId) := by
  cases Conc.Tree.upsert_inv P key f t t' cb h with
  | nosplit r' nid' hms hrec ht' =>
    subst ht'
    have hs := upsertNode_IdStep P key f _ _ _ _ _ _ hrec
    exact ⟨hs.2.2 hn hb, hs.bound hb⟩
  | right left right ls rs c' nid' hms hls hrs hlt hrec ht' =>
    subst ht'
    have hst := (maybeSplit_some _ _ _ _ _ hms).trans (((upsertNode_IdStep P key f _ _ _ _ _ _ hrec).mono
      (Nat.le_succ (t.nextId + 1)) (Nat.le_refl _)).append_left _)
    dsimp only
    rw [leafIds_pair]
    exact ⟨hst.2.2 hn hb, hst.bound hb⟩
  | left left right ls rs c' nid' hms hls hrs hlt hrec ht' =>
    subst ht'
    have hst := (maybeSplit_some _ _ _ _ _ hms).trans (((upsertNode_IdStep P key f _ _ _ _ _ _ hrec).mono
      (Nat.le_succ (t.nextId + 1)) (Nat.le_refl _)).append_right _)
    dsimp only
    rw [leafIds_pair]
    exact ⟨hst.2.2 hn hb, hst.bound hb⟩

end Gobptree
