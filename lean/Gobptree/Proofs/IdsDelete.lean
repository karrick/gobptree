/-
  Delete read off the code, independent of keys and of the shape invariant: what the sibling
  operations, the repair, one level of the descent and the root collapse return.  From that, the
  surviving leaves are a sub-sequence of the old ones; `CSoloIds.lean` counts the identities of
  all nodes along the same walk.
-/
import Gobptree.Proofs.Ids
import Gobptree.Proofs.RebalanceEq
import Gobptree.Proofs.NodeView

namespace Gobptree

variable {K V : Type}

theorem leafIds_leaf_d (l : Leaf K V) : leafIds (d := 0) (l : Node K V 0) = [l.id] := rfl

theorem Leaf.deleteKey_id (P : Params K) (l l' : Leaf K V) (m : Nat) (key : K) (s : Bool)
    (h : Leaf.deleteKey P l m key = .ok (l', s)) : l'.id = l.id :=
  (Leaf.deleteKey_lengths h).1

theorem eids_pool : ∀ {d : Nat} (i j : Nat) (a b a' b' : List (Ent K V d)), (a' ++ b').Sublist (a ++ b) →
    (eids d i a' ++ eids d j b').Sublist (eids d i a ++ eids d j b)
  | 0, _, _, _, _, _, _, _ => List.Sublist.refl _
  | d + 1, _, _, a, b, a', b', h =>
    List.flatMap_append ▸ List.flatMap_append ▸ sublist_flatMap (leafIds (d := d)) h

theorem adoptFromRight_ids (d : Nat) (left right l' r' : Node K V d)
    (h : Node.adoptFromRight left right = .ok (l', r')) :
    List.Sublist (leafIds l' ++ leafIds r') (leafIds left ++ leafIds right) := by
  obtain ⟨h1, h2, h3⟩ := Node.adoptFromRight_pool h
  rw [leafIds_view, leafIds_view, leafIds_view left, leafIds_view right, h1, h2]
  exact eids_pool _ _ _ _ _ _ (h3 ▸ List.Sublist.refl _)

theorem adoptFromLeft_ids (P : Params K) (d : Nat) (left right l' r' : Node K V d)
    (h : Node.adoptFromLeft P left right = .ok (l', r')) :
    List.Sublist (leafIds l' ++ leafIds r') (leafIds left ++ leafIds right) := by
  obtain ⟨h1, h2, h3⟩ := Node.adoptFromLeft_pool P h
  rw [leafIds_view, leafIds_view, leafIds_view left, leafIds_view right, h1, h2]
  exact eids_pool _ _ _ _ _ _ h3

theorem absorbRight_ids (d : Nat) (left right m : Node K V d) (h : Node.absorbRight left right = .ok m) :
    List.Sublist (leafIds m) (leafIds left ++ leafIds right) := by
  obtain ⟨h1, h2⟩ := Node.absorbRight_pool h
  rw [leafIds_view, leafIds_view left, leafIds_view right, h1, h2]
  -- the merged node, beside a node without entries
  exact (List.sublist_append_left _ (eids d (Node.id right) [])).trans
    (eids_pool _ _ _ _ _ _ (by rw [List.append_nil]; exact List.Sublist.refl _))

theorem sublist_ctx {α : Type} {X Y : List α} (A B : List α) (h : X.Sublist Y) :
    (A ++ X ++ B).Sublist (A ++ Y ++ B) :=
  (h.append_left A).append_right B

theorem rebalance_ids (P : Params K) (vr : Variant) (minSize : Nat) {d : Nat}
    (i i' : Inner K (Node K V d)) (index : Nat) (child c : Node K V d) (s : Bool)
    (h : rebalance P vr minSize i index child = .ok (i', s))
    (hc : i.kids[index]? = some c)
    (hrec : List.Sublist (leafIds child) (leafIds c)) :
    List.Sublist (idsOf i'.kids) (idsOf i.kids) := by
  obtain ⟨-, a, b, x, y, hw, hop⟩ := rebalance_two P vr minSize i i' index child c s h hc
  obtain ⟨x0, y0, hk, hsub⟩ : ∃ x0 y0, i.kids = a ++ x0 :: y0 :: b ∧
      (leafIds x ++ leafIds y).Sublist (leafIds x0 ++ leafIds y0) := by
    rcases hw with ⟨hk, rfl, -⟩ | ⟨hk, rfl, -⟩
    · exact ⟨c, y, hk, hrec.append_right _⟩
    · exact ⟨x, c, hk, hrec.append_left _⟩
  rw [hk, idsOf_form2]
  rcases hop with ⟨x', y', hop, hk', -⟩ | ⟨z, hop, hk', -⟩
  · rw [hk', idsOf_form2]
    refine sublist_ctx _ _ (List.Sublist.trans ?_ hsub)
    rcases hop with hop | hop
    · exact adoptFromRight_ids d x y x' y' hop
    · exact adoptFromLeft_ids P d x y x' y' hop
  · rw [hk', idsOf_form1]
    exact sublist_ctx _ _ ((absorbRight_ids d x y z hop).trans hsub)

theorem deleteNode_step (P : Params K) (vr : Variant) (minSize : Nat) (key : K) {d : Nat}
    (p p' : Inner K (Node K V d)) (small : Bool)
    (h : deleteNode P vr minSize key (d + 1) p = .ok (p', small)) :
    ∃ index child child' sm, p.kids[index]? = some child ∧
      deleteNode P vr minSize key d child = .ok (child', sm) ∧
      ((sm = false ∧ small = false ∧ p' = ⟨p.id, p.runts, p.kids.set index child'⟩) ∨
       (sm = true ∧ rebalance P vr minSize p index child' = .ok (p', small))) := by
  cases hc : p.kids[searchLE P.lt key p.runts]? with
  | none => cases (deleteNode_inner_none P vr minSize key p hc).symm.trans h
  | some child =>
    have h := (deleteNode_inner P vr minSize key p hc).symm.trans h
    obtain ⟨⟨child', sm⟩, hrec, h1⟩ := bind_ok h
    refine ⟨_, child, child', sm, hc, hrec, ?_⟩
    cases sm with
    | false =>
      simp only [Bool.not_false, if_true] at h1
      cases h1; exact .inl ⟨rfl, rfl, rfl⟩
    | true =>
      simp only [Bool.not_true, Bool.false_eq_true, if_false] at h1
      exact .inr ⟨rfl, h1⟩

theorem deleteNode_ids (P : Params K) (vr : Variant) (minSize : Nat) (key : K) :
    ∀ (d : Nat) (n n' : Node K V d) (small : Bool),
      deleteNode P vr minSize key d n = .ok (n', small) → List.Sublist (leafIds n') (leafIds n)
  | 0, n, n', small, h => by
    show List.Sublist [Leaf.id n'] [Leaf.id n]
    rw [Leaf.deleteKey_id P n n' minSize key small h]
    exact List.Sublist.refl _
  | d + 1, n, n', small, h => by
    obtain ⟨index, child, child', sm, hc, hrec, hcase⟩ := deleteNode_step P vr minSize key n n' small h
    have hsub := deleteNode_ids P vr minSize key d child child' sm hrec
    rw [leafIds_inner n', leafIds_inner n]
    rcases hcase with ⟨-, -, rfl⟩ | ⟨-, hreb⟩
    · obtain ⟨a, b, hab, rfl⟩ := getElem?_split _ _ _ hc
      show (idsOf ((Inner.kids n).set a.length child')).Sublist _
      rw [hab, set_pivot rfl, idsOf_form1, idsOf_form1]
      exact sublist_ctx _ _ hsub
    · exact rebalance_ids P vr minSize n n' index child' child small hreb hc hsub

theorem collapseRoot_inner (order nextId : Nat) {d : Nat} (r : Inner K (Node K V d)) (t' : Tree K V)
    (h : collapseRoot order nextId (d + 1) r = .ok t') :
    ∃ c b, r.kids = c :: b ∧ t' = ⟨order, d, c, nextId⟩ := by
  simp only [collapseRoot] at h
  split at h
  · cases h
  · rename_i c hc
    cases h
    obtain ⟨a, b, hab, ha⟩ := getElem?_split _ _ _ hc
    obtain rfl : a = [] := List.length_eq_zero_iff.mp ha
    exact ⟨c, b, hab, rfl⟩

theorem collapseRoot_ids (order nextId : Nat) : ∀ (d : Nat) (r : Node K V d) (t' : Tree K V),
    collapseRoot order nextId d r = .ok t' →
    List.Sublist (leafIds t'.root) (leafIds r) ∧ t'.nextId = nextId
  | 0, r, t', h => by
    cases h
    exact ⟨List.Sublist.refl _, rfl⟩
  | d + 1, r, t', h => by
    obtain ⟨c, b, hk, rfl⟩ := collapseRoot_inner order nextId r t' h
    refine ⟨?_, rfl⟩
    rw [leafIds_inner r, hk]
    exact List.sublist_append_left _ _

theorem Tree.delete_cases (P : Params K) (vr : Variant) (t t' : Tree K V) (key : K)
    (h : t.delete P vr key = .ok t') :
    ∃ minSize root' small, deleteNode P vr minSize key t.depth t.root = .ok (root', small) ∧
      (t' = { t with root := root' } ∨ collapseRoot t.order t.nextId t.depth root' = .ok t') := by
  obtain ⟨root', small, hD, hc⟩ := Tree.delete_ok_inv P vr t t' key h
  refine ⟨_, root', small, hD, ?_⟩
  split at hc
  · exact .inl hc
  · exact .inr hc

theorem Tree.delete_ids (P : Params K) (vr : Variant) (t t' : Tree K V) (key : K)
    (h : t.delete P vr key = .ok t') :
    List.Sublist (leafIds t'.root) (leafIds t.root) ∧ t'.nextId = t.nextId := by
  obtain ⟨minSize, root', small, hD, hcase⟩ := Tree.delete_cases P vr t t' key h
  have hsub := deleteNode_ids P vr minSize key t.depth t.root root' small hD
  rcases hcase with rfl | hcol
  · exact ⟨hsub, rfl⟩
  · obtain ⟨h1, h2⟩ := collapseRoot_ids t.order t.nextId t.depth root' t' hcol
    exact ⟨h1.trans hsub, h2⟩

end Gobptree
