/-
  The blocks that do not write the tree: Search / NewScanner arriving at a node
  (`roArrive`) and the cursor hop.
-/
import Gobptree.Proofs.CSUpNode
import Gobptree.Proofs.CSUpBase

namespace Gobptree.Conc
open Gobptree

variable {K V : Type}

theorem roNode_look {t : Tree K V} (hi : IdsOk t) {sc : Bool} {key : K} {hold : Lk} {n : Nat}
    (hk : KontOk t (.roNode sc key hold n)) : present t n := by
  cases hold with
  | tree => exact (show n = t.rootId from hk) ▸ root_present hi
  | node p => exact hk.elim fun _ hkid => (kid_present hi hkid).2

theorem roArrive_post (P : Params K) (t : Nat) (s : St K V) (sc : Bool) (key : K) (hold : Lk) (n : Nat)
    (H : List Lk) (hole : Option Nat) (hpre : Pre P hole s) (hk : KontOk s.tree (.roNode sc key hold n))
    (hcur : cursorLocks s.cursor = []) :
    Post H hole s (roArrive P t s sc key hold n).1 (roArrive P t s sc key hold n).2 := by
  have hok := hpre.tree
  obtain ⟨sh, hl⟩ := roNode_look hok.ids hk
  have hocc := occ_of_look hok.occ hl
  by_cases h0 : sh.height = 0
  · obtain ⟨l, hfind, rfl, -⟩ := leaf_of_look hl h0
    cases sc with
    | true =>
      rw [roArrive_scanner hfind]
      refine Post.of_unchanged hok rfl (by simp) (by intro p hp; cases hp) ⟨_, hl, rfl, ?_, ?_⟩
      · omega
      · have := startIndex_le P key l
        show ((startIndex P {} key l : Nat) : Int) - 1 < (l.keys.length : Int)
        omega
    | false =>
      obtain ⟨v, hv⟩ := Leaf.search_ok P l key ((par_leaf l).1 hocc.par)
      rw [roArrive_leaf hfind hv]
      exact Post.of_unchanged hok rfl (by simp) (by intro p hp; cases hp)
        (cursorOk_of_noLocks _ false _ hcur)
  · obtain ⟨d, p, hfind, rfl, -⟩ := inner_of_look hl (Nat.pos_of_ne_zero h0)
    obtain ⟨c, hc⟩ := descend_kid p hocc P.lt key
    rw [roArrive_inner hfind hc]
    refine Post.of_unchanged hok rfl (by simp) ?_ (cursorOk_of_noLocks _ false _ hcur)
    intro q hq
    cases hq
    exact ⟨⟨_, by rw [kidAt_shallow hl, hc]; rfl⟩, hcur, rfl⟩

theorem next_leaf {hole : Option Nat} {t : Tree K V} (hok : TreeOk hole t) {cur nx : Nat} {sh : Shallow K V}
    (hl : t.look cur = some sh) (h0 : sh.height = 0) (hn : sh.next = some nx) :
    ∃ shn, t.look nx = some shn ∧ shn.height = 0 ∧ 1 ≤ shn.keys.length := by
  obtain ⟨shn, hln, hn0, hidx⟩ := next_look hok.ids hok.chain hl h0 hn
  -- the root stands first in the pre-order, so it is nobody's successor
  have hne : nx ≠ t.rootId := by
    intro e
    obtain ⟨tl, htl⟩ := flat_head t.root
    have hids : t.ids = t.rootId :: tl.map Prod.fst := by unfold Tree.ids Tree.flat; rw [htl]; rfl
    rw [e, hids, List.idxOf_cons_self] at hidx
    exact Nat.not_lt_zero _ hidx
  exact ⟨shn, hln, hn0, Nat.le_trans (hok.min_pos hne _) (occ_of_look hok.occ hln).2.1⟩

theorem hop_post (P : Params K) (t : Nat) (s : St K V) (cur next : Nat) (H : List Lk) (hole : Option Nat)
    (hpre : Pre P hole s) (hk : KontOk s.tree (.hop cur next)) :
    Post H hole s (resume P t s (.hop cur next)).1 (resume P t s (.hop cur next)).2 := by
  obtain ⟨sh, hl, h0, hn⟩ := hk
  obtain ⟨shn, hln, hn0, hlen⟩ := next_leaf hpre.tree hl h0 hn
  simp only [resume]
  refine Post.of_unchanged hpre.tree rfl (by simp) (by intro p hp; cases hp) ?_
  refine ⟨shn, hln, hn0, by omega, ?_⟩
  show (0 : Int) < (shn.keys.length : Int)
  omega

end Gobptree.Conc
