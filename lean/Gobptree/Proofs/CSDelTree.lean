/-
  Tree-level consequences of a local rewrite (`Rw`) of the flat view: the tree invariant
  with the hole moved, own fields of unwritten nodes, the activation records of a Delete.

  While a Delete unwinds, the hole may be the ROOT (an inner root left with one entry
  after a merge, just before the root collapse); `TreeOk'` is `TreeOk` with that case
  allowed.  At every park of the thread the hole is a non-root node (or absent), where
  the two coincide.
-/
import Gobptree.Proofs.CSDelList
import Gobptree.Proofs.CSFrame
import Gobptree.Proofs.CSBlock
import Gobptree.Proofs.CSRank

namespace Gobptree.Conc
open Gobptree

variable {K V : Type}

/-- `minOf`, but a hole at an inner root demands one entry: the moment in `Delete` (Go) between
    the merge of the root's last two children and `collapseRoot` -/
def minOf' (o rootId : Nat) (hole : Option Nat) (id height : Nat) : Nat :=
  if hole = some id then (if id = rootId then (if height = 0 then 0 else 1) else o / 2 - 1)
  else minOf o rootId none id height

theorem minOf'_of_ne {o r : Nat} {hole : Option Nat} {id : Nat} (h : Nat) (hne : hole ≠ some id) :
    minOf' o r hole id h = minOf o r none id h := by
  simp [minOf', hne]

theorem minOf'_hole {o r c : Nat} (h : Nat) (hc : c ≠ r) : minOf' o r (some c) c h = o / 2 - 1 := by
  simp [minOf', hc]

theorem minOf'_eq (o r : Nat) (hole : Option Nat) (id h : Nat) :
    minOf' o r hole id h = minOf o r none id h - (if hole = some id then 1 else 0) := by
  unfold minOf' minOf
  by_cases h1 : hole = some id
  · by_cases h2 : id = r
    · by_cases h3 : h = 0 <;> simp [h1, h2, h3]
    · simp [h1, h2]
  · simp [h1]

theorem minOf_eq (o r : Nat) (hole : Option Nat) (id h : Nat) :
    minOf o r hole id h = minOf o r none id h - (if hole = some id ∧ id ≠ r then 1 else 0) := by
  unfold minOf
  by_cases h2 : id = r
  · simp [h2]
  · by_cases h1 : hole = some id <;> simp [h1, h2]

theorem minOf'_le_none (o r : Nat) (hole : Option Nat) (id h : Nat) :
    minOf' o r hole id h ≤ minOf o r none id h := by
  rw [minOf'_eq]; exact Nat.sub_le _ _

theorem minOf'_le (o r : Nat) (hole : Option Nat) (id h : Nat) :
    minOf' o r hole id h ≤ minOf o r hole id h := by
  rw [minOf'_eq, minOf_eq o r hole id h]
  refine Nat.sub_le_sub_left ?_ _
  by_cases h1 : hole = some id
  · rw [if_pos h1]; split <;> decide
  · rw [if_neg (fun h => h1 h.1)]; exact Nat.zero_le _

theorem minOf_le' {o r : Nat} {hole : Option Nat} (id h : Nat) (hr : ∀ c, hole = some c → c ≠ r) :
    minOf o r hole id h ≤ minOf' o r hole id h := by
  rw [minOf'_eq, minOf_eq o r hole id h]
  refine Nat.sub_le_sub_left ?_ _
  by_cases h1 : hole = some id
  · rw [if_pos h1, if_pos ⟨h1, hr id h1⟩]; exact Nat.le_refl _
  · rw [if_neg h1]; exact Nat.zero_le _

theorem minOf_none_le_half {o r id h : Nat} (ho : 4 ≤ o) : minOf o r none id h ≤ o / 2 := by
  unfold minOf
  split
  · split <;> omega
  · exact Nat.le_refl _

theorem minOf'_shrink {o r n h len len' : Nat} {small : Bool} (ho : 4 ≤ o) (hmin : minOf o r none n h ≤ len)
    (hcnt : (small = false ∧ len' = len) ∨ (len' + 1 = len ∧ small = decide (len' < o / 2))) :
    minOf' o r (if small then some n else none) n h ≤ len' := by
  rw [minOf'_eq]
  rcases hcnt with ⟨rfl, rfl⟩ | ⟨rfl, rfl⟩
  · exact Nat.le_trans (Nat.sub_le _ _) hmin
  · by_cases hlt : len' < o / 2
    · rw [decide_eq_true hlt, if_pos rfl, if_pos rfl]
      exact Nat.sub_le_of_le_add hmin
    · exact Nat.le_trans (Nat.sub_le _ _) (Nat.le_trans (minOf_none_le_half ho) (Nat.le_of_not_lt hlt))

def OccOk' (hole : Option Nat) (t : Tree K V) : Prop :=
  ∀ p ∈ t.flat, NodeOcc t.order (minOf' t.order t.rootId hole p.1 p.2.height) p.2

structure TreeOk' (hole : Option Nat) (t : Tree K V) : Prop where
  ids   : IdsOk t
  occ   : OccOk' hole t
  chain : ChainOk t
  order4 : 4 ≤ t.order
  even  : t.order % 2 = 0

theorem TreeOk.prime {hole : Option Nat} {t : Tree K V} (h : TreeOk hole t) (h4 : 4 ≤ t.order) :
    TreeOk' hole t :=
  ⟨h.ids, fun p hp => (h.occ p hp).mono (minOf'_le _ _ _ _ _), h.chain, h4, h.even⟩

theorem TreeOk'.unprime {hole : Option Nat} {t : Tree K V} (h : TreeOk' hole t)
    (hr : ∀ c, hole = some c → c ≠ t.rootId) : TreeOk hole t :=
  ⟨h.ids, fun p hp => (h.occ p hp).mono (minOf_le' _ _ hr), h.chain, by have := h.order4; omega,
    fun _ => h.order4, h.even⟩

theorem idsOk_of_rw {t t' : Tree K V} {wr : List Nat} {new : List (Nat × Shallow K V)} (hi : IdsOk t)
    (hrw : Rw wr new t.flat t'.flat) (hnid : t'.nextId = t.nextId) : IdsOk t' :=
  ⟨hrw.nodup hi.1, fun i h => hnid ▸ hi.2 i (hrw.idmem i h)⟩

theorem treeOk_of_rw {t t' : Tree K V} {hole hole' : Option Nat} {wr : List Nat}
    {new : List (Nat × Shallow K V)}
    (hok : TreeOk' hole t) (hrw : Rw wr new t.flat t'.flat)
    (hroot : t'.rootId = t.rootId) (hord : t'.order = t.order) (hnid : t'.nextId = t.nextId)
    (hnew : ∀ e ∈ new, NodeOcc t.order (minOf' t.order t.rootId hole' e.1 e.2.height) e.2)
    (hhole : ∀ h, hole = some h → hole' = some h ∨ h ∈ wr) : TreeOk' hole' t' := by
  refine ⟨idsOk_of_rw hok.ids hrw hnid, ?_, hrw.chain_nil hok.chain, by rw [hord]; exact hok.order4,
    by rw [hord]; exact hok.even⟩
  intro p hp
  rw [hord, hroot]
  rcases hrw.mem p hp with h | ⟨h, hw⟩
  · exact hnew p h
  · refine (hok.occ p h).mono ?_
    by_cases h1 : hole = some p.1
    · rcases hhole p.1 h1 with h2 | h2
      · rw [h1, h2]; exact Nat.le_refl _
      · exact absurd h2 hw
    · rw [minOf'_of_ne _ h1]
      exact minOf'_le_none _ _ _ _ _

theorem look_of_rw {t t' : Tree K V} {wr : List Nat} {new : List (Nat × Shallow K V)}
    (hrw : Rw wr new t.flat t'.flat) {x : Nat} (hx : x ∉ wr) : t'.look x = t.look x :=
  (hrw.lookup x hx).symm

theorem rw_tree {t t' : Tree K V} {wr : List Nat} {new W W' L R : List (Nat × Shallow K V)}
    (hi : IdsOk t) (hf : t.flat = L ++ W ++ R) (hf' : t'.flat = L ++ W' ++ R) (hrw : Rw wr new W W') :
    Rw wr new t.flat t'.flat := by
  rw [hf, hf']
  apply hrw.context
  rw [← hf]
  exact hi.1

theorem framesOk_transfer {t t' : Tree K V} (hi : IdsOk t) (root : Nat) :
    ∀ (frames : List Frame) (top : Nat) (sht : Shallow K V), FramesOk t root frames top →
      t.look top = some sht →
      (∀ x sh, t.look x = some sh → sht.height < sh.height → t'.look x = some sh) →
      FramesOk t' root frames top := by
  intro frames
  induction frames with
  | nil => intro top sht h _ _; exact h
  | cons fr rest ih =>
    intro top sht h htop hkeep
    obtain ⟨hc, hfr, hrest⟩ := h
    obtain ⟨shn, hn, hj⟩ := kidAt_look hfr.1
    obtain ⟨shc, hlc, hh⟩ := kid_look hi hfr.1 hn
    rw [hc, htop] at hlc
    cases hlc
    have hn' : t'.look fr.node = t.look fr.node := by
      rw [hn]; exact hkeep _ _ hn (by omega)
    refine ⟨hc, FrameOk_congr hn' hfr, ih fr.node shn hrest hn ?_⟩
    intro x sh hx hlt
    exact hkeep x sh hx (by omega)

theorem frames_top_held {t : Tree K V} {root : Nat} {H : List Lk} (hroot : Lk.node root ∈ H) :
    ∀ (frames : List Frame) (top : Nat), FramesOk t root frames top →
      (∀ l ∈ framesHeld frames, l ∈ H) → Lk.node top ∈ H := by
  intro frames top h hH
  cases frames with
  | nil => simp only [FramesOk] at h; rw [h]; exact hroot
  | cons fr rest =>
    obtain ⟨hc, _, _⟩ := h
    apply hH
    simp [framesHeld, hc]

end Gobptree.Conc
