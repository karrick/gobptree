/-
  The key-order invariant is preserved by every scheduler step, given the per-block results:
  the other threads' positions survive because what they own keeps its fields and its places on
  search routes (`KeptK`, `KeptK.kpos`); the stepping thread's new position comes from its
  resumed block or is the trivial one of a freshly started operation (`step_kinv_of`).
  Instantiated here for programs without Delete.
-/
import Gobptree.Proofs.CKBlock
import Gobptree.Proofs.CSFinal

namespace Gobptree.Conc
open Gobptree

variable {K V : Type}

theorem startOp_kpos (lt : K → K → Bool) (T : Tree K V) (t : Nat) (s : St K V) (op : COp K V) (p : Park K V)
    (h : (startOp t s op).2 = .park p) : parkKPos lt T p := by
  cases startOp_start h with
  | point hk => cases op <;> cases hk <;> trivial
  | pause => trivial
  | hop => trivial

theorem parkFrom_kpos (lt : K → K → Bool) {T : Tree K V} {t : Nat} {fl : Flow K V} {p' : Park K V}
    (h : ParkFrom t fl p') (hfl : ∀ p, fl = .park p → parkKPos lt T p) : parkKPos lt T p' := by
  have fresh : FreshPark t p' → parkKPos lt T p' := by
    rintro (rfl | ⟨s, op, e⟩)
    · trivial
    · exact startOp_kpos lt T t s op _ e
  cases fl with
  | park p => rw [show p' = p from h]; exact hfl p rfl
  | done _ => exact fresh h
  | panic => exact fresh h

theorem keysOf_congr {t t' : Tree K V} {p : Nat} (h : t'.look p = t.look p) : keysOf t' p = keysOf t p := by
  unfold keysOf; rw [h]

theorem KPos_congr (lt : K → K → Bool) {t t' : Tree K V} (k : Kont K V)
    (hl : ∀ id, Lk.node id ∈ kontHeld k → t'.look id = t.look id)
    (hr : ∀ key id, (Lk.node id ∈ kontHeld k ∨ id ∈ kontExtra t k) →
      (OnRoute lt t key id → OnRoute lt t' key id) ∧ (InBounds lt t key id → InBounds lt t' key id))
    (hk : KontOk t k) (hp : KPos lt t k) : KPos lt t' k := by
  have here : ∀ {x : Lk} {l : List Lk}, x ∈ x :: l := List.mem_cons_self ..
  cases k with
  | roNode sc key hold want =>
    cases hold with
    | tree => trivial
    | node p =>
      have e := hl p here
      exact ⟨(hr key p (Or.inl here)).1 hp.1, by rw [keysOf_congr e, kidAt_congr e]; exact hp.2⟩
  | upRootSib key f y root sib => exact (hr key sib (Or.inr (List.mem_cons_of_mem _ (List.mem_cons_self ..)))).2 hp
  | upChild key f y parent index child =>
    have e := hl parent here
    exact ⟨(hr key parent (Or.inl here)).2 hp.1, by rw [keysOf_congr e]; exact hp.2⟩
  | upSib key f y parent child sib => exact (hr key sib (Or.inr (List.mem_cons_self ..))).2 hp
  | upCallback key f leaf arg =>
    have e := hl leaf here
    obtain ⟨h1, sh, h2, h3⟩ := hp
    exact ⟨(hr key leaf (Or.inl here)).2 h1, sh, by rw [e]; exact h2, h3⟩
  | delLeft key frames node index left root =>
    -- the node the Delete stands at is the root or the child of its topmost frame: held either way
    have hmem : Lk.node node ∈ kontHeld (Kont.delLeft (V := V) key frames node index left root) := by
      rcases FramesOk_top hk.2.1 with e | e
      · rw [e]; exact List.mem_cons_of_mem _ here
      · exact List.mem_cons_of_mem _ (List.mem_cons_of_mem _ e)
    have e := hl node hmem
    exact ⟨(hr key node (Or.inl hmem)).1 hp.1, by rw [keysOf_congr e]; exact hp.2⟩
  | delChild key frames node index left child root =>
    have hmem : Lk.node node ∈ kontHeld (Kont.delChild (V := V) key frames node index left child root) := by
      rcases FramesOk_top hk.2.1 with e | e
      · rw [e]; exact List.mem_cons_of_mem _ here
      · exact List.mem_cons_of_mem _ (List.mem_cons_of_mem _ (List.mem_append_left _ e))
    have e := hl node hmem
    exact ⟨(hr key node (Or.inl hmem)).1 hp.1, by rw [keysOf_congr e]; exact hp.2⟩
  | _ => trivial


theorem parkKPos_kont {lt : K → K → Bool} {T : Tree K V} {p : Park K V} {k : Kont K V} (h : p.kont? = some k) :
    parkKPos lt T p = KPos lt T k := by
  cases p <;> cases h <;> rfl

/-- the frame lemma with the key order in view: the nodes thread `b` owns also keep their places on
    search routes -/
structure KeptK (lt : K → K → Bool) (T T' : Tree K V) (b : Thread K V) : Prop extends Kept T T' b where
  route : ∀ key id, Owns T b id →
    (OnRoute lt T key id → OnRoute lt T' key id) ∧ (InBounds lt T key id → InBounds lt T' key id)

theorem other_keptK {lt : K → K → Bool} {c c' : Config K V} (hS : SInv c) {t j : Nat} {th b : Thread K V}
    (ht : c.threads[t]? = some th) (hj : c.threads[j]? = some b) (hne : j ≠ t) (hen : th.enabled c = true)
    (hframe : StepFrame c c' th) (hst : StableRoutes lt (stepHeld th) c.tree c'.tree) :
    KeptK lt c.tree c'.tree b :=
  ⟨other_kept hS ht hj hne hen hframe,
   fun key _ h => hst key _ (other_outside hS ht hj hne hen h).1 (other_outside hS ht hj hne hen h).2⟩

theorem KeptK.kpos {lt : K → K → Bool} {T T' : Tree K V} {b : Thread K V} (F : KeptK lt T T' b) (hok : ThreadOk b)
    (hs : ThreadSOk T b) (hp : parkKPos lt T b.park) : parkKPos lt T' b.park := by
  cases hkk : b.park.kont? with
  | none => rcases Park.kont?_eq_none.1 hkk with e | e <;> rw [e] <;> trivial
  | some k =>
    rw [parkKPos_kont hkk] at hp ⊢
    exact KPos_congr lt k (fun id h => F.look id (owns_kont hok hkk (Or.inl (List.mem_append_left _ h))))
      (fun key id h => F.route key id (owns_kont hok hkk (h.imp_left (List.mem_append_left _))))
      ((parkKontOk_kont hkk _).mp hs.1) hp

theorem kpos_of_park {lt : K → K → Bool} {c : Config K V} (hk : KInv lt c) {t : Nat} {th : Thread K V}
    (ht : c.threads[t]? = some th) {k : Kont K V} (hp : th.park.kont? = some k) : KPos lt c.tree k :=
  parkKPos_kont hp ▸ hk.pos th (List.mem_of_getElem? ht)

structure KStep (lt : K → K → Bool) (c c' : Config K V) (t : Nat) (th : Thread K V)
    (r : Thread K V × St K V × Bool) : Prop extends CStep c c' t th r where
  ord'   : OrdTree lt c'.tree
  pos'   : parkKPos lt c'.tree r.1.park
  routes : StableRoutes lt (stepHeld th) c.tree c'.tree

namespace KStep
variable {lt : K → K → Bool} {c c' : Config K V} {t : Nat} {th : Thread K V} {r : Thread K V × St K V × Bool}

theorem keptK (F : KStep lt c c' t th r) {j : Nat} {b : Thread K V} (hne : j ≠ t) (hj : c.threads[j]? = some b) :
    KeptK lt c.tree c'.tree b := other_keptK F.inv.s F.get hj hne F.enabled F.frame F.routes

theorem kinv' (F : KStep lt c c' t th r) (hk : KInv lt c) : KInv lt c' :=
  ⟨F.ord', F.all F.pos' fun _ b hne hj =>
    (F.keptK hne hj).kpos (F.inv.s.cfg b (List.mem_of_getElem? hj)) (F.inv.s.threads b (List.mem_of_getElem? hj))
      (hk.pos b (List.mem_of_getElem? hj))⟩

end KStep

/-- a thread at `start` leaves the tree alone and parks with a trivial position -/
theorem step_kinv_of {lt : K → K → Bool} {c c' : Config K V} {t : Nat} {th : Thread K V}
    {r : Thread K V × St K V × Bool} (F : CStep c c' t th r) (hk : KInv lt c)
    (hres : ∀ k, th.park.kont? = some k →
      OrdTree lt (resume c.P t (stepSt c t th) k).1.tree ∧
      (∀ p, (resume c.P t (stepSt c t th) k).2 = .park p → parkKPos lt (resume c.P t (stepSt c t th) k).1.tree p) ∧
      StableRoutes lt (stepHeld th) c.tree (resume c.P t (stepSt c t th) k).1.tree) :
    KStep lt c c' t th r := by
  suffices h : OrdTree lt c'.tree ∧ parkKPos lt c'.tree r.1.park ∧ StableRoutes lt (stepHeld th) c.tree c'.tree from
    ⟨F, h.1, h.2.1, h.2.2⟩
  rcases step_source F.toStepped with ⟨_, htree, hfresh⟩ | ⟨k, hp, htree, hfrom⟩ <;> rw [htree]
  · exact ⟨hk.ord, parkFrom_kpos lt (fl := .panic) hfresh (fun _ h => nomatch h), fun _ _ _ _ => ⟨id, id⟩⟩
  · exact ⟨(hres k hp).1, parkFrom_kpos lt hfrom (hres k hp).2.1, (hres k hp).2.2⟩

theorem step_kinv_nodel (RU : ResumeKU K V) (lt : K → K → Bool) (c c' : Config K V) (t : Nat)
    (hstep : c.step t = some c') (hinv : CInv c) (hk : KInv lt c) (hkp : KParams lt c.P)
    (hnd : ∀ th ∈ c.threads, isDelPark th.park = false) : KInv lt c' := by
  -- the structural block results lie below this file (`step_cstep`); the key-order ones are proved
  -- above it and enter as the hypothesis `RU`
  obtain ⟨th, r, F⟩ := step_cstep hstep hinv
  refine (step_kinv_of F hk fun k hp => ?_).kinv' hk
  obtain ⟨hpre, R⟩ := F.ready hp
  have hdel : isDelK k = false := (isDelPark_kont hp).symm.trans (hnd th F.mem)
  obtain ⟨hpost, hst⟩ := RU lt c.P t (stepSt c t th) k (stepHeld th) (holeOf c.threads) hdel hkp
    hpre R.kok R.cur R.pre R.cov hk.ord (kpos_of_park hk F.get hp)
  exact ⟨hpost.ord, hpost.kpos, hst⟩

end Gobptree.Conc
