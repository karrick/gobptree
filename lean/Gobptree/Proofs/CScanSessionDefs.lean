/-
  Whole-scan guarantee (weak consistency of a scan under concurrent writers), definitions.

  A SESSION is identified by a thread `j` and the program index `a` of its `NewScanner(start)`.
  Its responses are read off the log (`rets j log`: the `ret` notes of thread `j`, newest first).
  The ghost state carried along a run is the bound `b` the session's cursor is currently
  positioned for (`.ge start` until the first successful `Scan`, then `.gt k_last`), together with
    * order facts relating `b` to the pairs returned so far (`Open.fresh`, `Open.ord`), and
    * coverage of the keys that have been present all the time (`Open.cov`): such a key has been
      returned, or is still admitted by `b`, or the cursor rests on it and its `Pair` is still due.
  Facts about the log alone (`LogOk`) persist for ever; they are the session-level statements.
-/
import Gobptree.Proofs.CLinNotes
import Gobptree.Proofs.CCDefs
import Gobptree.Proofs.CCurStatic

namespace Gobptree.Conc
open Gobptree

variable {K V : Type}

def retOf (j : Nat) : Ev K V → Option (Nat × Res K V)
  | .note t (.ret i r) => if t = j then some (i, r) else none
  | _ => none

/-- what thread `j` has returned, newest first (`retNotes` of CSoloRun lists the returns of all threads alike, for runs
    of one thread; nothing needs the two compared) -/
def rets (j : Nat) (evs : List (Ev K V)) : List (Nat × Res K V) := evs.filterMap (retOf j)

theorem retOf_eq_some {j i : Nat} {r : Res K V} {ev : Ev K V} : retOf j ev = some (i, r) ↔ ev = .note j (.ret i r) := by
  constructor
  · intro h
    cases ev with
    | note t n =>
      cases n with
      | ret i' r' =>
        by_cases e : t = j
        · simp only [retOf, if_pos e, Option.some.injEq, Prod.mk.injEq] at h
          rw [e, h.1, h.2]
        · simp only [retOf, if_neg e, reduceCtorEq] at h
      | _ => cases h
    | _ => cases h
  · intro h
    rw [h]
    simp only [retOf, if_pos]

theorem rets_cons_ret (j i : Nat) (r : Res K V) (evs : List (Ev K V)) :
    rets j (Ev.note j (.ret i r) :: evs) = (i, r) :: rets j evs :=
  List.filterMap_cons_some (retOf_eq_some.2 rfl)

theorem rets_cons_ret_ne {j t : Nat} (h : t ≠ j) (i : Nat) (r : Res K V) (evs : List (Ev K V)) :
    rets j (Ev.note t (.ret i r) :: evs) = rets j evs :=
  List.filterMap_cons_none (if_neg h)

theorem rets_append (j : Nat) (l1 l2 : List (Ev K V)) : rets j (l1 ++ l2) = rets j l1 ++ rets j l2 :=
  List.filterMap_append

theorem mem_rets {j i : Nat} {r : Res K V} {evs : List (Ev K V)} :
    (i, r) ∈ rets j evs ↔ Ev.note j (.ret i r) ∈ evs := by
  unfold rets
  rw [List.mem_filterMap]
  constructor
  · rintro ⟨ev, hm, h⟩
    rw [← retOf_eq_some.1 h]; exact hm
  · intro hm
    exact ⟨_, hm, retOf_eq_some.2 rfl⟩

theorem rets_quiet (j t : Nat) (new : List (Ev K V)) (h : new.all (quietB t) = true) : rets j new = [] := by
  apply List.filterMap_eq_nil_iff.2
  intro ev hm
  cases hr : retOf j ev with
  | none => rfl
  | some p => have := List.all_eq_true.1 h ev hm; rw [retOf_eq_some.1 hr] at this; cases this

theorem rets_startOp (j t : Nat) (s : St K V) (op : COp K V) :
    rets j (startOp t s op).1.evs = rets j s.evs := by
  obtain ⟨new, e, q, _⟩ := startOp_tr t s op
  rw [e, rets_append, rets_quiet j t new (quiet_of_silent t q)]; rfl

theorem rets_resume (j : Nat) (P : Params K) (t : Nat) (s : St K V) (k : Kont K V) :
    rets j (resume P t s k).1.evs = rets j s.evs := by
  obtain ⟨new, e, q, _⟩ := resume_trace P t s k
  rw [e, rets_append, rets_quiet j t new q]; rfl

theorem mem_cons_ret {y n : Nat} {r' r : Res K V} {rs : List (Nat × Res K V)} :
    (y, r') ∈ (n, r) :: rs ↔ (y = n ∧ r' = r) ∨ (y, r') ∈ rs := by
  rw [List.mem_cons]
  constructor
  · rintro (h | h)
    · cases h; exact Or.inl ⟨rfl, rfl⟩
    · exact Or.inr h
  · rintro (⟨h1, h2⟩ | h)
    · subst h1; subst h2; exact Or.inl rfl
    · exact Or.inr h

theorem mem_cons_ret_of_ne {y n : Nat} {r' r : Res K V} {rs : List (Nat × Res K V)}
    (h : (y, r') ∈ (n, r) :: rs) (hne : r' ≠ r) : (y, r') ∈ rs :=
  (mem_cons_ret.1 h).resolve_left fun e => hne e.2

theorem disciplined_after_ns : ∀ (prog : List (COp K V)) (st : CSt) (a : Nat) (k : K),
    disciplined st prog = true → prog[a]? = some (.ns k) → disciplined .F (prog.drop (a + 1)) = true := by
  intro prog
  induction prog with
  | nil => intro st a k _ hns; cases hns
  | cons op r ih =>
    intro st a k hd hns
    obtain ⟨st', hs, hr⟩ := disciplined_cons hd
    cases a with
    | zero =>
      cases Option.some.inj hns
      cases st <;> cases hs
      exact hr
    | succ a => exact ih st' a k hr hns

theorem disc_F_no_pair : ∀ (y : Nat) (rest : List (COp K V)), disciplined .F rest = true →
    (∀ x, x < y → rest[x]? = some .pause) → rest[y]? ≠ some .pair := by
  intro y
  induction y with
  | zero =>
    intro rest hd _ h
    cases rest with
    | nil => cases h
    | cons op r =>
      cases Option.some.inj h
      cases hd
  | succ y ih =>
    intro rest hd hx h
    cases rest with
    | nil => cases h
    | cons op r =>
      cases Option.some.inj (hx 0 (Nat.succ_pos y))
      obtain ⟨st', hs, hr⟩ := disciplined_cons hd
      cases hs
      exact ih r hr (fun x hxy => hx (x + 1) (Nat.succ_lt_succ hxy)) h

theorem disc_no_fresh_pair (prog : List (COp K V)) (st : CSt) (a y : Nat) (k : K)
    (hd : disciplined st prog = true) (hns : prog[a]? = some (.ns k)) (hay : a < y)
    (hpz : ∀ x, a < x → x < y → prog[x]? = some .pause) : prog[y]? ≠ some .pair := by
  obtain ⟨y', rfl⟩ := Nat.exists_eq_add_of_le (Nat.succ_le_of_lt hay)
  have h := disc_F_no_pair y' (prog.drop (a + 1)) (disciplined_after_ns prog st a k hd hns)
    (fun x hx => by
      rw [List.getElem?_drop]
      exact hpz _ (Nat.lt_of_lt_of_le (Nat.lt_succ_self a) (Nat.le_add_right _ _)) (Nat.add_lt_add_left hx _))
  rwa [List.getElem?_drop] at h

def CurOp : Option (COp K V) → Prop
  | some .scan => True
  | some .pair => True
  | some .pause => True
  | _ => False

def CurOps (prog : List (COp K V)) (a n : Nat) : Prop := ∀ x, a < x → x < n → CurOp prog[x]?

def InSess (prog : List (COp K V)) (a y : Nat) : Prop := a < y ∧ CurOps prog a (y + 1)

theorem CurOps.mono {prog : List (COp K V)} {a n m : Nat} (h : CurOps prog a n) (hmn : m ≤ n) : CurOps prog a m :=
  fun x h1 h2 => h x h1 (by omega)

theorem InSess.of_le {prog : List (COp K V)} {a y x : Nat} (h : InSess prog a y) (hax : a < x) (hxy : x ≤ y) :
    InSess prog a x := ⟨hax, h.2.mono (by omega)⟩

/-- the hypotheses on the exhausting `Scan` at index `e` (used for completeness only):
    it belongs to the session, and `Pair` is called between any two `Scan`s of the session
    (client pauses may sit anywhere) -/
structure EHyp (prog : List (COp K V)) (a e : Nat) : Prop where
  lt : a < e
  seg : CurOps prog a e
  scan : prog[e]? = some .scan
  shape : ∀ i m, a < i → i < m → m ≤ e → prog[i]? = some .scan → prog[m]? = some .scan →
    ∃ x, i < x ∧ x < m ∧ prog[x]? = some .pair

/-- the last call before `n` other than a pause was a `Scan` (the `Pair` of the key it found is
    still due) -/
def PairDue (prog : List (COp K V)) (a n : Nat) : Prop :=
  ∃ x, a < x ∧ x < n ∧ prog[x]? = some .scan ∧ ∀ y, x < y → y < n → prog[y]? = some .pause

theorem EHyp.not_scan {prog : List (COp K V)} {a e n : Nat} (he : EHyp prog a e) (hn : n ≤ e)
    (hd : PairDue prog a n) : prog[n]? ≠ some .scan := by
  intro hs
  obtain ⟨x, h1, h2, h3, h4⟩ := hd
  obtain ⟨y, g1, g2, g3⟩ := he.shape x n h1 h2 hn h3 hs
  rw [h4 y g1 g2] at g3
  cases g3

theorem EHyp.inSess {prog : List (COp K V)} {a e : Nat} (h : EHyp prog a e) : InSess prog a e := by
  refine ⟨h.lt, fun x h1 h2 => ?_⟩
  by_cases hx : x = e
  · subst hx; rw [h.scan]; trivial
  · exact h.seg x h1 (by omega)

theorem discStep_open {st st' : CSt} {op : COp K V} (hst : st ≠ .N) (hs : discStep st op = some st')
    (h0 : op ≠ .close) : st' ≠ .N ∧ CurOp (some op) := by
  cases st with
  | N => exact absurd rfl hst
  | F => cases op <;> cases hs <;> first | exact absurd rfl h0 | exact ⟨nofun, trivial⟩
  | S => cases op <;> cases hs <;> first | exact absurd rfl h0 | exact ⟨nofun, trivial⟩

theorem curOp_of_disc_open : ∀ (x : Nat) (rest : List (COp K V)) (st : CSt), st ≠ .N → disciplined st rest = true →
    x < rest.length → (∀ y, y ≤ x → rest[y]? ≠ some .close) → CurOp rest[x]? := by
  intro x
  induction x with
  | zero =>
    intro rest st hst hd hx hnc
    cases rest with
    | nil => cases hx
    | cons op r =>
      obtain ⟨st', hs, _⟩ := disciplined_cons hd
      exact (discStep_open hst hs (fun e => hnc 0 (Nat.le_refl 0) (by rw [e]; rfl))).2
  | succ x ih =>
    intro rest st hst hd hx hnc
    cases rest with
    | nil => cases hx
    | cons op r =>
      obtain ⟨st', hs, hr⟩ := disciplined_cons hd
      exact ih r st' (discStep_open hst hs (fun e => hnc 0 (Nat.zero_le _) (by rw [e]; rfl))).1 hr
        (Nat.lt_of_succ_lt_succ hx) (fun y hy => hnc (y + 1) (Nat.succ_le_succ hy))

theorem curOps_of_not_closed (prog : List (COp K V)) (st : CSt) (a e : Nat) (k : K)
    (hd : disciplined st prog = true) (hns : prog[a]? = some (.ns k)) (he : e ≤ prog.length)
    (hnc : ∀ x, a < x → x < e → prog[x]? ≠ some .close) : CurOps prog a e := by
  intro x hax hxe
  obtain ⟨x', rfl⟩ := Nat.exists_eq_add_of_le (Nat.succ_le_of_lt hax)
  have h := curOp_of_disc_open x' (prog.drop (a + 1)) .F nofun (disciplined_after_ns prog st a k hd hns)
    (by rw [List.length_drop]; exact Nat.lt_sub_of_add_lt (Nat.add_comm _ _ ▸ Nat.lt_of_lt_of_le hxe he))
    (fun y hy => by
      rw [List.getElem?_drop]
      exact hnc _ (Nat.lt_of_lt_of_le (Nat.lt_succ_self a) (Nat.le_add_right _ _))
        (Nat.lt_of_le_of_lt (Nat.add_le_add_left hy _) hxe))
  rwa [List.getElem?_drop] at h

structure SCtx (K V : Type) where
  lt : K → K → Bool
  j : Nat
  /-- index of the session's `NewScanner` in the program of thread `j` -/
  a : Nat
  /-- index of the `Scan` that is to return `false` (used by completeness only) -/
  e : Nat
  start : K
  prog : List (COp K V)
  /-- pairs known to have been in the map at a moment of the session -/
  Sd : Nat → K → V → Prop
  /-- keys that have been in the map ever since `NewScanner` returned -/
  KS : K → Prop

def Returned (a e : Nat) (rs : List (Nat × Res K V)) (k : K) : Prop :=
  ∃ x v, a < x ∧ x < e ∧ (x, Res.pair k v) ∈ rs

theorem Returned.cons {a e : Nat} {rs : List (Nat × Res K V)} {k : K} (h : Returned a e rs k) (p : Nat × Res K V) :
    Returned a e (p :: rs) k := by
  obtain ⟨x, v, h1, h2, h3⟩ := h
  exact ⟨x, v, h1, h2, List.mem_cons_of_mem _ h3⟩

/-- the session-level statements about the responses logged so far, as `CScanSession` states them:
    `s0`, `s1` are (S1) soundness (the `NewScanner` has returned; the pair was in the map), `s2a`–`s2c` (S2)
    order, `s3` (S3) completeness; (S4) no phantom follows from `s1` -/
structure LogOk (X : SCtx K V) (rs : List (Nat × Res K V)) : Prop where
  s0 : ∀ y, (y, Res.bool false) ∈ rs → InSess X.prog X.a y → (X.a, Res.ok) ∈ rs
  s1 : ∀ y k v, (y, Res.pair k v) ∈ rs → InSess X.prog X.a y → (X.a, Res.ok) ∈ rs ∧ X.Sd y k v
  s2a : ∀ y k v, (y, Res.pair k v) ∈ rs → InSess X.prog X.a y → X.lt k X.start = false
  s2b : ∀ x y k v k' v', (x, Res.pair k v) ∈ rs → (y, Res.pair k' v') ∈ rs → X.a < x → x < y →
    InSess X.prog X.a y → X.lt k' k = false
  s2c : ∀ x z y k v k' v', (x, Res.pair k v) ∈ rs → (z, Res.bool true) ∈ rs → (y, Res.pair k' v') ∈ rs →
    X.a < x → x < z → z < y → InSess X.prog X.a y → X.lt k k' = true
  s3 : EHyp X.prog X.a X.e → (X.e, Res.bool false) ∈ rs → ∀ k, X.KS k → Returned X.a X.e rs k

theorem LogOk.nil (X : SCtx K V) : LogOk X [] :=
  ⟨fun _ h => (by cases h), fun _ _ _ h => (by cases h), fun _ _ _ h => (by cases h),
   fun _ _ _ _ _ _ h => (by cases h), fun _ _ _ _ _ _ _ h => (by cases h), fun _ h => (by cases h)⟩

theorem LogOk.cons {X : SCtx K V} {rs : List (Nat × Res K V)} {n : Nat} {r : Res K V} (h : LogOk X rs)
    (hr1 : ∀ i r', (i, r') ∈ rs → i < n)
    (hpair : ∀ k v, r = .pair k v → InSess X.prog X.a n →
      (X.a, Res.ok) ∈ rs ∧ X.Sd n k v ∧ X.lt k X.start = false ∧
        ∀ x k0 v0, X.a < x → (x, Res.pair k0 v0) ∈ rs →
          X.lt k k0 = false ∧ ((∃ z, x < z ∧ (z, Res.bool true) ∈ rs) → X.lt k0 k = true))
    (hfalse : r = .bool false → InSess X.prog X.a n →
      (X.a, Res.ok) ∈ rs ∧ (EHyp X.prog X.a X.e → n = X.e → ∀ k, X.KS k → Returned X.a X.e rs k)) :
    LogOk X ((n, r) :: rs) where
  s0 := by
    intro y hy hs
    rcases mem_cons_ret.1 hy with ⟨e1, e2⟩ | hy
    · subst e1
      exact List.mem_cons_of_mem _ (hfalse e2.symm hs).1
    · exact List.mem_cons_of_mem _ (h.s0 y hy hs)
  s1 := by
    intro y k v hy hs
    rcases mem_cons_ret.1 hy with ⟨e1, e2⟩ | hy
    · subst e1
      obtain ⟨h1, h2, _⟩ := hpair k v e2.symm hs
      exact ⟨List.mem_cons_of_mem _ h1, h2⟩
    · obtain ⟨h1, h2⟩ := h.s1 y k v hy hs
      exact ⟨List.mem_cons_of_mem _ h1, h2⟩
  s2a := by
    intro y k v hy hs
    rcases mem_cons_ret.1 hy with ⟨e1, e2⟩ | hy
    · subst e1
      exact (hpair k v e2.symm hs).2.2.1
    · exact h.s2a y k v hy hs
  s2b := by
    intro x y k v k' v' hx hy hax hxy hs
    rcases mem_cons_ret.1 hy with ⟨e1, e2⟩ | hy
    · subst e1
      rcases mem_cons_ret.1 hx with ⟨e3, _⟩ | hx
      · exact absurd hxy (by rw [e3]; exact Nat.lt_irrefl _)
      · exact ((hpair k' v' e2.symm hs).2.2.2 x k v hax hx).1
    · have := hr1 y _ hy
      rcases mem_cons_ret.1 hx with ⟨e3, _⟩ | hx
      · exact absurd hxy (by rw [e3]; exact Nat.lt_asymm this)
      · exact h.s2b x y k v k' v' hx hy hax hxy hs
  s2c := by
    intro x z y k v k' v' hx hz hy hax hxz hzy hs
    rcases mem_cons_ret.1 hy with ⟨e1, e2⟩ | hy
    · subst e1
      rcases mem_cons_ret.1 hx with ⟨e3, _⟩ | hx
      · exact absurd (Nat.lt_trans hxz hzy) (by rw [e3]; exact Nat.lt_irrefl _)
      · rcases mem_cons_ret.1 hz with ⟨e4, _⟩ | hz
        · exact absurd hzy (by rw [e4]; exact Nat.lt_irrefl _)
        · exact ((hpair k' v' e2.symm hs).2.2.2 x k v hax hx).2 ⟨z, hxz, hz⟩
    · have := hr1 y _ hy
      rcases mem_cons_ret.1 hx with ⟨e3, _⟩ | hx
      · exact absurd (Nat.lt_trans (Nat.lt_trans hxz hzy) this) (by rw [e3]; exact Nat.lt_irrefl _)
      · rcases mem_cons_ret.1 hz with ⟨e4, _⟩ | hz
        · exact absurd hzy (by rw [e4]; exact Nat.lt_asymm this)
        · exact h.s2c x z y k v k' v' hx hz hy hax hxz hzy hs
  s3 := by
    intro he hf k hk
    rcases mem_cons_ret.1 hf with ⟨e1, e2⟩ | hf
    · exact ((hfalse e2.symm (e1 ▸ he.inSess)).2 he e1.symm k hk).cons _
    · exact (h.s3 he hf k hk).cons _

def Neutral (r : Res K V) : Prop := (∀ k v, r ≠ .pair k v) ∧ r ≠ .bool false

theorem LogOk.cons_neutral {X : SCtx K V} {rs : List (Nat × Res K V)} {n : Nat} {r : Res K V} (h : LogOk X rs)
    (hr1 : ∀ i r', (i, r') ∈ rs → i < n) (hn : Neutral r) : LogOk X ((n, r) :: rs) :=
  h.cons hr1 (fun k v e _ => absurd e (hn.1 k v)) (fun e _ => absurd e hn.2)

theorem LogOk.cons_outside {X : SCtx K V} {rs : List (Nat × Res K V)} {n : Nat} {r : Res K V} (h : LogOk X rs)
    (hr1 : ∀ i r', (i, r') ∈ rs → i < n) (hout : ¬ InSess X.prog X.a n) : LogOk X ((n, r) :: rs) :=
  h.cons hr1 (fun _ _ _ hs => absurd hs hout) (fun _ hs => absurd hs hout)

/-- the session's cursor is open at `(leaf, i)`, positioned for the ghost bound `b`;
    `n` is the index of the next call (or of the call in progress); `hb` says that the thread is
    between the two halves of a hop (the index has run off the leaf) -/
structure Open (X : SCtx K V) (T : Tree K V) (hb : Bool) (cur : Option (Option Nat × Int)) (exh : Bool)
    (rs : List (Nat × Res K V)) (n : Nat) (b : Bound K) (leaf : Nat) (i : Int) : Prop where
  an : X.a < n
  nsret : (X.a, Res.ok) ∈ rs
  hcur : cur = some (some leaf, i)
  hexh : exh = false
  cok : CursorOk T hb (some (some leaf, i))
  pos : CurPosW X.lt T b leaf i
  fresh : ∀ st0, b = .ge st0 → st0 = X.start ∧ (∀ x, X.a < x → x < n → X.prog[x]? = some .pause) ∧
    ∀ y k v, X.a < y → (y, Res.pair k v) ∉ rs
  ord : ∀ c, b = .gt c → X.lt c X.start = false ∧
    ∀ x k v, X.a < x → (x, Res.pair k v) ∈ rs →
      X.lt c k = false ∧ ((∃ z, x < z ∧ (z, Res.bool true) ∈ rs) → X.lt k c = true)
  cov : EHyp X.prog X.a X.e → n ≤ X.e → ∀ k, X.KS k →
    Returned X.a X.e rs k ∨ b.admits X.lt k = true ∨ (b = .gt k ∧ PairDue X.prog X.a n)

def SessSt (X : SCtx K V) (T : Tree K V) (cur : Option (Option Nat × Int)) (exh : Bool)
    (rs : List (Nat × Res K V)) (n : Nat) : Prop :=
  (∃ b leaf i, Open X T false cur exh rs n b leaf i) ∨ exh = true

/-- between two calls: all calls before `n` have returned and are logged -/
structure Mid (X : SCtx K V) (T : Tree K V) (cur : Option (Option Nat × Int)) (exh : Bool)
    (rs : List (Nat × Res K V)) (n : Nat) : Prop where
  r1 : ∀ i r, (i, r) ∈ rs → i < n
  log : LogOk X rs
  sess : X.a < n → CurOps X.prog X.a n → SessSt X T cur exh rs n

def PkSess (X : SCtx K V) (T : Tree K V) (cur : Option (Option Nat × Int)) (exh : Bool)
    (rs : List (Nat × Res K V)) (p : Park K V) (pc : Nat) : Prop :=
  (pc = X.a → (∃ l, p = .want l (.roTree true X.start)) ∨ (∃ l hold w, p = .want l (.roNode true X.start hold w))) ∧
  (X.a < pc → CurOps X.prog X.a (pc + 1) →
    (p = .yielded .paused ∧ X.prog[pc]? = some .pause ∧ SessSt X T cur exh rs pc) ∨
    (∃ l leaf nx, p = .want l (.hop leaf nx) ∧ X.prog[pc]? = some .scan ∧
      ∃ b i, Open X T true cur exh rs pc b leaf i))

/-- the invariant of the loop of operations of one step of thread `j` -/
def SLoopI (X : SCtx K V) (T : Tree K V) (s : St K V) (fl : Flow K V) (pc : Nat) : Prop :=
  s.tree = T ∧
  match fl with
  | .done r => Mid X T s.cursor s.exhausted ((pc, r) :: rets X.j s.evs) (pc + 1)
  | .panic => (∀ i r, (i, r) ∈ rets X.j s.evs → i < pc) ∧ LogOk X (rets X.j s.evs)
  | .park p => parkLive p ∧ (∀ i r, (i, r) ∈ rets X.j s.evs → i < pc) ∧ LogOk X (rets X.j s.evs) ∧
      PkSess X T s.cursor s.exhausted (rets X.j s.evs) p pc

theorem SLoopI.done {X : SCtx K V} {T : Tree K V} {s : St K V} {r : Res K V} {pc : Nat} (hT : s.tree = T)
    (h : Mid X T s.cursor s.exhausted ((pc, r) :: rets X.j s.evs) (pc + 1)) : SLoopI X T s (.done r) pc := ⟨hT, h⟩

theorem SLoopI.panic {X : SCtx K V} {T : Tree K V} {s : St K V} {pc : Nat} (hT : s.tree = T)
    (hr1 : ∀ i r, (i, r) ∈ rets X.j s.evs → i < pc) (h : LogOk X (rets X.j s.evs)) : SLoopI X T s .panic pc :=
  ⟨hT, hr1, h⟩

theorem SLoopI.park {X : SCtx K V} {T : Tree K V} {s : St K V} {p : Park K V} {pc : Nat} (hT : s.tree = T)
    (hl : parkLive p) (hr1 : ∀ i r, (i, r) ∈ rets X.j s.evs → i < pc) (hlog : LogOk X (rets X.j s.evs))
    (hpk : PkSess X T s.cursor s.exhausted (rets X.j s.evs) p pc) : SLoopI X T s (.park p) pc :=
  ⟨hT, hl, hr1, hlog, hpk⟩

/-- the invariant of thread `j` between two scheduler steps -/
def ThInv (X : SCtx K V) (T : Tree K V) (th : Thread K V) (rs : List (Nat × Res K V)) : Prop :=
  th.prog = X.prog ∧ LogOk X rs ∧
  match th.park with
  | .start => ∀ i r, (i, r) ∉ rs
  | .finished => True
  | .want l k => (∀ i r, (i, r) ∈ rs → i < th.pc) ∧ PkSess X T th.cursor th.exhausted rs (.want l k) th.pc
  | .yielded k => (∀ i r, (i, r) ∈ rs → i < th.pc) ∧ PkSess X T th.cursor th.exhausted rs (.yielded k) th.pc

end Gobptree.Conc
