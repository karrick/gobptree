/-
  Interface between the per-block lemmas (what one uninterrupted stretch of a thread's
  code does to the structural invariant) and the step-level assembly.
-/
import Gobptree.Proofs.CSDefs

namespace Gobptree.Conc
open Gobptree

variable {K V : Type}

theorem NodeOcc.mono {o m m' : Nat} {sh : Shallow K V} (h : NodeOcc o m sh) (hm : m' ≤ m) : NodeOcc o m' sh :=
  ⟨h.1, Nat.le_trans hm h.2.1, h.2.2⟩

structure Pre (P : Params K) (hole : Option Nat) (s : St K V) : Prop where
  tree  : TreeOk hole s.tree
  order : s.tree.order = P.order
  pad   : PadOk P

def kontHole : Kont K V → Option Nat
  | .delRight _ _ fr _ _ => some fr.child
  | _ => none

def flowHole : Flow K V → Option Nat
  | .park p => parkHole p
  | _ => none

def isHopK : Kont K V → Bool
  | .hop _ _ => true
  | _ => false

def isDelK : Kont K V → Bool
  | .delTree _ => true
  | .delRoot _ _ => true
  | .delLeft _ _ _ _ _ _ => true
  | .delChild _ _ _ _ _ _ _ => true
  | .delRight _ _ _ _ _ => true
  | _ => false

def isDelPark : Park K V → Bool
  | .want _ k => isDelK k
  | .yielded k => isDelK k
  | _ => false

def flowIsHop : Flow K V → Bool
  | .park p => isHop p
  | _ => false

def parkLive : Park K V → Prop
  | .want _ _ => True
  | .yielded _ => True
  | _ => False

/-- `H` contains every mutex the thread holds while it runs continuation `k` -/
def Covers (H : List Lk) (cursor : Option (Option Nat × Int)) (k : Kont K V) : Prop :=
  (∀ l ∈ kontHeld k, l ∈ H) ∧ (∀ l, kontLock k = some l → l ∈ H) ∧ (∀ l ∈ cursorLocks cursor, l ∈ H)

/-- what a stretch of code run by a thread that never holds more than `H` guarantees.
    Third part of `kont`: whatever the continuation relies on without holding it was allocated
    by this very stretch.  `cursor` is stated with `hopping = false`: the cursor hop is only ever
    started by `startOp`, never the outcome of a `resume` (`resume_not_hop`, CSThread). -/
structure Post (H : List Lk) (hole' : Option Nat) (s s' : St K V) (fl : Flow K V) : Prop where
  nopanic : fl ≠ .panic
  tree    : TreeOk hole' s'.tree
  frame   : FrameEq (keepOf H s.tree.nextId) s.tree.flat s'.tree.flat
  nextId  : s.tree.nextId ≤ s'.tree.nextId
  root    : Lk.tree ∈ H ∨ (s'.tree.rootId = s.tree.rootId ∧ s'.tree.depth = s.tree.depth)
  order   : s'.tree.order = s.tree.order
  kont    : ∀ p, fl = .park p → parkKontOk s'.tree p ∧ ParkPre s'.cursor p ∧
              ∀ x ∈ parkExtra s'.tree p, s.tree.nextId ≤ x
  cursor  : CursorOk s'.tree false s'.cursor

end Gobptree.Conc
