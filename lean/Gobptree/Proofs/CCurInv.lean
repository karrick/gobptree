/-
  C04, the invariant: in every reachable configuration the open cursor of every thread is
  positioned with respect to some bound (`CursorPosW`; `CursorPos` unless it waits in a hop).
-/
import Gobptree.Proofs.CCurCall
import Gobptree.Proofs.CKFull

namespace Gobptree.Conc
open Gobptree

variable {K V : Type} {lt : K → K → Bool}

def CurW (lt : K → K → Bool) (T : Tree K V) : Option (Option Nat × Int) → Prop
  | some (some leaf, i) => ∃ b, CurPosW lt T b leaf i
  | _ => True

theorem cursorPosW_iff (T : Tree K V) (th : Thread K V) : CursorPosW lt T th ↔ CurW lt T th.cursor := Iff.rfl

theorem curW_of_noLocks (T : Tree K V) (c : Option (Option Nat × Int)) (h : cursorLocks c = []) : CurW lt T c := by
  match c, h with
  | none, _ => trivial
  | some (none, _), _ => trivial
  | some (some _, _), h => simp [cursorLocks] at h

/-- what a stretch of the stepping thread hands on: it has left the tree at `T`, with the
    cursor inside its leaf (at its end when the flow parks for the hop) and positioned -/
structure CurI (lt : K → K → Bool) (T : Tree K V) (s : St K V) (fl : Flow K V) : Prop where
  tree : s.tree = T
  cok : CursorOk T (flowIsHop fl) s.cursor
  pos : CurW lt T s.cursor

theorem startOp_pair_state (t : Nat) (s : St K V) :
    (startOp t s .pair).1 = s ∧ flowIsHop (startOp t s .pair).2 = false := by
  have h := startOp_pair t s
  generalize startOp t s .pair = r at h ⊢
  cases h <;> exact ⟨rfl, rfl⟩

theorem startOp_curI (h : SWO lt) (t : Nat) {T : Tree K V} {hole : Option Nat} (hok : TreeOk hole T)
    (hord : OrdTree lt T) {s : St K V} {r : Res K V} (hi : CurI lt T s (.done r)) (op : COp K V) :
    CurI lt T (startOp t s op).1 (startOp t s op).2 := by
  obtain ⟨hT, hc, hw⟩ := hi
  have hc : CursorOk T false s.cursor := hc
  suffices CursorOk T (flowIsHop (startOp t s op).2) (startOp t s op).1.cursor ∧ CurW lt T (startOp t s op).1.cursor from
    ⟨by rw [startOp_tree, hT], this.1, this.2⟩
  cases hf : firstKont op with
  | some k =>
    rw [startOp_point t s hf]
    have : isHopK k = false := by cases op <;> cases hf <;> rfl
    split
    · exact ⟨hc, hw⟩
    · exact ⟨by show CursorOk T (isHop (.want .tree k)) s.cursor; rw [isHop_want, this]; exact hc, hw⟩
  | none =>
    rcases firstKont_none hf with rfl | rfl | rfl | rfl
    ·
      by_cases hopen : ∃ leaf i, s.cursor = some (some leaf, i) ∧ s.exhausted = false
      · obtain ⟨leaf, i, hcur, hex⟩ := hopen
        rw [hcur] at hc hw
        obtain ⟨b, hb⟩ := hw
        obtain ⟨_, _, _, _, ⟨e, k, _, _, _, _, hcp⟩ | ⟨e, _⟩ | ⟨nx, e, _, hco, hp⟩⟩ :=
          scan_rest h t hok hord ⟨hT, hcur, hex, hc, hb⟩
        · rw [e]; exact ⟨hcp.cursorOk, _, hcp.weaken⟩
        · rw [e]; exact ⟨trivial, trivial⟩
        · rw [e]; exact ⟨hco, b, hp⟩
      · rw [startOp_closed t s (.inl rfl) hopen]; exact ⟨hc, hw⟩
    · obtain ⟨h1, h2⟩ := startOp_pair_state t s
      rw [h1, h2]; exact ⟨hc, hw⟩
    · simp only [startOp]
      split
      · exact ⟨hc, hw⟩
      · exact ⟨trivial, trivial⟩
    · exact ⟨hc, hw⟩

/-- where a resumed continuation leaves the cursor it is positioned: only NewScanner's arrival at the
    leaf and the hop assign it, and what they assign is positioned (`ns_arrive`, `resume_hop`) -/
theorem resume_curW (P : Params K) (hK : KParams lt P) (t : Nat) (s : St K V) (k : Kont K V)
    {hole : Option Nat} (hok : TreeOk hole s.tree) (hord : OrdTree lt s.tree)
    (hk : KontOk s.tree k) (hkp : KontPre s.cursor k) (hpos : KPos lt s.tree k) (hw : CurW lt s.tree s.cursor) :
    CurW lt (resume P t s k).1.tree (resume P t s k).1.cursor := by
  by_cases hset : setsCursor k = false
  · -- the cursor is not touched; unless the thread pauses between two calls, it has none open
    rw [(resume_cursor_same P t s k hset).1]
    cases k with
    | paused => exact hw
    | hop cur next => cases hset
    | roNode sc key hold want => exact curW_of_noLocks _ _ (by cases sc <;> exact hkp)
    | _ => exact curW_of_noLocks _ _ hkp
  · cases k with
    | hop cur next =>
      obtain ⟨_, _, h3, _, _, _, _, _, _, _, hcp, _⟩ := resume_hop hK.swo P t s cur next hok hord hk
      rw [h3]
      exact ⟨_, hcp.weaken⟩
    | roNode sc key hold want =>
      cases sc with
      | false => exact absurd rfl hset
      | true =>
        obtain ⟨hT, ⟨hcs, _⟩ | ⟨i, _, hci, _, hcp⟩⟩ := ns_arrive P hK t s key hold want hok hord hk hpos
        · rw [hcs]; exact curW_of_noLocks _ _ hkp
        · rw [hci, hT]; exact ⟨_, hcp.weaken⟩
    | _ => exact absurd rfl hset

theorem other_curPosW {c c' : Config K V} (hinv : CInv c) {t j : Nat} {th b : Thread K V}
    (ht : c.threads[t]? = some th) (hj : c.threads[j]? = some b) (hne : j ≠ t) (hen : th.enabled c = true)
    (hframe : StepFrame c c' th) (hst : StableRoutes lt (stepHeld th) c.tree c'.tree)
    {leaf : Nat} {i : Int} (hcur : b.cursor = some (some leaf, i)) {bd : Bound K}
    (hp : CurPosW lt c.tree bd leaf i) : CurPosW lt c'.tree bd leaf i :=
  (other_keptK hinv.s ht hj hne hen hframe hst).curPosW (hinv.s.cfg b (List.mem_of_getElem? hj)) hcur hp

theorem step_stable_routes (B : KBlocks K V) (lt : K → K → Bool) (c c' : Config K V) (t : Nat)
    (hstep : c.step t = some c') (h : KFInv lt c) :
    ∀ th, c.threads[t]? = some th → StableRoutes lt (stepHeld th) c.tree c'.tree := by
  obtain ⟨th, r, G, _⟩ := step_kfinv_routes B hstep h
  intro th0 ht0
  cases G.the ht0
  exact G.routes

theorem resumed_state {c c' : Config K V} {t : Nat} {th : Thread K V} {r : Thread K V × St K V × Bool}
    (F : CStep c c' t th r) (h : KFInv lt c) (hw : ∀ th ∈ c.threads, CursorPosW lt c.tree th)
    {k : Kont K V} (hp : th.park.kont? = some k) :
    CurI lt c'.tree (resume c.P t (stepSt c t th) k).1 (resume c.P t (stepSt c t th) k).2 := by
  obtain ⟨hpre, R⟩ := F.ready hp
  obtain ⟨hT, hc⟩ := F.resumed_cursorOk hp
  have hres := resume_curW c.P h.kp t (stepSt c t th) k hpre.tree h.kinv.ord
    R.kok R.pre (kpos_of_park h.kinv F.get hp) ((cursorPosW_iff _ _).1 (hw th F.mem))
  rw [hT] at hres
  exact ⟨hT, by rw [resume_not_hop]; exact hc, hres⟩

theorem started_state {c c' : Config K V} {t : Nat} {th : Thread K V} {r : Thread K V × St K V × Bool}
    (F : CStep c c' t th r) (hw : ∀ th ∈ c.threads, CursorPosW lt c.tree th) (hp : th.park = .start) :
    CurI lt c'.tree ((stepSt c t th).note t (.inv 0)) (.done .ok) := by
  rw [F.tree_start hp]
  exact ⟨rfl, by have := (F.inv.s.threads th F.mem).2; rw [hp] at this; exact this,
    (cursorPosW_iff _ _).1 (hw th F.mem)⟩

theorem step_cursorPosW (B : KBlocks K V) (lt : K → K → Bool) (c c' : Config K V) (t : Nat)
    (hstep : c.step t = some c') (h : KFInv lt c) (hw : ∀ th ∈ c.threads, CursorPosW lt c.tree th) :
    ∀ th ∈ c'.threads, CursorPosW lt c'.tree th := by
  obtain ⟨th, r, F, h'⟩ := step_kfinv_routes B hstep h
  have hS := h.cinv.s
  have hswo := h.kp.swo
  refine F.all ((cursorPosW_iff _ _).2 ?_) fun j b hne hj => ?_
  · -- the stepping thread: `CurI` is the loop invariant
    rw [F.run]
    refine runThread_induct c.P t th (stepSt c t th) (fun s fl _ => CurI lt c'.tree s fl)
      (fun r => CurW lt c'.tree r.1.cursor)
      (fun _ _ _ hi => hi.pos) (fun _ _ hi => hi.pos) (fun _ _ _ hi _ => hi.pos)
      (fun s r pc op hi _ => startOp_curI hswo t h'.cinv.s.tree h'.kinv.ord
        (s := (s.note t (.ret pc r)).note t (.inv (pc + 1))) (r := r) ⟨hi.tree, hi.cok, hi.pos⟩ op)
      (fun hp => absurd hp F.nf) ?_ ?_ (fun k hk => resumed_state F.toCStep h hw hk)
    · intro hp _
      exact (started_state F.toCStep hw hp).pos
    · intro op hp _
      exact startOp_curI hswo t h'.cinv.s.tree h'.kinv.ord (started_state F.toCStep hw hp) op
  · -- the others: the same bound, by the frame lemma
    refine cursorPosW_iff_forall.2 fun leaf i hcur => ?_
    obtain ⟨bd, hbd⟩ := cursorPosW_iff_forall.1 (hw b (List.mem_of_getElem? hj)) leaf i hcur
    exact ⟨bd, (F.keptK hne hj).curPosW (hS.cfg b (List.mem_of_getElem? hj)) hcur hbd⟩

theorem init_cursorPosW (lt : K → K → Bool) (P : Params K) (tree : Tree K V) (progs : List (List (COp K V))) :
    ∀ th ∈ (Config.init P tree progs).threads, CursorPosW lt (Config.init P tree progs).tree th := by
  intro th hth
  obtain ⟨p, _, rfl⟩ := mem_init_threads hth
  trivial

theorem reachable_cursorPosW (B : KBlocks K V) (lt : K → K → Bool) (P : Params K) (tree : Tree K V)
    (progs : List (List (COp K V)))
    (hkp : KParams lt P) (ht : TreeOk none tree) (hord : OrdTree lt tree) (hsep : SepTree lt tree)
    (ho : tree.order = P.order) (hp : PadOk P) (hd : Disciplined progs)
    (hdel : 4 ≤ tree.order ∨ NoDelete progs)
    (c : Config K V) (hr : Reachable (Config.init P tree progs) c) :
    KFInv lt c ∧ ∀ th ∈ c.threads, CursorPosW lt c.tree th := by
  induction hr with
  | refl => exact ⟨init_kfinv lt P tree progs hkp ht hord hsep ho hp hd hdel, init_cursorPosW lt P tree progs⟩
  | @step c1 c2 t _ hs ih => exact ⟨step_kfinv B lt c1 c2 t hs ih.1, step_cursorPosW B lt c1 c2 t hs ih.1 ih.2⟩

theorem reachable_cursorPos (B : KBlocks K V) (lt : K → K → Bool) (P : Params K) (tree : Tree K V)
    (progs : List (List (COp K V)))
    (hkp : KParams lt P) (ht : TreeOk none tree) (hord : OrdTree lt tree) (hsep : SepTree lt tree)
    (ho : tree.order = P.order) (hp : PadOk P) (hd : Disciplined progs)
    (hdel : 4 ≤ tree.order ∨ NoDelete progs)
    (c : Config K V) (hr : Reachable (Config.init P tree progs) c) :
    ∀ th ∈ c.threads, CursorPosW lt c.tree th ∧ (isHop th.park = false → CursorPos lt c.tree th) := by
  obtain ⟨hinv, hw⟩ := reachable_cursorPosW B lt P tree progs hkp ht hord hsep ho hp hd hdel c hr
  intro th hth
  refine ⟨hw th hth, fun hnh => cursorPos_iff_forall.2 fun leaf i hcur => ?_⟩
  have hcok := (hinv.cinv.s.threads th hth).2
  rw [hnh, hcur] at hcok
  obtain ⟨b, hb⟩ := cursorPosW_iff_forall.1 (hw th hth) leaf i hcur
  exact ⟨b, hb.strengthen hinv.kp.swo hinv.cinv.s.tree hinv.kinv.ord hcok⟩

end Gobptree.Conc
