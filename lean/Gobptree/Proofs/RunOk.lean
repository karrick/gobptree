/-
  Every history refines the specification and preserves the invariant.
-/
import Gobptree.Run
import Gobptree.Proofs.Delete
import Gobptree.Proofs.SpecSorted
import Gobptree.Proofs.SearchTree

namespace Gobptree

variable {K V : Type} {lt : K → K → Bool}

structure ParamsOk (lt : K → K → Bool) (P : Params K) : Prop where
  lt_eq : P.lt = lt
  swo : SWO lt
  pad : ∀ k, P.pad (some k) ≠ none
  two_le : 2 ≤ P.order
  even : P.order % 2 = 0

theorem new_ok (o : Nat) : TreeInv lt (Tree.new o : Tree K V) ∧ Node.pairs (Tree.new o : Tree K V).root = [] := by
  refine ⟨⟨?_, rfl⟩, rfl⟩
  show WF lt o 0 0 none none _
  exact ⟨List.Pairwise.nil, rfl, Nat.zero_le _, Nat.le_refl _, fun k hk => absurd hk (List.not_mem_nil)⟩

theorem step_ok (hp : ParamsOk lt P) (t : Tree K V) (hto : t.order = P.order) (hinv : TreeInv lt t)
    (op : Op K V) (hdel : op.isDelete = true → 4 ≤ P.order) :
    ∃ t' : Tree K V,
      t.step P op = .ok (t', (Spec.step lt (Node.pairs t.root) op).2) ∧
      TreeInv lt t' ∧ t'.order = P.order ∧
      Node.pairs t'.root = (Spec.step lt (Node.pairs t.root) op).1 := by
  obtain ⟨hlt, hswo, hpad, ho, hev⟩ := hp
  cases op with
  | insert k v =>
    obtain ⟨t', heq, hinv', hord, hp'⟩ := Tree.upsert_ok hswo P hlt hpad ho hev t hto hinv k (fun _ => v)
    refine ⟨t', ?_, hinv', by rw [hord, hto], hp'⟩
    simp only [Tree.step, Tree.insert, heq, bind, Except.bind, pure, Except.pure, Spec.step]
  | update k f =>
    obtain ⟨t', heq, hinv', hord, hp'⟩ := Tree.upsert_ok hswo P hlt hpad ho hev t hto hinv k f
    refine ⟨t', ?_, hinv', by rw [hord, hto], hp'⟩
    simp only [Tree.step, Tree.update, heq, bind, Except.bind, pure, Except.pure, Spec.step]
  | delete k =>
    obtain ⟨t', heq, hinv', hord, hp'⟩ := Tree.delete_ok hswo P hlt hpad (hdel rfl) hev t hto hinv k
    refine ⟨t', ?_, hinv', by rw [hord, hto], hp'⟩
    simp only [Tree.step, heq, bind, Except.bind, pure, Except.pure, Spec.step]
  | search k =>
    have heq := Tree.search_ok hswo P hlt t hto hinv.1 k
    refine ⟨t, ?_, hinv, hto, rfl⟩
    simp only [Tree.step, heq, bind, Except.bind, pure, Except.pure, Spec.step]

/-- C01 and C08 for a history started on any tree satisfying the invariant.  A Delete needs
    order ≥ 4: at order 2 it can panic (KF-1). -/
theorem run_ok (hp : ParamsOk lt P) (ops : List (Op K V)) :
    ∀ (t : Tree K V), t.order = P.order → TreeInv lt t →
      (∀ op ∈ ops, op.isDelete = true → 4 ≤ P.order) →
      ∃ t' : Tree K V,
        t.run P ops = .ok (t', (Spec.run lt (Node.pairs t.root) ops).2) ∧
        TreeInv lt t' ∧ t'.order = P.order ∧
        Node.pairs t'.root = (Spec.run lt (Node.pairs t.root) ops).1 := by
  induction ops with
  | nil => intro t hto hinv _; exact ⟨t, rfl, hinv, hto, rfl⟩
  | cons op ops ih =>
    intro t hto hinv hdel
    obtain ⟨t1, heq1, hinv1, hto1, hp1⟩ := step_ok hp t hto hinv op (hdel op (by simp))
    obtain ⟨t2, heq2, hinv2, hto2, hp2⟩ := ih t1 hto1 hinv1 (fun o ho => hdel o (by simp [ho]))
    refine ⟨t2, ?_, hinv2, hto2, ?_⟩
    · simp only [Tree.run, heq1, bind, Except.bind, pure, Except.pure, Spec.run]
      rw [hp1] at heq2
      rw [heq2]
    · simp only [Spec.run]
      rw [hp2, hp1]

theorem hdel_of_nodel {ops : List (Op K V)} (hnodel : ∀ op ∈ ops, op.isDelete = false) (n : Nat) :
    ∀ op ∈ ops, op.isDelete = true → 4 ≤ n :=
  fun op hop hd => by rw [hnodel op hop] at hd; exact absurd hd (by decide)

theorem run_new (hp : ParamsOk lt P) (ops : List (Op K V))
    (hdel : ∀ op ∈ ops, op.isDelete = true → 4 ≤ P.order) :
    ∃ t' : Tree K V,
      (Tree.new P.order : Tree K V).run P ops = .ok (t', (Spec.run lt [] ops).2) ∧
      TreeInv lt t' ∧ t'.order = P.order ∧ t'.abs = (Spec.run lt [] ops).1 ∧ KSorted lt t'.abs := by
  obtain ⟨hinv, hnil⟩ := new_ok (lt := lt) (K := K) (V := V) P.order
  obtain ⟨t', heq, hinv', hto, hp'⟩ := run_ok hp ops (Tree.new P.order) rfl hinv hdel
  rw [hnil] at heq hp'
  have habs : t'.abs = (Spec.run lt [] ops).1 := t'.abs_eq_pairs.trans hp'
  exact ⟨t', heq, hinv', hto, habs, habs ▸ Spec.run_sorted hp.swo ops [] List.Pairwise.nil⟩

end Gobptree
