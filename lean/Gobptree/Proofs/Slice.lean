/-
  The Go slice idioms of `Gobptree/Slice.lean` equal the obvious list surgery; on a list
  written as `a ++ x :: b` they act at the pivot `x`.
-/
import Gobptree.Slice

namespace Gobptree

variable {α : Type}

theorem self_form (l : List α) (i : Nat) (hi : i < l.length) :
    l = l.take i ++ l[i] :: l.drop (i + 1) := by
  rw [← List.drop_eq_getElem_cons, List.take_append_drop]

theorem length_take_of_lt (l : List α) (i : Nat) (hi : i < l.length) : (l.take i).length = i :=
  List.length_take_of_le (Nat.le_of_lt hi)

theorem split_at (l : List α) (i : Nat) (hi : i < l.length) :
    ∃ a x b, l = a ++ x :: b ∧ a.length = i :=
  ⟨l.take i, l[i], l.drop (i + 1), self_form l i hi, length_take_of_lt l i hi⟩

theorem getElem?_split (l : List α) (i : Nat) (x : α) (h : l[i]? = some x) :
    ∃ A B, l = A ++ x :: B ∧ A.length = i := by
  obtain ⟨hi, rfl⟩ := List.getElem?_eq_some_iff.1 h
  exact ⟨l.take i, l.drop (i + 1), self_form l i hi, length_take_of_lt l i hi⟩

theorem set_form (l : List α) (i : Nat) (x : α) (hi : i < l.length) :
    l.set i x = l.take i ++ x :: l.drop (i + 1) := by
  rw [List.set_eq_take_append_cons_drop]; simp [hi]

section pivot
variable {a b : List α} {g : Nat}

theorem getElem?_pivot (hg : a.length = g) (x : α) : (a ++ x :: b)[g]? = some x := by
  subst hg; simp

theorem set_pivot (hg : a.length = g) (x y : α) : (a ++ x :: b).set g y = a ++ y :: b := by
  subst hg; rw [List.set_append_right _ _ (Nat.le_refl _), Nat.sub_self]; rfl

/-- `x = append(x, pad); copy(x[g+1:], x[g:]); x[g] = y` puts `y` in front of `x[g:]`: the
    copy moves `b` one place up, over the padding -/
theorem insertIdiom_pivot (hg : a.length = g) (pad y : α) :
    insertIdiom pad (a ++ b) g y = a ++ y :: b := by
  subst hg
  have hn : min ((a ++ b ++ [pad]).length - (a.length + 1)) ((a ++ b ++ [pad]).length - a.length)
      = b.length := by
    simp only [List.length_append, List.length_cons, List.length_nil]; omega
  obtain ⟨z, hz⟩ : ∃ z, (b ++ [pad]).take 1 = [z] := by cases b <;> exact ⟨_, rfl⟩
  have hd : List.drop (a.length + 1 + b.length) (a ++ (b ++ [pad])) = [] :=
    List.drop_eq_nil_of_le (by simp only [List.length_append, List.length_cons, List.length_nil]; omega)
  unfold insertIdiom goCopy
  dsimp only
  rw [hn, List.append_assoc a b, List.drop_left, List.take_left' (l₁ := b) rfl,
    List.take_append, List.take_of_length_le (Nat.le_succ _), Nat.add_sub_cancel_left, hz, hd,
    List.append_assoc, List.append_assoc, List.set_append_right _ _ (Nat.le_refl _), Nat.sub_self]
  simp

/-- `copy(x[g:], x[g+1:]); x = x[:len(x)-1]` drops `x[g]`: the copy moves `b` one place down -/
theorem deleteIdiom_pivot (hg : a.length = g) (x : α) : deleteIdiom (a ++ x :: b) g = a ++ b := by
  subst hg
  have hn : min ((a ++ x :: b).length - a.length) ((a ++ x :: b).length - (a.length + 1))
      = b.length := by
    simp only [List.length_append, List.length_cons]; omega
  have hd : (a ++ x :: b).drop (a.length + 1) = b := by
    rw [List.append_cons, List.drop_left' (by simp)]
  unfold deleteIdiom goCopy
  dsimp only
  rw [hn, List.take_left, hd, List.take_length]
  exact List.take_left' (by simp only [List.length_append, List.length_cons]; omega)

theorem take_drop_pivot (hg : a.length = g) (x : α) : (a ++ x :: b).take g ++ (a ++ x :: b).drop (g + 1) = a ++ b := by
  rw [List.take_left' hg, List.append_cons, List.drop_left' (by rw [List.length_append, hg]; rfl)]

theorem set_next (hg : a.length = g) (x y z : α) :
    (a ++ x :: y :: b).set (g + 1) z = a ++ x :: z :: b := by
  subst hg; simp

theorem insertIdiom_next (hg : a.length = g) (pad x y : α) :
    insertIdiom pad (a ++ x :: b) (g + 1) y = a ++ x :: y :: b := by
  have := insertIdiom_pivot (a := a ++ [x]) (b := b) (g := g + 1) (by simp [hg]) pad y
  simpa using this

theorem deleteIdiom_next (hg : a.length = g) (x y : α) :
    deleteIdiom (a ++ x :: y :: b) (g + 1) = a ++ x :: b := by
  have := deleteIdiom_pivot (a := a ++ [x]) (b := b) (g := g + 1) (by simp [hg]) y
  simpa using this

theorem getElem?_next (hg : a.length = g) (x y : α) : (a ++ x :: y :: b)[g + 1]? = some y := by
  subst hg; simp

end pivot

theorem insertIdiom_eq (pad : α) (l : List α) (i : Nat) (v : α) (h : i ≤ l.length) :
    insertIdiom pad l i v = l.take i ++ v :: l.drop i := by
  have := insertIdiom_pivot (a := l.take i) (b := l.drop i) (g := i) (List.length_take_of_le h) pad v
  rwa [List.take_append_drop] at this

theorem deleteIdiom_eq (l : List α) (i : Nat) (h : i < l.length) :
    deleteIdiom l i = l.take i ++ l.drop (i + 1) := by
  have := deleteIdiom_pivot (b := l.drop (i + 1)) (length_take_of_lt l i h) l[i]
  rwa [← self_form l i h] at this

theorem pushFrontIdiom_eq (pad : α) (l : List α) (v : α) : pushFrontIdiom pad l v = v :: l := by
  rw [pushFrontIdiom, insertIdiom_eq _ _ _ _ (Nat.zero_le _)]; simp

theorem popFrontIdiom_eq (l : List α) : popFrontIdiom l = l.drop 1 := by
  unfold popFrontIdiom
  cases l with
  | nil => simp [deleteIdiom, goCopy]
  | cons a t => rw [deleteIdiom_eq _ _ (by simp)]; simp

theorem length_pivot (a b : List α) (x : α) : (a ++ x :: b).length = a.length + 1 + b.length := by
  simp only [List.length_append, List.length_cons]; omega

theorem length_next (a b : List α) (x y : α) : (a ++ x :: y :: b).length = a.length + 2 + b.length := by
  simp only [List.length_append, List.length_cons]; omega

theorem length_mid (a m b : List α) (x : α) :
    (a ++ x :: (m ++ b)).length = a.length + (m.length + 1) + b.length := by
  simp only [List.length_append, List.length_cons]; omega

theorem snoc_of_length_pos {α : Type} (l : List α) (hl : 1 ≤ l.length) :
    ∃ a x, l = a ++ [x] ∧ a.length + 1 = l.length := by
  have hne : l ≠ [] := fun e => by rw [e] at hl; exact absurd hl (Nat.not_succ_le_zero 0)
  refine ⟨l.dropLast, l.getLast hne, (List.dropLast_concat_getLast hne).symm, ?_⟩
  rw [List.length_dropLast]; exact Nat.sub_add_cancel hl

theorem exists_cons_cons {α : Type} {l : List α} (h : 2 ≤ l.length) : ∃ a b t, l = a :: b :: t := by
  match l, h with
  | a :: b :: t, _ => exact ⟨a, b, t, rfl⟩

end Gobptree
