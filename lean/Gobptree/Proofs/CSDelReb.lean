/-
  `rebalance` on an inner node whose child at `index` is one entry short and whose other
  children hold at least `order/2` entries: it does not panic, and the flat view of the result
  arises from that of the node by a local rewrite.
-/
import Gobptree.Proofs.CSDelNode
import Gobptree.Proofs.RebalanceEq

namespace Gobptree.Conc
open Gobptree

variable {K V : Type}

theorem rw_inner_window {d : Nat} (i i' : Inner K (Node K V d)) (A B ws ws' : List (Node K V d))
    {wr : List Nat} {new : List (Nat × Shallow K V)}
    (hk : i.kids = A ++ ws ++ B) (hk' : i'.kids = A ++ ws' ++ B) (hid : i'.id = i.id)
    (hrw : Rw wr new (ws.flatMap flat) (ws'.flatMap flat))
    (hn : ((flat (d := d + 1) i).map Prod.fst).Nodup) :
    Rw (i.id :: wr) ((i.id, shallow (d := d + 1) i') :: new) (flat (d := d + 1) i) (flat (d := d + 1) i') := by
  have e1 : flat (d := d + 1) i = [(i.id, shallow (d := d + 1) i)] ++
      (A.flatMap flat ++ ws.flatMap flat ++ B.flatMap flat) := by
    rw [flat_inner, hk]; simp [List.flatMap_append]
  have e2 : flat (d := d + 1) i' = [(i.id, shallow (d := d + 1) i')] ++
      (A.flatMap flat ++ ws'.flatMap flat ++ B.flatMap flat) := by
    rw [flat_inner, hk', hid]; simp [List.flatMap_append]
  rw [e1] at hn ⊢
  rw [e2]
  have hs := Rw.single (K := K) (V := V) i.id (shallow (d := d + 1) i) (shallow (d := d + 1) i') rfl
    (fun h => by cases h)
  have hn2 : ((A.flatMap flat ++ ws.flatMap flat ++ B.flatMap flat).map Prod.fst).Nodup := by
    rw [List.map_append, List.nodup_append] at hn
    exact hn.2.1
  exact hs.append (hrw.context _ _ hn2) hn

theorem next_of_chain : ∀ {d : Nat} (a b : Node K V d) (L R X Y : List (Nat × Shallow K V)),
    Chain (X ++ flatLeaves (L ++ (flat a ++ flat b) ++ R) ++ Y) →
    (shallow a).height = 0 → (shallow a).next = some (Node.id b) := by
  intro d
  cases d with
  | succ d => intro a b L R X Y _ h0; cases h0
  | zero =>
    intro a b L R X Y hch _
    have e : X ++ flatLeaves (L ++ (flat a ++ flat b) ++ R) ++ Y =
        (X ++ flatLeaves L) ++ (Node.id a, shallow a) :: (Node.id b, shallow b) :: (flatLeaves R ++ Y) := by
      rw [flatLeaves_append, flatLeaves_append, flat_zero a, flat_zero b]
      have : flatLeaves ([((a : Leaf K V).id, shallow a)] ++ [((b : Leaf K V).id, shallow b)]) =
          [((a : Leaf K V).id, shallow a), ((b : Leaf K V).id, shallow b)] := by
        show flatLeaves [((a : Leaf K V).id, shallow a), ((b : Leaf K V).id, shallow b)] = _
        rw [flatLeaves_cons_leaf _ _ rfl, flatLeaves_cons_leaf _ _ rfl]; rfl
      rw [this]
      simp [List.append_assoc]
    rw [e] at hch
    exact Chain.next_eq _ _ _ hch

theorem flat_window {d : Nat} (i : Inner K (Node K V d)) (A B : List (Node K V d)) (x y : Node K V d)
    (hk : i.kids = A ++ x :: y :: B) :
    flat (d := d + 1) i = ((i.id, shallow (d := d + 1) i) :: A.flatMap flat) ++ (flat x ++ flat y) ++ B.flatMap flat := by
  rw [flat_inner, hk]; simp [List.flatMap_append]

theorem nodup_window {d : Nat} (i : Inner K (Node K V d)) (A B : List (Node K V d)) (x y : Node K V d)
    (hk : i.kids = A ++ x :: y :: B) (hn : ((flat (d := d + 1) i).map Prod.fst).Nodup) :
    ((flat x ++ flat y).map Prod.fst).Nodup := by
  rw [flat_window i A B x y hk] at hn
  refine hn.sublist (List.Sublist.map _ ?_)
  exact (List.sublist_append_right _ _).trans (List.sublist_append_left _ _)

theorem deleteIdiom_length {α : Type} (l : List α) (i : Nat) (h : i < l.length) :
    (deleteIdiom l i).length + 1 = l.length := by
  rw [deleteIdiom_eq _ _ h]
  simp
  omega

structure RebIn (o : Nat) {d : Nat} (i : Inner K (Node K V d)) (index : Nat) (child : Node K V d) : Prop where
  o4 : 4 ≤ o
  even : o % 2 = 0
  par : Par (shallow (d := d + 1) i)
  two : 2 ≤ i.runts.length
  hc : i.kids[index]? = some child
  cocc : NodeOcc o (o / 2 - 1) (shallow child)
  csmall : Node.count child < o / 2
  kocc : ∀ j k, i.kids[j]? = some k → j ≠ index → NodeOcc o (o / 2) (shallow k)
  nodup : ((flat (d := d + 1) i).map Prod.fst).Nodup
  chain : ∃ X Y, Chain (X ++ flatLeaves (flat (d := d + 1) i) ++ Y)

structure RebOut (o : Nat) {d : Nat} (i : Inner K (Node K V d)) (index : Nat) (child : Node K V d)
    (i' : Inner K (Node K V d)) (small' : Bool) (wr : List Nat) (new : List (Nat × Shallow K V)) : Prop where
  id : i'.id = i.id
  rw : Rw wr new (flat (d := d + 1) i) (flat (d := d + 1) i')
  wr_sub : ∀ x ∈ wr, x = i.id ∨ ∃ (j : Nat) (k : Node K V d), i.kids[j]? = some k ∧ Node.id k = x ∧ index ≤ j + 1 ∧ j ≤ index + 1
  child_wr : Node.id child ∈ wr
  new_occ : ∀ e ∈ new, e = (i.id, shallow (d := d + 1) i') ∨
    ((∃ (j : Nat) (k : Node K V d), i.kids[j]? = some k ∧ Node.id k = e.1) ∧ NodeOcc o (o / 2) e.2)
  par : Par (shallow (d := d + 1) i')
  cnt : (small' = false ∧ i'.runts.length = i.runts.length) ∨
    (i'.runts.length + 1 = i.runts.length ∧ small' = decide (i'.runts.length < o / 2))
  new_kid : ∀ e ∈ new, e.1 = i.id ∨ ∃ k ∈ i'.kids, e = (Node.id k, shallow k)
  wr_kid : ∀ k ∈ i.kids, Node.id k ∉ wr → k ∈ i'.kids

theorem half_facts {o c : Nat} (h4 : 4 ≤ o) (he : o % 2 = 0) (h1 : o / 2 - 1 ≤ c) (h2 : c < o / 2) :
    2 ≤ o / 2 ∧ o / 2 + o / 2 = o ∧ c + 1 = o / 2 := by omega

theorem RebIn.lens {o : Nat} {d : Nat} {i : Inner K (Node K V d)} {index : Nat} {child : Node K V d}
    (h : RebIn o i index child) :
    i.runts.length = i.kids.length ∧ index < i.kids.length ∧ 2 ≤ o / 2 ∧ o / 2 + o / 2 = o ∧
      (shallow child).keys.length + 1 = o / 2 := by
  have hp := (par_inner i).1 h.par
  have hidk : index < i.kids.length := (List.getElem?_eq_some_iff.1 h.hc).1
  have hc2 := h.csmall
  rw [count_eq] at hc2
  exact ⟨hp.1, hidk, half_facts h.o4 h.even h.cocc.2.1 hc2⟩

theorem RebIn.chain_window {o : Nat} {d : Nat} {i : Inner K (Node K V d)} {index : Nat} {child : Node K V d}
    (hin : RebIn o i index child) (A B : List (Node K V d)) (x y : Node K V d)
    (hk : i.kids = A ++ x :: y :: B) : (shallow x).height = 0 → (shallow x).next = some (Node.id y) := by
  obtain ⟨X, Y, hch⟩ := hin.chain
  rw [flat_window i A B x y hk] at hch
  exact next_of_chain x y _ _ X Y hch

theorem window_lengths {r r' k a b w : Nat} (hrk : r = k) (hk : k = a + b + 2) (h2 : 2 ≤ r)
    (h : (r' = r ∧ w = 2) ∨ (r' + 1 = r ∧ w = 1)) : r' = a + (w + b) ∧ 1 ≤ r' := by omega

/-- every branch of `rebalance` replaces two adjacent children `x`, `y`, one of them the
    child under repair (the *window* of the rebalancing; elsewhere a window is a segment of the
    flat view), by one or two nodes `ws'` that carry their identities and hold at least
    `order/2` entries, and adjusts the keys; `RebOut` then holds of the node so rebuilt -/
theorem RebIn.window {o : Nat} {d : Nat} {i : Inner K (Node K V d)} {index : Nat} {child : Node K V d}
    (hin : RebIn o i index child) {a b : List (Node K V d)} {x y : Node K V d}
    (hab : i.kids = a ++ x :: y :: b) (hj : index = a.length ∨ index = a.length + 1)
    (runts' : List K) (ws' : List (Node K V d)) (small' : Bool)
    (hrw : Rw [Node.id x, Node.id y] (ws'.map fun k => (Node.id k, shallow k)) (flat x ++ flat y) (ws'.flatMap flat))
    (hws : ∀ k ∈ ws', (Node.id k = Node.id x ∨ Node.id k = Node.id y) ∧ NodeOcc o (o / 2) (shallow k))
    (hcnt : (small' = false ∧ runts'.length = i.runts.length ∧ ws'.length = 2) ∨
      (runts'.length + 1 = i.runts.length ∧ ws'.length = 1 ∧ small' = decide (runts'.length < o / 2))) :
    RebOut o i index child (Inner.mk i.id runts' (a ++ (ws' ++ b))) small' [i.id, Node.id x, Node.id y]
      ((i.id, shallow (d := d + 1) (Inner.mk i.id runts' (a ++ (ws' ++ b)) : Inner K (Node K V d))) ::
        ws'.map fun k => (Node.id k, shallow k)) := by
  have hp := (par_inner i).1 hin.par
  have hkl : i.kids.length = a.length + b.length + 2 := by rw [hab, List.length_append]; rfl
  have hx : i.kids[a.length]? = some x := by rw [hab]; exact getElem?_pivot rfl x
  have hy : i.kids[a.length + 1]? = some y := by rw [hab]; exact getElem?_next rfl x y
  have hj' : a.length ≤ index ∧ index ≤ a.length + 1 := by
    rcases hj with h | h <;> rw [h]
    · exact ⟨Nat.le_refl _, Nat.le_succ _⟩
    · exact ⟨Nat.le_succ _, Nat.le_refl _⟩
  refine ⟨rfl, ?_, ?_, ?_, ?_, ?_, ?_, ?_, ?_⟩
  · refine rw_inner_window i _ a b [x, y] ws' (by rw [hab, List.append_assoc]; rfl) (List.append_assoc _ _ _).symm rfl
      ?_ hin.nodup
    rw [List.flatMap_cons, List.flatMap_cons, List.flatMap_nil, List.append_nil]
    exact hrw
  · intro z hz
    simp only [List.mem_cons, List.not_mem_nil, or_false] at hz
    rcases hz with rfl | rfl | rfl
    · exact Or.inl rfl
    · exact Or.inr ⟨a.length, x, hx, rfl, hj'.2, Nat.le_succ_of_le hj'.1⟩
    · exact Or.inr ⟨a.length + 1, y, hy, rfl, Nat.le_succ_of_le hj'.2, Nat.succ_le_succ hj'.1⟩
  · have hc := hin.hc
    rcases hj with h | h <;> rw [h] at hc
    · rw [hx] at hc; cases hc; exact List.mem_cons_of_mem _ List.mem_cons_self
    · rw [hy] at hc; cases hc; exact List.mem_cons_of_mem _ (List.mem_cons_of_mem _ List.mem_cons_self)
  · intro e he
    rcases List.mem_cons.1 he with rfl | he
    · exact Or.inl rfl
    · obtain ⟨k, hk, rfl⟩ := List.mem_map.1 he
      obtain ⟨hid, hocc⟩ := hws k hk
      refine Or.inr ⟨?_, hocc⟩
      rcases hid with h | h
      · exact ⟨_, x, hx, h.symm⟩
      · exact ⟨_, y, hy, h.symm⟩
  · rw [par_inner]
    show runts'.length = (a ++ (ws' ++ b)).length ∧ 1 ≤ runts'.length
    simp only [List.length_append]
    exact window_lengths hp.1 hkl hin.two (hcnt.imp (fun h => ⟨h.2.1, h.2.2⟩) fun h => ⟨h.1, h.2.1⟩)
  · rcases hcnt with ⟨h0, h1, _⟩ | ⟨h1, _, h3⟩
    · exact Or.inl ⟨h0, h1⟩
    · exact Or.inr ⟨h1, h3⟩
  · intro e he
    rcases List.mem_cons.1 he with rfl | he
    · exact Or.inl rfl
    · obtain ⟨k, hk, rfl⟩ := List.mem_map.1 he
      exact Or.inr ⟨k, List.mem_append_right _ (List.mem_append_left _ hk), rfl⟩
  · intro k hk hw
    rw [hab] at hk
    rcases List.mem_append.1 hk with h | h
    · exact List.mem_append_left _ h
    · rcases List.mem_cons.1 h with rfl | h
      · exact absurd (List.mem_cons_of_mem _ List.mem_cons_self) hw
      · rcases List.mem_cons.1 h with rfl | h
        · exact absurd (List.mem_cons_of_mem _ (List.mem_cons_of_mem _ List.mem_cons_self)) hw
        · exact List.mem_append_right _ (List.mem_append_right _ h)

theorem RebIn.borrow {o : Nat} {d : Nat} {i : Inner K (Node K V d)} {index : Nat} {child : Node K V d}
    (hin : RebIn o i index child) {a b : List (Node K V d)} {x y x' y' : Node K V d}
    (hab : i.kids = a ++ x :: y :: b) (hj : index = a.length ∨ index = a.length + 1)
    (runts' : List K) (hlen : runts'.length = i.runts.length)
    (hidx : Node.id x' = Node.id x) (hidy : Node.id y' = Node.id y)
    (hox : NodeOcc o (o / 2) (shallow x')) (hoy : NodeOcc o (o / 2) (shallow y'))
    (hrw : Rw [Node.id x, Node.id y] [(Node.id x', shallow x'), (Node.id y', shallow y')]
      (flat x ++ flat y) (flat x' ++ flat y')) :
    ∃ wr new, RebOut o i index child (Inner.mk i.id runts' (a ++ x' :: y' :: b)) false wr new := by
  refine ⟨_, _, hin.window hab hj runts' [x', y'] false (by simpa using hrw) ?_ (Or.inl ⟨rfl, hlen, rfl⟩)⟩
  intro k hk
  simp only [List.mem_cons, List.not_mem_nil, or_false] at hk
  rcases hk with rfl | rfl
  · exact ⟨Or.inl hidx, hox⟩
  · exact ⟨Or.inr hidy, hoy⟩

theorem RebIn.merge {o : Nat} {d : Nat} {i : Inner K (Node K V d)} {index : Nat} {child : Node K V d}
    (hin : RebIn o i index child) {a b : List (Node K V d)} {x y : Node K V d}
    (hab : i.kids = a ++ x :: y :: b) (hj : index = a.length ∨ index = a.length + 1)
    (hx : Par (shallow x)) (hy : Par (shallow y))
    (hlo : o / 2 ≤ Node.count x + Node.count y) (hhi : Node.count x + Node.count y ≤ o) :
    ∃ m, Node.absorbRight x y = .ok m ∧
      deleteIdiom (i.kids.set a.length m) (a.length + 1) = a ++ m :: b ∧
      ∃ wr new, RebOut o i index child (Inner.mk i.id (deleteIdiom i.runts (a.length + 1)) (a ++ m :: b))
        (decide ((deleteIdiom i.runts (a.length + 1)).length < o / 2)) wr new := by
  obtain ⟨m, habs, hidm, hcm, hpm, hrw⟩ :=
    absorbRight_rw x y hx hy (hin.chain_window a b x y hab) (nodup_window i a b x y hab hin.nodup)
  have hp := (par_inner i).1 hin.par
  have hl := deleteIdiom_length i.runts (a.length + 1) (by rw [hp.1, hab]; simp)
  refine ⟨m, habs, by rw [hab, set_pivot rfl, deleteIdiom_next rfl], _, _,
    hin.window hab hj _ [m] _ (by simpa using hrw) ?_ (Or.inr ⟨hl, rfl, rfl⟩)⟩
  intro k hk
  rw [List.mem_singleton.1 hk]
  rw [← hcm] at hlo hhi
  exact ⟨Or.inl hidm, NodeOcc.of_count hpm hhi hlo⟩

theorem borrow_counts {o a c a' c' : Nat} (hoo : o / 2 + o / 2 = o) (ha : o / 2 < a) (hao : a ≤ o)
    (hc : c + 1 = o / 2) (ha' : a' + 1 = a) (hc' : c' = c + 1) :
    (a' ≤ o ∧ o / 2 ≤ a') ∧ c' ≤ o ∧ o / 2 ≤ c' := by omega

theorem merge_counts {o a c : Nat} (hoo : o / 2 + o / 2 = o) (h2 : 2 ≤ o / 2) (ha : a ≤ o / 2) (ha2 : o / 2 ≤ a)
    (hc : c + 1 = o / 2) : (o / 2 ≤ a + c ∧ a + c ≤ o) ∧ (o / 2 ≤ c + a ∧ c + a ≤ o) ∧ 0 < a := by omega

theorem rebalance_borrowR (P : Params K) (o : Nat) {d : Nat} (i : Inner K (Node K V d)) (index : Nat)
    (child right : Node K V d) (hin : RebIn o i index child)
    (hR : index + 1 < i.runts.length) (hright : i.kids[index + 1]? = some right)
    (hRc : Node.count right > o / 2) :
    ∃ a b c' r' sm, i.kids = a ++ child :: right :: b ∧ a.length = index ∧
      Node.adoptFromRight child right = .ok (c', r') ∧ Node.smallest r' = .ok sm ∧
      rebalance P {} (o / 2) i index child =
        .ok (Inner.mk i.id (i.runts.set (index + 1) sm) (a ++ c' :: r' :: b), false) ∧
      ∃ wr new, RebOut o i index child (Inner.mk i.id (i.runts.set (index + 1) sm) (a ++ c' :: r' :: b)) false wr new := by
  obtain ⟨hlen, hidk, hh2, hoo, hcc⟩ := hin.lens
  have hro := hin.kocc (index + 1) right hright (Nat.succ_ne_self index)
  obtain ⟨a, b, hab, rfl⟩ := split_two i.kids index child right hin.hc hright
  obtain ⟨c', r', sm, hadopt, hsm, hidc, hidr, hcc', hcr', hpc, hpr, hrw⟩ :=
    adoptFromRight_rw child right hin.cocc.par hro.par (Nat.le_trans hh2 (Nat.le_of_lt hRc))
      (nodup_window i a b child right hab hin.nodup)
  have hrc := hro.1
  rw [← count_eq] at hrc hcc
  have heq := rebalance_of (P := P) (vr := {}) (.borrowRight right c' r' sm hR hright hRc hadopt hsm)
  rw [hab, set_pivot rfl, set_next rfl] at heq
  have hb := borrow_counts hoo hRc hrc hcc hcr' hcc'
  exact ⟨a, b, c', r', sm, hab, rfl, hadopt, hsm, heq, hin.borrow hab (Or.inl rfl) _ (List.length_set ..) hidc hidr
    (NodeOcc.of_count hpc hb.2.1 hb.2.2) (NodeOcc.of_count hpr hb.1.1 hb.1.2) hrw⟩

theorem rebalance_mergeR (P : Params K) (o : Nat) {d : Nat} (i : Inner K (Node K V d)) (index : Nat)
    (child right : Node K V d) (hin : RebIn o i index child)
    (hR : index + 1 < i.runts.length) (hright : i.kids[index + 1]? = some right)
    (hRc : Node.count right ≤ o / 2) (hL : index = 0) :
    ∃ a b m, i.kids = a ++ child :: right :: b ∧ a.length = index ∧
      Node.absorbRight child right = .ok m ∧
      rebalance P {} (o / 2) i index child =
        .ok (Inner.mk i.id (deleteIdiom i.runts (index + 1)) (a ++ m :: b),
          decide ((deleteIdiom i.runts (index + 1)).length < o / 2)) ∧
      ∃ wr new, RebOut o i index child (Inner.mk i.id (deleteIdiom i.runts (index + 1)) (a ++ m :: b))
        (decide ((deleteIdiom i.runts (index + 1)).length < o / 2)) wr new := by
  obtain ⟨hlen, hidk, hh2, hoo, hcc⟩ := hin.lens
  have hro := hin.kocc (index + 1) right hright (Nat.succ_ne_self index)
  obtain ⟨a, b, hab, rfl⟩ := split_two i.kids index child right hin.hc hright
  have hrc := hro.2.1
  rw [← count_eq] at hrc hcc
  have hb := merge_counts hoo hh2 hRc hrc hcc
  obtain ⟨m, habs, hk', hout⟩ := hin.merge hab (Or.inl rfl) hin.cocc.par hro.par hb.2.1.1 hb.2.1.2
  have heq := rebalance_of (P := P) (vr := {}) (.mergeRight right m hR hright hRc (Nat.ne_of_gt hb.2.2)
    (fun h0 => absurd (hL ▸ h0) (Nat.lt_irrefl 0)) habs (hlen ▸ hR))
  rw [hk'] at heq
  exact ⟨a, b, m, hab, rfl, habs, heq, hout⟩

theorem rebalance_left (P : Params K) (hp : PadOk P) (o : Nat) {d : Nat} (i : Inner K (Node K V d)) (j : Nat)
    (child left : Node K V d) (hin : RebIn o i (j + 1) child)
    (hnoR : j + 1 + 1 < i.runts.length → ∃ right, i.kids[j + 1 + 1]? = some right ∧ Node.count right ≤ o / 2)
    (hleft : i.kids[j]? = some left) :
    ∃ a b, i.kids = a ++ left :: child :: b ∧ a.length = j ∧
      ((Node.count left > o / 2 ∧ ∃ l' c' sm, Node.adoptFromLeft P left child = .ok (l', c') ∧ Node.smallest c' = .ok sm ∧
          rebalance P {} (o / 2) i (j + 1) child =
            .ok (Inner.mk i.id (i.runts.set (j + 1) sm) (a ++ l' :: c' :: b), false) ∧
          ∃ wr new, RebOut o i (j + 1) child (Inner.mk i.id (i.runts.set (j + 1) sm) (a ++ l' :: c' :: b)) false wr new) ∨
       (Node.count left ≤ o / 2 ∧ ∃ m, Node.absorbRight left child = .ok m ∧
          rebalance P {} (o / 2) i (j + 1) child =
            .ok (Inner.mk i.id (deleteIdiom i.runts (j + 1)) (a ++ m :: b),
              decide ((deleteIdiom i.runts (j + 1)).length < o / 2)) ∧
          ∃ wr new, RebOut o i (j + 1) child (Inner.mk i.id (deleteIdiom i.runts (j + 1)) (a ++ m :: b))
            (decide ((deleteIdiom i.runts (j + 1)).length < o / 2)) wr new)) := by
  obtain ⟨hlen, hidk, hh2, hoo, hcc⟩ := hin.lens
  have hlo := hin.kocc j left hleft (Nat.ne_of_lt (Nat.lt_succ_self j))
  obtain ⟨a, b, hab, rfl⟩ := split_two i.kids j left child hleft hin.hc
  have hlc1 := hlo.1
  have hlc2 := hlo.2.1
  rw [← count_eq] at hlc1 hlc2 hcc
  refine ⟨a, b, hab, rfl, ?_⟩
  by_cases hLc : Node.count left > o / 2
  · obtain ⟨l', c', sm, hadopt, hsm, hidl, hidc, hcl', hcc', hpl, hpc, hrw⟩ :=
      adoptFromLeft_rw P hp left child hlo.par hin.cocc.par (Nat.le_trans hh2 (Nat.le_of_lt hLc))
        (Nat.le_of_succ_le_succ (show 1 + 1 ≤ Node.count child + 1 from hcc.symm ▸ hh2)) (nodup_window i a b left child hab hin.nodup)
    have heq := rebalance_of (P := P) (vr := {}) (.borrowLeft left l' c' _ hnoR (Nat.succ_pos _) hleft hLc hadopt
      (by rw [if_neg (by decide)]; exact ⟨sm, hsm, hlen ▸ hidk, rfl⟩))
    rw [Nat.add_sub_cancel, hab, set_pivot rfl, set_next rfl] at heq
    have hb := borrow_counts hoo hLc hlc1 hcc hcl' hcc'
    exact Or.inl ⟨hLc, l', c', sm, hadopt, hsm, heq, hin.borrow hab (Or.inr rfl) _ (List.length_set ..) hidl hidc
      (NodeOcc.of_count hpl hb.1.1 hb.1.2) (NodeOcc.of_count hpc hb.2.1 hb.2.2) hrw⟩
  · have hb := merge_counts hoo hh2 (Nat.le_of_not_lt hLc) hlc2 hcc
    obtain ⟨m, habs, hk', hout⟩ := hin.merge hab (Or.inr rfl) hlo.par hin.cocc.par hb.1.1 hb.1.2
    have heq := rebalance_of (P := P) (vr := {}) (.mergeLeft left m hnoR (Nat.succ_pos _) hleft (Nat.le_of_not_lt hLc)
      hb.2.2 habs (hlen ▸ hidk) hidk)
    rw [Nat.add_sub_cancel, hk'] at heq
    exact Or.inr ⟨Nat.le_of_not_lt hLc, m, habs, heq, hout⟩

theorem rebalance_rw (P : Params K) (hp : PadOk P) (o : Nat) {d : Nat} (i : Inner K (Node K V d)) (index : Nat)
    (child : Node K V d) (hin : RebIn o i index child) :
    ∃ i' small' wr new, rebalance P {} (o / 2) i index child = .ok (i', small') ∧
      RebOut o i index child i' small' wr new := by
  obtain ⟨hlen, hidk, _⟩ := hin.lens
  have left : 0 < index →
      (index + 1 < i.runts.length → ∃ right, i.kids[index + 1]? = some right ∧ Node.count right ≤ o / 2) →
      ∃ i' small' wr new, rebalance P {} (o / 2) i index child = .ok (i', small') ∧
        RebOut o i index child i' small' wr new := by
    intro hL
    obtain ⟨j, rfl⟩ : ∃ j, index = j + 1 := ⟨index - 1, (Nat.sub_add_cancel hL).symm⟩
    intro hnoR
    obtain ⟨l, hl⟩ : ∃ l, i.kids[j]? = some l := ⟨i.kids[j]'(Nat.lt_of_succ_lt hidk), List.getElem?_eq_getElem _⟩
    obtain ⟨_, _, _, _, ⟨_, _, _, _, _, _, heq, wr, new, hout⟩ | ⟨_, _, _, heq, wr, new, hout⟩⟩ :=
      rebalance_left P hp o i j child l hin hnoR hl
    · exact ⟨_, _, wr, new, heq, hout⟩
    · exact ⟨_, _, wr, new, heq, hout⟩
  by_cases hR : index + 1 < i.runts.length
  · obtain ⟨right, hright⟩ : ∃ r, i.kids[index + 1]? = some r :=
      ⟨i.kids[index + 1]'(hlen ▸ hR), List.getElem?_eq_getElem _⟩
    by_cases hRc : Node.count right > o / 2
    · obtain ⟨_, _, _, _, _, _, _, _, _, heq, wr, new, hout⟩ := rebalance_borrowR P o i index child right hin hR hright hRc
      exact ⟨_, _, wr, new, heq, hout⟩
    · by_cases hL : 0 < index
      · exact left hL fun _ => ⟨right, hright, Nat.le_of_not_lt hRc⟩
      · obtain ⟨_, _, _, _, _, _, heq, wr, new, hout⟩ :=
          rebalance_mergeR P o i index child right hin hR hright (Nat.le_of_not_lt hRc) (Nat.eq_zero_of_not_pos hL)
        exact ⟨_, _, wr, new, heq, hout⟩
  · exact left (Nat.pos_of_ne_zero fun e => hR (by rw [e]; exact hin.two)) fun h => absurd h hR

end Gobptree.Conc
