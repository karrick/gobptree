/-
  C03, "a Search never misses a key that is present throughout the Search", on RUNS.

  Along every run (`RunFrom init (c :: hist)`: the configurations visited, newest first) the
  response of a `get k` is `Spec.lookup` of `k` in the abstract map of a configuration `d` THE RUN
  VISITED while the call was open: the `inv` note of the call is in `d.log`, its `ret` note is not.
  (`run_lininv_of`: one decorated history for the whole run, every linearization point placed at a
  configuration the run visited, `LinAt`; the Search's point is such a `d`.)

  Also the run-level criterion for `SettledBefore` (`settledBefore_of_moment`).
-/
import Gobptree.Proofs.CNoLossLin
import Gobptree.Proofs.CHeldTrace

namespace Gobptree.Conc
open Gobptree Gobptree.Lin

variable {K V : Type}

theorem hx_ret_of_note (progs : Nat → List (COp K V)) {t i : Nat} {cop : COp K V} {r : Res K V} {out : Out V}
    (hc : (progs t)[i]? = some cop) (ho : ∀ cb, outOf cop r cb = some out) (evs : List (Ev K V))
    (h : Ev.note t (.ret i r) ∈ evs) : HEv.ret t i out ∈ (hx progs evs).evs := by
  obtain ⟨post, pre, e⟩ := List.append_of_mem h
  exact mem_hx_ret.2 ⟨r, pre, post, e, by rw [hc]; exact ho _⟩

theorem history_inv_note {c : Config K V} {t i : Nat} {op : Op K V} (h : HEv.inv t i op ∈ history c) :
    Ev.note t (.inv i) ∈ c.log :=
  (mem_hx_inv.1 (show HEv.inv t i op ∈ (hx (progOf c) c.log).evs from h)).1

theorem history_ret_note {c : Config K V} {t i : Nat} {out : Out V} (h : HEv.ret t i out ∈ history c) :
    ∃ r, Ev.note t (.ret i r) ∈ c.log := by
  obtain ⟨r, pre, post, e, _⟩ := mem_hx_ret.1 (show HEv.ret t i out ∈ (hx (progOf c) c.log).evs from h)
  exact ⟨r, by rw [e]; exact List.mem_append_right _ List.mem_cons_self⟩

theorem step_history_prefix {c c' : Config K V} {t : Nat} (hstep : c.step t = some c') :
    ∃ ext, history c' = history c ++ ext := by
  obtain ⟨new, hn⟩ := step_log_grows hstep
  show ∃ ext, (hxRun c').evs = (hxRun c).evs ++ ext
  rw [hxRun_eq, hxRun_eq, step_progOf hstep, hn]
  exact hx_evs_append (progOf c) c.log new

theorem reachable_history_prefix {a b : Config K V} (h : Reachable a b) : ∃ ext, history b = history a ++ ext := by
  induction h with
  | refl => exact ⟨[], (List.append_nil _).symm⟩
  | @step c1 c2 t _ hs ih =>
    obtain ⟨x1, e1⟩ := ih
    obtain ⟨x2, e2⟩ := step_history_prefix hs
    exact ⟨x1 ++ x2, by rw [e2, e1, List.append_assoc]⟩

theorem settledBefore_of_moment {c0 c : Config K V} {hist : List (Config K V)} (hrun : RunFrom c0 (c :: hist))
    {d : Config K V} (hd : d ∈ c :: hist) {t' i' t i : Nat} {out : Out V} {op : Op K V}
    (hret : HEv.ret t' i' out ∈ history d) (hnot : ∀ op', HEv.inv t i op' ∉ history d)
    (hinv : HEv.inv t i op ∈ history c) : SettledBefore (history c) t' i' t i := by
  obtain ⟨ext, he⟩ := reachable_history_prefix (hrun.reach_of_mem d hd)
  rw [he] at hinv ⊢
  exact .inr ⟨out, op, before_append hret ((List.mem_append.1 hinv).resolve_left (hnot op))⟩

/-- every linearization point of the decoration `h` sits AT a configuration `d` of `run`: the call is
    open in `d`, and the operations linearized before it replay to the contents of `d` -/
def LinAt (lt : K → K → Bool) (init : List (K × V)) (run : List (Config K V)) (h : List (HEv K V)) : Prop :=
  ∀ pre x post, linOrder h = pre ++ x :: post → ∃ d ∈ run, (∃ op, HEv.inv x.1 x.2.1 op ∈ history d) ∧
    (∀ o, HEv.ret x.1 x.2.1 o ∉ history d) ∧ d.tree.abs = (Spec.run lt init (pre.map (·.2.2))).1

theorem snoc_eq_split {α : Type} {l pre post : List α} {x y : α} (h : l ++ [y] = pre ++ x :: post) :
    (∃ post0, post = post0 ++ [y] ∧ l = pre ++ x :: post0) ∨ (post = [] ∧ l = pre ∧ x = y) := by
  rcases List.eq_nil_or_concat post with rfl | ⟨post0, b, rfl⟩
  · obtain ⟨h1, h2⟩ := List.append_inj' h rfl
    exact .inr ⟨rfl, h1, (List.cons.inj h2).1.symm⟩
  · rw [List.concat_eq_append] at h ⊢
    have h' : l ++ [y] = (pre ++ x :: post0) ++ [b] := by rw [h, List.append_assoc]; rfl
    obtain ⟨h1, h2⟩ := List.append_inj' h' rfl
    exact .inl ⟨post0, by rw [(List.cons.inj h2).1], h1⟩

theorem run_lininv_of (lt : K → K → Bool) (P : Params K) (tree : Tree K V) (progs : List (List (COp K V)))
    (hI : ∀ c, Reachable (Config.init P tree progs) c → CInv c ∧ ∀ t, StepEff lt c t)
    {c : Config K V} {hist : List (Config K V)} (hrun : RunFrom (Config.init P tree progs) (c :: hist)) :
    ∃ h, LinInv lt tree.abs c h ∧ LinAt lt tree.abs (c :: hist) h := by
  generalize hl : c :: hist = l at hrun
  induction hrun generalizing c hist with
  | init => cases hl; exact ⟨[], init_lininv lt P tree progs, fun pre x post e => by cases pre <;> cases e⟩
  | @step c1 c2 hist' t h1 hs ih =>
    cases hl
    obtain ⟨h, hl, hat⟩ := ih rfl
    have hr1 := h1.reachable
    obtain ⟨h', hl', hx⟩ := step_lininv_ext lt tree.abs c1 c2 t hs (hI c1 hr1).1 ((hI c1 hr1).2 t) h hl
    have old : ∀ pre x post, linOrder h = pre ++ x :: post → ∃ d ∈ c2 :: c1 :: hist', (∃ op, HEv.inv x.1 x.2.1 op ∈ history d) ∧
        (∀ o, HEv.ret x.1 x.2.1 o ∉ history d) ∧ d.tree.abs = (Spec.run lt tree.abs (pre.map (·.2.2))).1 :=
      fun pre x post e => let ⟨d, hd, r⟩ := hat pre x post e; ⟨d, List.mem_cons_of_mem _ hd, r⟩
    refine ⟨h', hl', fun pre x post e => ?_⟩
    rcases hx with hx | ⟨i, op, hop, hnl, hx⟩
    · exact old pre x post (hx ▸ e)
    · rw [hx] at e
      rcases snoc_eq_split e with ⟨post0, _, e0⟩ | ⟨_, rfl, rfl⟩
      · exact old pre x post0 e0
      · -- the new point: the call is open in `c1`, whose contents are the replay of `h`
        refine ⟨c1, List.mem_cons_of_mem _ List.mem_cons_self, ⟨op, ?_⟩, fun o ho => ?_, hl.pts.replay_map.symm⟩
        · obtain ⟨q, hq⟩ := invOp_some hop
          rw [← hl.vis]; exact mem_visible.2 ⟨List.mem_of_getElem? hq, rfl⟩
        · rw [← hl.vis] at ho
          exact hnl (lin_of_ret hl.pts.wf (mem_visible.1 ho).1)

section Run

variable (lt : K → K → Bool) (P : Params K) (tree : Tree K V) (progs : List (List (COp K V)))
  (hkp : KParams lt P) (ht : TreeOk none tree) (hord : OrdTree lt tree) (hsep : SepTree lt tree)
  (ho : tree.order = P.order) (hp : PadOk P) (hd : Disciplined progs)
  (hdel : 4 ≤ tree.order ∨ NoDelete progs)
include hkp ht hord hsep ho hp hd hdel

theorem run_lininv {c : Config K V} {hist : List (Config K V)} (hrun : RunFrom (Config.init P tree progs) (c :: hist)) :
    ∃ h, LinInv lt tree.abs c h ∧ LinAt lt tree.abs (c :: hist) h :=
  run_lininv_of lt P tree progs (fun c hr =>
    have hk := reachable_kfinv' lt P tree progs hkp ht hord hsep ho hp hd hdel c hr
    ⟨hk.cinv, fun t => stepEff_full kblocks_ok lt c t hk⟩) hrun

theorem search_reads_run_config {c : Config K V} {hist : List (Config K V)} (hrun : RunFrom (Config.init P tree progs) (c :: hist))
    {t i : Nat} {k : K} {p : List (COp K V)} (hpt : progs[t]? = some p) (hpi : p[i]? = some (.get k))
    {r : Option V} (hret : Ev.note t (.ret i (.found r)) ∈ c.log) :
    ∃ d ∈ hist, Ev.note t (.inv i) ∈ d.log ∧ Ev.note t (.ret i (.found r)) ∉ d.log ∧
      r = Spec.lookup lt d.tree.abs k := by
  obtain ⟨h, hl, hat⟩ := run_lininv lt P tree progs hkp ht hord hsep ho hp hd hdel hrun
  have hwf := hl.pts.wf
  have hcop : ∀ d ∈ c :: hist, (progOf d t)[i]? = some (.get k) := fun d hd' => by
    rw [progOf_reachable P tree progs d (hrun.reachable_mem d hd') t, hpt]; exact hpi
  have hout : HEv.ret t i (.found r) ∈ h := by
    have h1 : HEv.ret t i (.found r) ∈ history c :=
      hx_ret_of_note (progOf c) (hcop c List.mem_cons_self) (fun _ => rfl) c.log hret
    rw [← hl.vis] at h1
    exact (mem_visible.1 h1).1
  obtain ⟨op, hop⟩ := linOrder_of_lin hwf (lin_of_ret hwf hout)
  have hop' : op = .search k := by
    have h1 : HEv.inv t i op ∈ (hx (progOf c) c.log).evs := by
      show _ ∈ history c
      rw [← hl.vis]; exact mem_visible.2 ⟨linOrder_inv hop, rfl⟩
    have := (mem_hx_inv.1 h1).2
    rw [hcop c List.mem_cons_self] at this
    exact (Option.some.inj this).symm
  subst hop'
  obtain ⟨pre, post, hsplit⟩ := List.append_of_mem hop
  obtain ⟨d, hd', ⟨op', hinv⟩, hnoret, habs⟩ := hat pre _ post hsplit
  have hnot : Ev.note t (.ret i (.found r)) ∉ d.log := fun hm =>
    hnoret _ (hx_ret_of_note (progOf d) (hcop d hd') (fun _ => rfl) d.log hm)
  refine ⟨d, ?_, history_inv_note hinv, hnot, ?_⟩
  · rcases List.mem_cons.1 hd' with rfl | hd''
    · exact absurd hret hnot
    · exact hd''
  · have := out_of_split hl.pts.spec hsplit hout
    rw [← habs] at this
    exact Out.found.inj this

theorem search_finds_present {c : Config K V} {hist : List (Config K V)} (hrun : RunFrom (Config.init P tree progs) (c :: hist))
    {t i : Nat} {k : K} {p : List (COp K V)} (hpt : progs[t]? = some p) (hpi : p[i]? = some (.get k))
    {r : Option V} (hret : Ev.note t (.ret i (.found r)) ∈ c.log)
    (hpres : ∀ d ∈ hist, Ev.note t (.inv i) ∈ d.log → Ev.note t (.ret i (.found r)) ∉ d.log →
      (Spec.lookup lt d.tree.abs k).isSome = true) :
    ∃ v, r = some v ∧ ∃ d ∈ hist, Ev.note t (.inv i) ∈ d.log ∧ Ev.note t (.ret i (.found r)) ∉ d.log ∧
      Spec.lookup lt d.tree.abs k = some v := by
  obtain ⟨d, hd', h1, h2, h3⟩ :=
    search_reads_run_config lt P tree progs hkp ht hord hsep ho hp hd hdel hrun hpt hpi hret
  obtain ⟨v, hv⟩ := Option.isSome_iff_exists.1 (hpres d hd' h1 h2)
  exact ⟨v, by rw [h3, hv], d, hd', h1, h2, hv⟩

theorem search_reports_absent {c : Config K V} {hist : List (Config K V)} (hrun : RunFrom (Config.init P tree progs) (c :: hist))
    {t i : Nat} {k : K} {p : List (COp K V)} (hpt : progs[t]? = some p) (hpi : p[i]? = some (.get k))
    {r : Option V} (hret : Ev.note t (.ret i (.found r)) ∈ c.log)
    (habs : ∀ d ∈ hist, Ev.note t (.inv i) ∈ d.log → Ev.note t (.ret i (.found r)) ∉ d.log →
      Spec.lookup lt d.tree.abs k = none) :
    r = none := by
  obtain ⟨d, hd', h1, h2, h3⟩ :=
    search_reads_run_config lt P tree progs hkp ht hord hsep ho hp hd hdel hrun hpt hpi hret
  rw [h3]; exact habs d hd' h1 h2

end Run

end Gobptree.Conc
