/-
  Read frame: Delete's descent (`delGo`), unwinding (`delUnwind`, `delRightArrive`) and
  continuations give related results in two runs that agree on what the thread holds.
-/
import Gobptree.Proofs.CReadFrameDelEnds
import Gobptree.Proofs.ConcBlocks
import Gobptree.Proofs.IdsDelete
import Gobptree.Proofs.CSDelUnwind
import Gobptree.Proofs.CReadFrameRO
import Gobptree.Proofs.CReadFrameReb

namespace Gobptree.Conc
open Gobptree

variable {K V : Type}
variable {S : Nat → Prop} {R : Prop} {b1 b2 : List (Ev K V)}

/-- an identity whose entry, if it stands in `Ta`, stands at a child of `n`: its entry in `Tb`, where
    `n` has the same own fields and the children at held identities too, is the same -/
theorem kid_transfer {S : Nat → Prop} {Ta Tb : Tree K V} {n d : Nat} {ia ib : Inner K (Node K V d)}
    (hIa : IdsOk Ta) (hIb : IdsOk Tb)
    (ma : ∀ e ∈ flat (d := d + 1) ia, e ∈ Ta.flat) (mb : ∀ e ∈ flat (d := d + 1) ib, e ∈ Tb.flat)
    (hida : ia.id = n) (hidb : ib.id = n) (hsh : shallow (d := d + 1) ia = shallow (d := d + 1) ib)
    (hk : ∀ (j : Nat) (ka kb : Node K V d), ia.kids[j]? = some ka → ib.kids[j]? = some kb → S (Node.id ka) → shallow ka = shallow kb)
    {x : Nat} (hx : S x) {sh : Shallow K V} (hl : Ta.look x = some sh)
    (g : x = n ∨ ∃ j', Ta.kidAt n j' = some x) : Tb.look x = some sh := by
  have ana : Ta.look n = some (shallow (d := d + 1) ia) := hida ▸ mem_look hIa (ma _ (self_mem_flat (d := d + 1) ia))
  have anb : Tb.look n = some (shallow (d := d + 1) ib) := hidb ▸ mem_look hIb (mb _ (self_mem_flat (d := d + 1) ib))
  rcases g with rfl | ⟨j', hj'⟩
  · rw [ana] at hl
    rw [anb, ← hsh]; exact hl
  · rw [kidAt_shallow ana j'] at hj'
    obtain ⟨ka, hka, hkx⟩ := Option.map_eq_some_iff.1 hj'
    have hjb : (ib.kids[j']?).map (Node.id (d := d)) = some x := by
      rw [← getElem?_map_id (inner_of_shallow hsh).2 j', hka]; exact congrArg some hkx
    obtain ⟨kb, hkb, hkbx⟩ := Option.map_eq_some_iff.1 hjb
    have la := mem_look hIa (ma _ (kid_mem_flat ia ka (List.mem_of_getElem? hka)))
    have lb := mem_look hIb (mb _ (kid_mem_flat ib kb (List.mem_of_getElem? hkb)))
    rw [hkx, hl] at la
    rw [hkbx] at lb
    rw [lb, ← hk j' ka kb hka hkb (hkx ▸ hx)]; exact la.symm

theorem reb_level_rf (P : Params K) (hp : PadOk P) {root : Nat} {H : List Lk}
    (hHS : ∀ x, Lk.node x ∈ H → S x) (hroot : Lk.node root ∈ H) {s1 s2 : St K V} {fr : Frame} {rest : List Frame}
    (hH : ∀ l ∈ framesHeld (fr :: rest), l ∈ H) (hT : TRel S R s1.tree s2.tree)
    (hinv1 : UInv P root s1 (fr :: rest) true fr.child) (hinv2 : UInv P root s2 (fr :: rest) true fr.child)
    (hright1 : ∀ x, s1.tree.kidAt fr.node (fr.index + 1) = some x → Lk.node x ∈ H)
    (hright2 : ∀ x, s2.tree.kidAt fr.node (fr.index + 1) = some x → Lk.node x ∈ H)
    {d : Nat} {i1 i2 : Inner K (Node K V d)}
    (hf1 : s1.tree.find fr.node = some ⟨d + 1, i1⟩) (hf2 : s2.tree.find fr.node = some ⟨d + 1, i2⟩) :
    ∃ child1 child2 i1' i2' small', i1.kids[fr.index]? = some child1 ∧ i2.kids[fr.index]? = some child2 ∧
      rebalance P {} (P.order >>> 1) i1 fr.index child1 = .ok (i1', small') ∧
      rebalance P {} (P.order >>> 1) i2 fr.index child2 = .ok (i2', small') ∧
      TRel S R (putInner s1.tree i1') (putInner s2.tree i2') ∧
      (∀ s1' : St K V, s1'.tree = putInner s1.tree i1' → UInv P root s1' rest small' fr.node) ∧
      (∀ s2' : St K V, s2'.tree = putInner s2.tree i2' → UInv P root s2' rest small' fr.node) := by
  obtain ⟨_, hfr1, hrest1⟩ := hinv1.frames
  obtain ⟨_, hfr2, hrest2⟩ := hinv2.frames
  have hok1 : TreeOk' (some fr.child) s1.tree := hinv1.ok
  have hok2 : TreeOk' (some fr.child) s2.tree := hinv2.ok
  obtain ⟨hHrest, hHchild, hHleft⟩ := framesHeld_cons_sub hH
  have hSnode : S fr.node := hHS _ (frames_top_held hroot rest fr.node hrest1 hHrest)
  have hsh := find_shallow_eq hT hSnode hf1 hf2
  have hk := krel_of_find hT hok1.ids.1 hok2.ids.1 hf1 hf2 hsh
  obtain ⟨c1, i1', small1, ra1⟩ := rebAt_of_inv P hp hroot hH hinv1 hright1 hf1
  obtain ⟨c2, i2', small2, ra2⟩ := rebAt_of_inv P hp hroot hH hinv2 hright2 hf2
  have hwin : ∀ jj c, i1.kids[jj]? = some c → fr.index ≤ jj + 1 → jj ≤ fr.index + 1 → S (Node.id c) := by
    intro jj c hjj h1 h2
    exact hHS _ (window_held_of_frame hfr1 hH hright1 (kidAt_of_kid hf1 hjj) h1 h2)
  obtain ⟨j1, j2, sm, hev1, hev2, hid1, hid2, hsh', hk'⟩ := rebalance_rf (S := S) P hp P.order ra1.rebIn ra2.rebIn hsh hk hwin
  rw [← shiftRight_one_eq, ra1.eval] at hev1
  rw [← shiftRight_one_eq, ra2.eval] at hev2
  cases hev1
  cases hev2
  have hidn1 : i1.id = fr.node := (find_facts hf1).1
  have hidn2 : i2.id = fr.node := (find_facts hf2).1
  refine ⟨c1, c2, i1', i2', small1, ra1.kid, ra2.kid, ra1.eval, ra2.eval, ?_, ?_, ?_⟩
  · -- any child of the node may be written; the write frame of each run keeps the rest
    obtain ⟨L1, R1, _, hfl1, hr1, hd1, _, _⟩ := putInner_flat i1' (by rw [hid1, hidn1]; exact hf1) hok1.ids.1
    obtain ⟨L2, R2, _, hfl2, hr2, hd2, _, _⟩ := putInner_flat i2' (by rw [hid2, hidn2]; exact hf2) hok2.ids.1
    have m1 : ∀ e ∈ flat (d := d + 1) i1', e ∈ (putInner s1.tree i1').flat := fun e he => by
      rw [hfl1]; exact List.mem_append_left _ (List.mem_append_right _ he)
    have m2 : ∀ e ∈ flat (d := d + 1) i2', e ∈ (putInner s2.tree i2').flat := fun e he => by
      rw [hfl2]; exact List.mem_append_left _ (List.mem_append_right _ he)
    have kid1 : ∀ j x, s1.tree.kidAt fr.node j = some x ↔ (shallow (d := d + 1) i1).kids[j]? = some x := fun j x => by
      rw [kidAt_of_find hf1, ← List.getElem?_map]; rfl
    have kid2 : ∀ j x, s2.tree.kidAt fr.node j = some x ↔ (shallow (d := d + 1) i1).kids[j]? = some x := fun j x => by
      rw [kidAt_of_find hf2, ← List.getElem?_map, hsh]; rfl
    have hkeep : ∀ x, decide (x ∉ fr.node :: (shallow (d := d + 1) i1).kids) = false ↔
        x ∈ fr.node :: (shallow (d := d + 1) i1).kids := fun x => by rw [decide_eq_false_iff_not, Classical.not_not]
    refine TRel.of_frame (fun x => decide (x ∉ fr.node :: (shallow (d := d + 1) i1).kids)) hT
      (ra1.out.frame _ ((hkeep _).2 List.mem_cons_self)
        fun j x hj _ _ => (hkeep _).2 (List.mem_cons_of_mem _ (List.mem_of_getElem? ((kid1 j x).1 hj))))
      (ra2.out.frame _ ((hkeep _).2 List.mem_cons_self)
        fun j x hj _ _ => (hkeep _).2 (List.mem_cons_of_mem _ (List.mem_of_getElem? ((kid2 j x).1 hj))))
      ?_ (ra1.out.order.trans (hT.order.trans ra2.out.order.symm)) (ra1.out.nextId.trans (hT.nextId.trans ra2.out.nextId.symm))
      (fun hR => by rw [hr1, hr2, hd1, hd2]; exact hT.root hR)
    intro x hx hkx
    have g : ∀ {T T' : Tree K V},
        (∀ x sh j, T.kidAt fr.node j = some x → T'.look x = some sh → x = fr.node ∨ ∃ j', T'.kidAt fr.node j' = some x) →
        (∀ j x, T.kidAt fr.node j = some x ↔ (shallow (d := d + 1) i1).kids[j]? = some x) →
        ∀ sh, T'.look x = some sh → x = fr.node ∨ ∃ j', T'.kidAt fr.node j' = some x := by
      intro T T' gone kid sh h
      rcases List.mem_cons.1 ((hkeep x).1 hkx) with e | e
      · exact Or.inl e
      · obtain ⟨j, hj⟩ := List.getElem?_of_mem e
        exact gone x sh j ((kid j x).2 hj) h
    have t12 := fun sh h => kid_transfer ra1.out.ok.ids ra2.out.ok.ids m1 m2 (hid1.trans hidn1) (hid2.trans hidn2) hsh'
      (fun j ka kb ha hb hs => (hk'.2 j ka kb ha hb).2 hs) hx h (g ra1.gone kid1 sh h)
    have t21 := fun sh h => kid_transfer ra2.out.ok.ids ra1.out.ok.ids m2 m1 (hid2.trans hidn2) (hid1.trans hidn1) hsh'.symm
      (fun j ka kb ha hb hs => ((hk'.2 j kb ka hb ha).2 (by rw [(hk'.2 j kb ka hb ha).1]; exact hs)).symm) hx h
      (g ra2.gone kid2 sh h)
    cases h1 : (putInner s1.tree i1').look x with
    | some sh => exact (t12 sh h1).symm
    | none =>
      cases h2 : (putInner s2.tree i2').look x with
      | none => rfl
      | some sh => rw [t21 sh h2] at h1; cases h1
  · exact fun s1' h => ra1.next.of_tree_eq h
  · exact fun s2' h => ra2.next.of_tree_eq h

theorem delUnwind_rf (P : Params K) (hp : PadOk P) (t : Nat) (key : K) (root : Nat) (H : List Lk)
    (hHS : ∀ x, Lk.node x ∈ H → S x) (hroot : Lk.node root ∈ H) (hR : R) :
    ∀ (frames : List Frame) (s1 s2 : St K V) (small : Bool) (top : Nat),
      SRel S R b1 b2 s1 s2 → UInv P root s1 frames small top → UInv P root s2 frames small top →
      (∀ l ∈ framesHeld frames, l ∈ H) →
      BRel S R b1 b2 (delUnwind P t s1 key frames small root) (delUnwind P t s2 key frames small root) := by
  intro frames
  induction frames with
  | nil =>
    intro s1 s2 small top hr hinv1 hinv2 _
    rw [delUnwind_nil, delUnwind_nil, delFinish_eq, delFinish_eq]
    have htop1 : top = s1.tree.rootId := by
      have : top = root := hinv1.frames
      rw [this]; exact hinv1.rootEq
    have htop2 : top = s2.tree.rootId := by
      have : top = root := hinv2.frames
      rw [this]; exact hinv2.rootEq
    have hok1 := hinv1.ok
    have hok2 := hinv2.ok
    rw [htop1] at hok1
    rw [htop2] at hok2
    have hT := finishTree_rf small hr.tree hR (by rw [← hinv1.rootEq]; exact hHS _ hroot) hok1 hok2
    exact ⟨((hr.withTree hT).rel t _).rel t _, rfl⟩
  | cons fr rest ih =>
    intro s1 s2 small top hr hinv1 hinv2 hH
    obtain ⟨hHrest, hHchild, hHleft⟩ := framesHeld_cons_sub hH
    obtain ⟨htop1, hfr1, hrest1⟩ := hinv1.frames
    obtain ⟨htop2, hfr2, hrest2⟩ := hinv2.frames
    cases small with
    | false =>
      rw [delUnwind_false, delUnwind_false]
      exact ih _ _ false fr.node (hr.frameUnlock t fr none) (hinv1.unlock t) (hinv2.unlock t) hHrest
    | true =>
      subst htop1
      have hok1 : TreeOk' (some fr.child) s1.tree := hinv1.ok
      have hok2 : TreeOk' (some fr.child) s2.tree := hinv2.ok
      obtain ⟨d1, i1, hf1, hlook1, k1, hk1, hkid1⟩ := inner_of_kidAt hfr1.1
      obtain ⟨d2, i2, hf2, hlook2, k2, hk2, hkid2⟩ := inner_of_kidAt hfr2.1
      have hSnode : S fr.node := hHS _ (frames_top_held hroot rest fr.node hrest1 hHrest)
      have hd : d1 = d2 := Nat.succ.inj (find_depth_eq hr.tree hSnode hf1 hf2)
      subst hd
      have hsh := find_shallow_eq hr.tree hSnode hf1 hf2
      obtain ⟨hru, hkids⟩ := inner_of_shallow hsh
      obtain ⟨_, _, _, hin1, _⟩ := rebIn_of_tree hok1 hf1 hfr1.1 (hinv1.small rfl)
      obtain ⟨_, _, _, hin2, _⟩ := rebIn_of_tree hok2 hf2 hfr2.1 (hinv2.small rfl)
      have hlen1 : i1.runts.length = i1.kids.length := hin1.lens.1
      have hlen2 : i2.runts.length = i2.kids.length := hin2.lens.1
      by_cases hRr : fr.index + 1 < i1.runts.length
      · have hRr2 : fr.index + 1 < i2.runts.length := by rw [← hru]; exact hRr
        obtain ⟨r1, hr1⟩ : ∃ r, i1.kids[fr.index + 1]? = some r :=
          ⟨i1.kids[fr.index + 1]'(hlen1 ▸ hRr), List.getElem?_eq_getElem _⟩
        obtain ⟨r2, hr2⟩ : ∃ r, i2.kids[fr.index + 1]? = some r :=
          ⟨i2.kids[fr.index + 1]'(hlen2 ▸ hRr2), List.getElem?_eq_getElem _⟩
        have hid : Node.id r1 = Node.id r2 := by
          have := getElem?_map_id hkids (fr.index + 1)
          rw [hr1, hr2] at this
          exact Option.some.inj this
        rw [delUnwind_right hf1 hRr hr1, delUnwind_right hf2 hRr2 hr2, hid]
        exact ⟨hr, rfl⟩
      · have hRr2 : ¬ fr.index + 1 < i2.runts.length := by rw [← hru]; exact hRr
        obtain ⟨c1, c2, i1', i2', small', hc1, hc2, hev1, hev2, hT', hu1, hu2⟩ :=
          reb_level_rf P hp hHS hroot hH hr.tree hinv1 hinv2
            (fun x hx => by rw [kidAt_eq_none_of_find hf1 (hlen1 ▸ Nat.le_of_not_lt hRr)] at hx; cases hx)
            (fun x hx => by rw [kidAt_eq_none_of_find hf2 (hlen2 ▸ Nat.le_of_not_lt hRr2)] at hx; cases hx) hf1 hf2
        rw [delUnwind_reb hf1 hRr hc1 hev1, delUnwind_reb hf2 hRr2 hc2 hev2]
        exact ih _ _ small' fr.node ((hr.withTree hT').frameUnlock t fr none)
          (hu1 _ (frameUnlock_tree ..)) (hu2 _ (frameUnlock_tree ..)) hHrest

theorem delRightArrive_rf (P : Params K) (hp : PadOk P) (t : Nat) (key : K) (root : Nat) (H : List Lk)
    (hHS : ∀ x, Lk.node x ∈ H → S x) (hroot : Lk.node root ∈ H) (hR : R)
    (s1 s2 : St K V) (rest : List Frame) (fr : Frame) (right : Nat)
    (hr : SRel S R b1 b2 s1 s2)
    (hinv1 : UInv P root s1 (fr :: rest) true fr.child) (hinv2 : UInv P root s2 (fr :: rest) true fr.child)
    (hH : ∀ l ∈ framesHeld (fr :: rest), l ∈ H)
    (hr1 : s1.tree.kidAt fr.node (fr.index + 1) = some right) (hr2 : s2.tree.kidAt fr.node (fr.index + 1) = some right)
    (hrH : Lk.node right ∈ H) :
    BRel S R b1 b2 (delRightArrive P t s1 key rest fr right root) (delRightArrive P t s2 key rest fr right root) := by
  obtain ⟨hHrest, _, _⟩ := framesHeld_cons_sub hH
  obtain ⟨_, hfr1, hrest1⟩ := hinv1.frames
  obtain ⟨_, hfr2, _⟩ := hinv2.frames
  obtain ⟨d1, i1, hf1, _, _⟩ := inner_of_kidAt hfr1.1
  obtain ⟨d2, i2, hf2, _, _⟩ := inner_of_kidAt hfr2.1
  have hSnode : S fr.node := hHS _ (frames_top_held hroot rest fr.node hrest1 hHrest)
  have hd : d1 = d2 := Nat.succ.inj (find_depth_eq hr.tree hSnode hf1 hf2)
  subst hd
  obtain ⟨c1, c2, i1', i2', small', hc1, hc2, hev1, hev2, hT', hu1, hu2⟩ :=
    reb_level_rf P hp hHS hroot hH hr.tree hinv1 hinv2
      (by intro x hx; rw [hr1] at hx; cases hx; exact hrH)
      (by intro x hx; rw [hr2] at hx; cases hx; exact hrH) hf1 hf2
  rw [delRightArrive_eq hf1 hc1 hev1, delRightArrive_eq hf2 hc2 hev2]
  exact delUnwind_rf P hp t key root H hHS hroot hR rest _ _ small' fr.node
    ((hr.withTree hT').frameUnlock t fr (some right)) (hu1 _ (frameUnlock_tree ..)) (hu2 _ (frameUnlock_tree ..)) hHrest

theorem delGo_rf (P : Params K) (hp : PadOk P) (t : Nat) (key : K) (root : Nat) (H : List Lk)
    (hHS : ∀ x, Lk.node x ∈ H → S x) (hroot : Lk.node root ∈ H) (hR : R)
    (s1 s2 : St K V) (frames : List Frame) (n : Nat) (hr : SRel S R b1 b2 s1 s2)
    (hok1 : TreeOk none s1.tree) (h41 : 4 ≤ s1.tree.order) (hord1 : s1.tree.order = P.order)
    (hrootEq1 : root = s1.tree.rootId) (hfr1 : FramesOk s1.tree root frames n)
    (hok2 : TreeOk none s2.tree) (h42 : 4 ≤ s2.tree.order) (hord2 : s2.tree.order = P.order)
    (hrootEq2 : root = s2.tree.rootId) (hfr2 : FramesOk s2.tree root frames n)
    (hH : ∀ l ∈ framesHeld frames, l ∈ H) :
    BRel S R b1 b2 (delGo P t s1 key frames n root) (delGo P t s2 key frames n root) := by
  have hok1' : TreeOk' none s1.tree := hok1.prime h41
  have hok2' : TreeOk' none s2.tree := hok2.prime h42
  have hnH : Lk.node n ∈ H := frames_top_held hroot frames n hfr1 hH
  have hSn : S n := hHS _ hnH
  rcases find_split hr.tree hSn with ⟨h1, h2⟩ | ⟨l, h1, h2⟩ | ⟨d, p1, p2, h1, h2, hru, hk⟩
  · rw [delGo_none h1, delGo_none h2]
    exact ⟨hr, rfl⟩
  · obtain ⟨l1', small1, heval1, out1⟩ := leaf_step P hok1' hord1 h1 key
    obtain ⟨l2', small2, heval2, out2⟩ := leaf_step P hok2' hord2 h2 key
    rw [heval1] at heval2
    cases heval2
    rw [delGo_leaf h1 heval1, delGo_leaf h2 heval1]
    have hid : l1'.id = n := (Leaf.deleteKey_id P l l1' _ key small1 heval1).trans (find_facts h1).1
    have hT : TRel S R (putLeaf s1.tree l1') (putLeaf s2.tree l1') :=
      putLeaf_rf hr.tree l1' (by rw [hid]; exact h1) (by rw [hid]; exact h2) hok1.ids.1 hok2.ids.1
    exact delUnwind_rf P hp t key root H hHS hroot hR frames _ _ small1 n (hr.withTree hT)
      ((UInv.after_leaf hok1.ids hord1 hrootEq1 hfr1 h1 out1).of_tree_eq rfl)
      ((UInv.after_leaf hok2.ids hord2 hrootEq2 hfr2 h2 out2).of_tree_eq rfl) hH
  · rw [delGo_kid h1, delGo_kid h2, hru]
    by_cases hpos : searchLE P.lt key p2.runts > 0
    · rw [if_pos hpos, if_pos hpos, hk]
      cases (p2.kids[searchLE P.lt key p2.runts - 1]?).map Node.id <;> exact ⟨hr, rfl⟩
    · rw [if_neg hpos, if_neg hpos, hk]
      cases (p2.kids[searchLE P.lt key p2.runts]?).map Node.id <;> exact ⟨hr, rfl⟩

theorem resume_rf_D {s1 s2 : St K V} (P : Params K) (t : Nat) (k : Kont K V)
    (hd : isDelK k = true) (hr : SRel S R b1 b2 s1 s2) (h41 : 4 ≤ s1.tree.order) (h42 : 4 ≤ s2.tree.order)
    (hpre1 : Pre P (kontHole k) s1) (hpre2 : Pre P (kontHole k) s2) (hk1 : KontOk s1.tree k) (hk2 : KontOk s2.tree k)
    (hheld : ∀ x, Lk.node x ∈ kontHeld k → S x) (hlock : ∀ x, kontLock k = some (Lk.node x) → S x)
    (hRt : (Lk.tree ∈ kontHeld k ∨ kontLock k = some .tree) → R) :
    BRel S R b1 b2 (resume P t s1 k) (resume P t s2 k) := by
  have hHS : ∀ x, Lk.node x ∈ kontHeld k ++ (kontLock k).toList → S x := by
    intro x hx
    rcases List.mem_append.1 hx with h | h
    · exact hheld x h
    · exact hlock x (by simpa using h)
  have hp := hpre1.pad
  cases k with
  | delTree key => exact parkRoot_rf t hr (hRt (Or.inr rfl)) (Kont.delRoot key)
  | delRoot key r =>
    simp only [resume]
    have hR : R := hRt (Or.inl List.mem_cons_self)
    exact delGo_rf P hp t key r _ hHS (List.mem_append_right _ List.mem_cons_self) hR _ _ [] r (hr.acq t _)
      hpre1.tree h41 hpre1.order hk1 rfl hpre2.tree h42 hpre2.order hk2 rfl (by intro l hl; cases hl)
  | delLeft key frames node index left root =>
    have hR : R := hRt (Or.inl List.mem_cons_self)
    obtain ⟨hroot1, hfr1, hpos1, hl1, c1, hc1⟩ := hk1
    have hnode : Lk.node node ∈ kontHeld (Kont.delLeft (K := K) (V := V) key frames node index left root) :=
      frames_top_held (List.mem_cons_of_mem _ List.mem_cons_self) frames node hfr1
        (fun l hl => List.mem_cons_of_mem _ (List.mem_cons_of_mem _ hl))
    have hSn : S node := hheld _ hnode
    simp only [resume, acq_tree]
    rcases find_split hr.tree hSn with ⟨h1, h2⟩ | ⟨l, h1, h2⟩ | ⟨d, p1, p2, h1, h2, _, hk⟩
    · rw [h1, h2]
      exact ⟨hr.acq t _, rfl⟩
    · rw [h1, h2]
      exact ⟨hr.acq t _, rfl⟩
    · rw [h1, h2]
      simp only [innerKidId?]
      rw [hk]
      cases (p2.kids[index]?).map Node.id <;> exact ⟨hr.acq t _, rfl⟩
  | delChild key frames node index left child root =>
    have hR : R := hRt (Or.inl List.mem_cons_self)
    obtain ⟨hroot1, hfr1, hfrm1⟩ := hk1
    obtain ⟨hroot2, hfr2, hfrm2⟩ := hk2
    simp only [resume]
    refine delGo_rf P hp t key root _ hHS (List.mem_append_left _ (List.mem_cons_of_mem _ List.mem_cons_self)) hR _ _
      (⟨node, index, left, child⟩ :: frames) child (hr.acq t _)
      hpre1.tree h41 hpre1.order hroot1 ⟨rfl, hfrm1, hfr1⟩ hpre2.tree h42 hpre2.order hroot2 ⟨rfl, hfrm2, hfr2⟩ ?_
    intro l hl
    simp only [framesHeld, List.mem_append, List.mem_singleton] at hl
    rcases hl with hl | hl | hl
    · simp [kontHeld, hl]
    · simp [kontHeld, hl]
    · rw [hl]; simp [kontLock]
  | delRight key rest fr right root =>
    have hR : R := hRt (Or.inl List.mem_cons_self)
    obtain ⟨hroot1, hfr1, hr1, hsm1⟩ := hk1
    obtain ⟨hroot2, hfr2, hr2, hsm2⟩ := hk2
    simp only [resume]
    have hok1 : TreeOk (some fr.child) s1.tree := hpre1.tree
    have hok2 : TreeOk (some fr.child) s2.tree := hpre2.tree
    refine delRightArrive_rf P hp t key root _ hHS (List.mem_append_left _ (List.mem_cons_of_mem _ List.mem_cons_self)) hR _ _ rest fr right (hr.acq t _)
      ⟨hok1.prime h41, hpre1.order, hroot1, hfr1, fun _ => hsm1⟩
      ⟨hok2.prime h42, hpre2.order, hroot2, hfr2, fun _ => hsm2⟩ ?_ hr1 hr2 (List.mem_append_right _ List.mem_cons_self)
    intro l hl
    apply List.mem_append_left
    simp only [kontHeld, List.mem_cons]
    right; right; exact hl
  | _ => cases hd

end Gobptree.Conc
