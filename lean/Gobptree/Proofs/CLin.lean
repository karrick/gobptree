/-
  Concurrent Insert / Update / Search (with cursor sessions alongside) are linearizable:
  every reachable configuration's history of map operations has a linearization
  (Herlihy–Wing), given the per-block key-order results `ResumeKU`.

  Linearization points: an operation takes effect in the scheduler step in which it returns.
  The step-level assembly (`stretch_lin`, `step_lininv_ext`) is generic in the provider of the
  abstract effects (`StepEff`) and already covers Delete, whose linearization point is the
  stretch that removes the key from its leaf; `CLinDel.lean` instantiates it with `KBlocks`.
-/
import Gobptree.Proofs.CLinInv
import Gobptree.Proofs.CLogIndep
import Gobptree.Proofs.CKReach

namespace Gobptree.Conc
open Gobptree Gobptree.Lin

variable {K V : Type}

theorem step_run {c c' : Config K V} {t : Nat} (hstep : c.step t = some c') (hinv : CInv c) :
    ∃ th r, StepRun c c' t th r :=
  let ⟨th, r, F⟩ := step_cstep hstep hinv
  ⟨th, r, F.stepRun hstep⟩

/-- the case table of the linearizability step: what the stretch resumed at `k` does to the abstract
    map, by the operation `k` belongs to (`kontSig`). A read changes nothing and, if it returns, returns the
    lookup; an Insert/Update takes effect in the stretch that returns (resumed after the callback, `cbArg`, if
    there is one), and the callback is shown the lookup; a Delete takes effect in the stretch that is
    done with its leaf (`postLeaf`: it returns, or goes on to unlock to the right), not before, not after
    (`postK`) -/
def SigEffect (lt : K → K → Bool) (t : Nat) (k : Kont K V) (s : St K V) (new : List (Ev K V)) (s' : St K V)
    (fl : Flow K V) : Prop :=
  match kontSig k with
  | .ro false key => s'.tree.abs = s.tree.abs ∧ ∀ v, fl = .done (.found v) → v = Spec.lookup lt s.tree.abs key
  | .ro true _ => s'.tree.abs = s.tree.abs
  | .other => s'.tree.abs = s.tree.abs
  | .up key f _ =>
    match cbArg k with
    | some arg => s'.tree.abs = Spec.update lt s.tree.abs key f ∧ arg = Spec.lookup lt s.tree.abs key
    | none =>
      (∀ r, fl = .done r → s'.tree.abs = Spec.update lt s.tree.abs key f) ∧
      (∀ p, fl = .park p → s'.tree.abs = s.tree.abs) ∧
      (∀ arg, Ev.note t (.cb arg) ∈ new → arg = Spec.lookup lt s.tree.abs key)
  | .del key =>
    if postK k = true then s'.tree.abs = s.tree.abs
    else (postLeaf fl → s'.tree.abs = Spec.erase lt s.tree.abs key) ∧ (¬ postLeaf fl → s'.tree.abs = s.tree.abs)

theorem resume_delLeft_notPost (P : Params K) (t : Nat) (s : St K V) (key : K) (frames : List Frame)
    (node index left root : Nat) : ¬ postLeaf (resume P t s (.delLeft key frames node index left root)).2 :=
  resume_delLeft_cases P t s key frames node index left root (Q := fun r => ¬ postLeaf r.2) id (fun _ => id)

/-- the client-visible effect of a stretch: the tree clauses from the abstract effect on the state
    itself, the callback clause from the abstract effect of the same stretch started on an empty log
    (`s0`), whose events are exactly the new ones -/
theorem sigEffect_of_abs (lt : K → K → Bool) (P : Params K) (t : Nat) (s s0 : St K V) (k : Kont K V)
    (new : List (Ev K V)) (ht : s0.tree = s.tree) (h0 : s0.evs = [])
    (hnew : (resume P t s0 k).1.evs = new)
    (h : AbsEffect lt t k s (resume P t s k).1 (resume P t s k).2)
    (hc : AbsEffect lt t k s0 (resume P t s0 k).1 (resume P t s0 k).2) :
    SigEffect lt t k s new (resume P t s k).1 (resume P t s k).2 := by
  have third : ∀ (key : K),
      (∀ arg, Ev.note t (.cb arg) ∈ (resume P t s0 k).1.evs → Ev.note t (.cb arg) ∈ s0.evs ∨ arg = Spec.lookup lt s0.tree.abs key) →
      ∀ arg, Ev.note t (.cb arg) ∈ new → arg = Spec.lookup lt s.tree.abs key := by
    intro key hc arg hm
    rw [← hnew] at hm
    rcases hc arg hm with h | h
    · rw [h0] at h; cases h
    · rw [← ht]; exact h
  cases k with
  | roTree sc key =>
    have h' : (resume P t s (.roTree sc key)).1.tree.abs = s.tree.abs := h
    cases sc with
    | true => exact h'
    | false => exact ⟨h', fun v hv => by simp [resume] at hv⟩
  | roNode sc key hold want =>
    cases sc with
    | true => exact h
    | false => exact h
  | upTree key f y =>
    have h' : (resume P t s (.upTree key f y)).1.tree.abs = s.tree.abs := h
    refine ⟨fun r hr => by simp [resume] at hr, fun _ _ => h', ?_⟩
    intro arg hm
    rw [← hnew] at hm
    simp [resume, St.acq, h0] at hm
  | upRoot key f y r => exact ⟨h.1, h.2.1, third key hc.2.2⟩
  | upRootSib key f y root sib => exact ⟨h.1, h.2.1, third key hc.2.2⟩
  | upChild key f y parent index child => exact ⟨h.1, h.2.1, third key hc.2.2⟩
  | upSib key f y parent child sib => exact ⟨h.1, h.2.1, third key hc.2.2⟩
  | upCallback key f leaf arg => exact h
  | hop cur next => exact h
  | paused => exact h
  | delTree key =>
    have h' : (resume P t s (.delTree key)).1.tree.abs = s.tree.abs := h
    exact ⟨fun hp => absurd hp id, fun _ => h'⟩
  | delRoot key r => exact h
  | delLeft key frames node index left root =>
    have h' : (resume P t s (.delLeft key frames node index left root)).1.tree.abs = s.tree.abs := h
    exact ⟨fun hp => absurd hp (resume_delLeft_notPost P t s key frames node index left root), fun _ => h'⟩
  | delChild key frames node index left child root => exact h
  | delRight key rest fr right root => exact h

/-- what the key-order layer says of one stretch: its abstract effect from the state and from the
    same state with an empty log, and that the two runs append the same events (the code does not
    read the log: `resume_new_evs`) -/
def StretchEff (lt : K → K → Bool) (P : Params K) (t : Nat) (s : St K V) (k : Kont K V) : Prop :=
  AbsEffect lt t k s (resume P t s k).1 (resume P t s k).2 ∧
  AbsEffect lt t k { s with evs := [] } (resume P t { s with evs := [] } k).1 (resume P t { s with evs := [] } k).2 ∧
  ∃ e, (resume P t s k).1.evs = e ++ s.evs ∧ (resume P t { s with evs := [] } k).1.evs = e

theorem resume_facts_of_eff (lt : K → K → Bool) (P : Params K) (t : Nat) (s : St K V) (k : Kont K V)
    (hE : StretchEff lt P t s k) :
    ∃ new, (resume P t s k).1.evs = new ++ s.evs ∧ new.all (quietB t) = true ∧
      FlowR t k new (resume P t s k).2 ∧ SigEffect lt t k s new (resume P t s k).1 (resume P t s k).2 := by
  obtain ⟨new, e, q, fl, _⟩ := resume_trace P t s k
  obtain ⟨h1, h0, e', e1, e2⟩ := hE
  rw [List.append_cancel_right (e1.symm.trans e)] at e2
  exact ⟨new, e, q, fl, sigEffect_of_abs lt P t s { s with evs := [] } k new rfl rfl e2 h1 h0⟩

theorem SigEffect.ro_false {lt : K → K → Bool} {t : Nat} {k : Kont K V} {s s' : St K V} {new : List (Ev K V)}
    {fl : Flow K V} {key : K} (hs : kontSig k = .ro false key) (h : SigEffect lt t k s new s' fl) :
    s'.tree.abs = s.tree.abs ∧ ∀ v, fl = .done (.found v) → v = Spec.lookup lt s.tree.abs key := by
  unfold SigEffect at h; rw [hs] at h; exact h

theorem SigEffect.ro_true {lt : K → K → Bool} {t : Nat} {k : Kont K V} {s s' : St K V} {new : List (Ev K V)}
    {fl : Flow K V} {key : K} (hs : kontSig k = .ro true key) (h : SigEffect lt t k s new s' fl) :
    s'.tree.abs = s.tree.abs := by
  unfold SigEffect at h; rw [hs] at h; exact h

theorem SigEffect.other {lt : K → K → Bool} {t : Nat} {k : Kont K V} {s s' : St K V} {new : List (Ev K V)}
    {fl : Flow K V} (hs : kontSig k = .other) (h : SigEffect lt t k s new s' fl) :
    s'.tree.abs = s.tree.abs := by
  unfold SigEffect at h; rw [hs] at h; exact h

theorem SigEffect.up_none {lt : K → K → Bool} {t : Nat} {k : Kont K V} {s s' : St K V} {new : List (Ev K V)}
    {fl : Flow K V} {key : K} {f : Option V → V} {y : Option Bool} (hs : kontSig k = .up key f y)
    (hc : cbArg k = none) (h : SigEffect lt t k s new s' fl) :
    (∀ r, fl = .done r → s'.tree.abs = Spec.update lt s.tree.abs key f) ∧
      (∀ p, fl = .park p → s'.tree.abs = s.tree.abs) ∧
      (∀ arg, Ev.note t (.cb arg) ∈ new → arg = Spec.lookup lt s.tree.abs key) := by
  unfold SigEffect at h; rw [hs] at h; simp only [hc] at h; exact h

theorem SigEffect.up_some {lt : K → K → Bool} {t : Nat} {k : Kont K V} {s s' : St K V} {new : List (Ev K V)}
    {fl : Flow K V} {key : K} {f : Option V → V} {y : Option Bool} {arg : Option V} (hs : kontSig k = .up key f y)
    (hc : cbArg k = some arg) (h : SigEffect lt t k s new s' fl) :
    s'.tree.abs = Spec.update lt s.tree.abs key f ∧ arg = Spec.lookup lt s.tree.abs key := by
  unfold SigEffect at h; rw [hs] at h; simp only [hc] at h; exact h

theorem SigEffect.del_post {lt : K → K → Bool} {t : Nat} {k : Kont K V} {s s' : St K V} {new : List (Ev K V)}
    {fl : Flow K V} {key : K} (hs : kontSig k = .del key) (hp : postK k = true)
    (h : SigEffect lt t k s new s' fl) : s'.tree.abs = s.tree.abs := by
  unfold SigEffect at h; rw [hs] at h; simp only [] at h; rw [if_pos hp] at h; exact h

theorem SigEffect.del_pre {lt : K → K → Bool} {t : Nat} {k : Kont K V} {s s' : St K V} {new : List (Ev K V)}
    {fl : Flow K V} {key : K} (hs : kontSig k = .del key) (hp : postK k = false)
    (h : SigEffect lt t k s new s' fl) :
    (postLeaf fl → s'.tree.abs = Spec.erase lt s.tree.abs key) ∧ (¬ postLeaf fl → s'.tree.abs = s.tree.abs) := by
  unfold SigEffect at h; rw [hs] at h; simp only [] at h
  rw [if_neg (ne_true_of_eq_false hp)] at h; exact h

theorem SigEffect.park {lt : K → K → Bool} {t : Nat} {k : Kont K V} {s s' : St K V} {new : List (Ev K V)}
    {p : Park K V} (hc : cbArg k = none) (hq : postP p = false) (h : SigEffect lt t k s new s' (.park p)) :
    s'.tree.abs = s.tree.abs := by
  cases hs : kontSig k with
  | ro sc key =>
    cases sc with
    | true => exact h.ro_true hs
    | false => exact (h.ro_false hs).1
  | up key f y => exact (h.up_none hs hc).2.1 p rfl
  | other => exact h.other hs
  | del key =>
    cases hp : postK k with
    | true => exact h.del_post hs hp
    | false =>
      refine (h.del_pre hs hp).2 ?_
      intro hpl
      rw [(postLeaf_park p).1 hpl] at hq
      cases hq

theorem DoneR.up {t : Nat} {k : Kont K V} {new : List (Ev K V)} {res : Res K V} {key : K} {f : Option V → V}
    {y : Option Bool} (hs : kontSig k = .up key f y) (h : DoneR t k new res) :
    res = .ok ∧ match cbArg k with
      | none => y.isSome = true → (lastCb t new).isSome = true
      | some _ => lastCb t new = none := by
  unfold DoneR at h; rw [hs] at h; exact h

theorem DoneR.ro_false {t : Nat} {k : Kont K V} {new : List (Ev K V)} {res : Res K V} {key : K}
    (hs : kontSig k = .ro false key) (h : DoneR t k new res) : ∃ v, res = .found v := by
  unfold DoneR at h; rw [hs] at h; exact h

theorem DoneR.del {t : Nat} {k : Kont K V} {new : List (Ev K V)} {res : Res K V} {key : K}
    (hs : kontSig k = .del key) (h : DoneR t k new res) : res = .ok := by
  unfold DoneR at h; rw [hs] at h; exact h

theorem cbArg_none_of_sig {k : Kont K V} {key : K} {f : Option V → V} {y : Option Bool}
    (hs : kontSig k = .up key f y) (hy : y ≠ some true) : cbArg k = none := by
  cases k <;> first | rfl | skip
  simp only [kontSig, KSig.up.injEq] at hs
  exact absurd hs.2.2.symm hy

theorem postK_of_nodel {k : Kont K V} (h : isDelK k = false) : postK k = false := by
  cases k <;> first | rfl | cases h

theorem postK_false_of_sig {k : Kont K V} (h : ∀ key, kontSig k = .del key → False) : postK k = false := by
  cases hp : postK k with
  | false => rfl
  | true =>
    obtain ⟨key, hk⟩ := postK_sig hp
    exact absurd hk (h key)

theorem KontFor.of_sig {cop : COp K V} {k k' : Kont K V} (hs : kontSig k' = kontSig k)
    (h : KontFor cop k) : KontFor cop k' :=
  kontFor_iff.2 (hs.trans (kontFor_iff.1 h))

theorem KontFor.del_eq {cop : COp K V} {k : Kont K V} {key : K} (hs : kontSig k = .del key)
    (h : KontFor cop k) : cop = .del key := by
  have := kontFor_iff.1 h
  rw [hs] at this
  cases cop <;> first | (cases this; rfl) | cases this

section Stretch

variable {lt : K → K → Bool} {init : List (K × V)} {progs : Nat → List (COp K V)} {t : Nat}
  {st0 : LinState K V} {cb0 : Nat → Option (Option V)}

/-- One stretch extends the decorated history: the abstract map moves only if the stretch contains
    the operation's linearization point — the return of Insert/Update/Search, the removal of the
    key for Delete — and then by exactly `Spec.step` of that operation (`SigEffect`); the
    response recorded at the return is the one `Spec.step` gave at that point. -/
theorem stretch_lin {s s' : St K V} {fl : Flow K V} {new : List (Ev K V)} {k : Kont K V} {h : List (HEv K V)}
    {pc : Nat} {cop : COp K V}
    (b : Base lt init progs t st0 cb0 s.tree.abs s.evs h)
    (hfresh : ∀ i, pc < i → (linState lt init h).status t i = .fresh)
    (hcop : (progs t)[pc]? = some cop)
    (hbk : KBk (linState lt init h) ((hx progs s.evs).cb t) t pc cop k (postK k))
    (e : s'.evs = new ++ s.evs) (q : new.all (quietB t) = true)
    (hfl : FlowR t k new fl) (heff : SigEffect lt t k s new s' fl) (hnp : fl ≠ .panic) :
    ∃ h', LoopI lt init progs t st0 cb0 s' fl pc h' ∧ LinGrow t h h' := by
  have b' := b.quiet new q
  obtain ⟨_, _, hcbt⟩ := hx_quiet progs t s.evs new q
  obtain ⟨hst, hkf, hcb⟩ := hbk
  have hinvk : postK k = false → ∀ op, opOf cop = some op → (linState lt init h).status t pc = .invoked op := by
    intro hp op ho
    have := hst op ho
    rw [hp] at this; exact this
  have hlink : postK k = true → ∀ op, opOf cop = some op →
      (linState lt init h).status t pc = .linearized op .done := by
    intro hp op ho
    have := hst op ho
    rw [hp] at this; exact this
  have same : s'.tree.abs = s.tree.abs →
      FlowBk (linState lt init h) ((hx progs s'.evs).cb t) t pc (progs t)[pc]? fl →
      ∃ h', LoopI lt init progs t st0 cb0 s' fl pc h' ∧ LinGrow t h h' :=
    fun habs hf => ⟨h, ⟨by rw [habs, e]; exact b', hfresh, hf⟩, .inl rfl⟩
  have linpt : ∀ (op : Op K V), postK k = false → opOf cop = some op →
      s'.tree.abs = (Spec.step lt s.tree.abs op).1 →
      (∀ st' : LinState K V, st'.status t pc = .linearized op (Spec.step lt s.tree.abs op).2 →
        FlowBk st' ((hx progs s'.evs).cb t) t pc (progs t)[pc]? fl) →
      ∃ h', LoopI lt init progs t st0 cb0 s' fl pc h' ∧ LinGrow t h h' := by
    intro op hp ho habs hF
    obtain ⟨b2, hs2, hoth2⟩ := b'.lin (hinvk hp op ho)
    obtain ⟨hop, hnl⟩ : invOp h t pc = some op ∧ HEv.lin t pc ∉ h := by
      have := b.pts.status_ok t pc; rw [hinvk hp op ho] at this; exact this
    refine ⟨_, ⟨by rw [habs, e]; exact b2, ?_, hF _ hs2⟩, .inr ⟨pc, op, hop, hnl, linOrder_append_lin b.pts.wf hop⟩⟩
    intro i hi
    rw [hoth2 i (Nat.ne_of_gt hi)]
    exact hfresh i hi
  cases fl with
  | panic => exact absurd rfl hnp
  | park p =>
    obtain ⟨hpp, hcn, k', hk', hsig, hcb', _⟩ := hfl
    have hkf' : KontFor cop k' := hkf.of_sig hsig
    have mk : ∀ (st' : LinState K V) (post' : Bool),
        (∀ op, opOf cop = some op → st'.status t pc = if post' then .linearized op .done else .invoked op) →
        KBk st' ((hx progs s'.evs).cb t) t pc cop k' post' := by
      intro st' post' hs'
      refine ⟨hs', hkf', ?_⟩
      intro arg ha
      rw [e, hcbt, hcb' arg ha]
    cases hq : postP p with
    | false =>
      have hpk : postK k = false := by
        cases hpk : postK k with
        | false => rfl
        | true => have := hpp hpk; rw [hq] at this; cases this
      apply same (heff.park hcn hq)
      have hb := mk (linState lt init h) false (by intro op ho; exact hinvk hpk op ho)
      rcases Park.kont?_eq_some.1 hk' with rfl | ⟨l, rfl⟩
      · exact ⟨cop, hcop, hb⟩
      · have hq' : postK k' = false := hq
        exact ⟨cop, hcop, by rw [hq']; exact hb⟩
    | true =>
      cases p with
      | start => cases hq
      | finished => cases hq
      | yielded k'' => cases hq
      | want l k'' =>
        cases hk'
        have hq' : postK k' = true := hq
        obtain ⟨key, hsk'⟩ := postK_sig hq'
        have hsk : kontSig k = .del key := by rw [← hsig]; exact hsk'
        have hc := hkf.del_eq hsk
        subst hc
        cases hpk : postK k with
        | true =>
          apply same (heff.del_post hsk hpk)
          exact ⟨_, hcop, by rw [hq']; exact mk _ true (by intro op ho; exact hlink hpk op ho)⟩
        | false =>
          apply linpt (.delete key) hpk rfl ((heff.del_pre hsk hpk).1 ((postLeaf_park _).2 hq))
          intro st' hs'
          refine ⟨_, hcop, ?_⟩
          rw [hq']
          apply mk st' true
          intro op ho
          cases ho
          exact hs'
  | done r =>
    have hdr : DoneR t k new r := hfl
    have doneBk : ∀ (op : Op K V) (out : Out V), opOf cop = some op →
        outOf cop r ((hx progs s'.evs).cb t) = some out →
        ∀ st' : LinState K V, st'.status t pc = .linearized op out →
          FlowBk st' ((hx progs s'.evs).cb t) t pc (progs t)[pc]? (.done r) := by
      intro op out ho hout st' hs' cop' op' hc ho'
      rw [hcop] at hc; cases hc
      rw [ho] at ho'; cases ho'
      exact ⟨out, hs', hout⟩
    have noop : opOf cop = none → ∀ st' : LinState K V,
        FlowBk st' ((hx progs s'.evs).cb t) t pc (progs t)[pc]? (.done r) := by
      intro hn st' cop' op' hc ho'
      rw [hcop] at hc; cases hc
      rw [hn] at ho'; cases ho'
    cases cop with
    | ins key v =>
      have hsig : kontSig k = .up key (fun _ => v) none := hkf
      have hpk := postK_false_of_sig (k := k) (by intro key' h; rw [hsig] at h; cases h)
      have hcn := cbArg_none_of_sig hsig (by intro h; cases h)
      have hres := (hdr.up hsig).1
      subst hres
      exact linpt (.insert key v) hpk rfl ((heff.up_none hsig hcn).1 _ rfl) (doneBk _ _ rfl rfl)
    | upd key g y =>
      have hsig : kontSig k = .up key g (some y) := hkf
      have hpk := postK_false_of_sig (k := k) (by intro key' h; rw [hsig] at h; cases h)
      have hres := (hdr.up hsig).1
      subst hres
      cases hca : cbArg k with
      | none =>
        obtain ⟨hA, _, hC⟩ := heff.up_none hsig hca
        have := (hdr.up hsig).2
        rw [hca] at this
        have hsome := this rfl
        cases hl : lastCb t new with
        | none => rw [hl] at hsome; cases hsome
        | some arg =>
          have harg := hC arg (lastCb_mem t new arg hl)
          apply linpt (.update key g) hpk rfl (hA _ rfl) (doneBk _ _ rfl ?_)
          rw [e, hcbt, hl, harg]
          rfl
      | some arg =>
        obtain ⟨hA, harg⟩ := heff.up_some hsig hca
        have := (hdr.up hsig).2
        rw [hca] at this
        apply linpt (.update key g) hpk rfl hA (doneBk _ _ rfl ?_)
        rw [e, hcbt, this, hcb arg hca, harg]
        rfl
    | get key =>
      have hsig : kontSig k = .ro false key := hkf
      have hpk := postK_false_of_sig (k := k) (by intro key' h; rw [hsig] at h; cases h)
      obtain ⟨v, hv⟩ := hdr.ro_false hsig
      subst hv
      obtain ⟨hA, hB⟩ := heff.ro_false hsig
      apply linpt (.search key) hpk rfl hA (doneBk _ _ rfl ?_)
      rw [hB v rfl]
      rfl
    | del key =>
      have hsig : kontSig k = .del key := hkf
      have hres := hdr.del hsig
      subst hres
      cases hpk : postK k with
      | true => exact same (heff.del_post hsig hpk) (doneBk (.delete key) .done rfl rfl _ (hlink hpk _ rfl))
      | false =>
        exact linpt (.delete key) hpk rfl ((heff.del_pre hsig hpk).1 trivial) (doneBk _ _ rfl rfl)
    | ns key =>
      have hsig : kontSig k = .ro true key := hkf
      exact same (heff.ro_true hsig) (noop rfl _)
    | scan => exact same (heff.other hkf) (noop rfl _)
    | pair => exact same (heff.other hkf) (noop rfl _)
    | close => exact same (heff.other hkf) (noop rfl _)
    | pause => exact same (heff.other hkf) (noop rfl _)

end Stretch

/-- `h` decorates the history of `c` with linearization points -/
structure LinInv (lt : K → K → Bool) (init : List (K × V)) (c : Config K V) (h : List (HEv K V)) : Prop where
  pts : Points lt init h c.tree.abs
  vis : visible h = history c
  thr : ∀ t th, c.threads[t]? = some th → ThreadBk (linState lt init h) ((hxRun c).cb t) t th

theorem ThreadBk.congr {st st' : LinState K V} {cbt cbt' : Option (Option V)} {t : Nat} {th : Thread K V}
    (hs : ∀ i, st'.status t i = st.status t i) (hc : cbt' = cbt) (h : ThreadBk st cbt t th) :
    ThreadBk st' cbt' t th := by
  subst hc
  refine ⟨fun i hi => by rw [hs]; exact h.fresh i hi, ?_⟩
  have hp := h.park
  have hk : ∀ cop k post, KBk st cbt' t th.pc cop k post → KBk st' cbt' t th.pc cop k post :=
    fun cop k post hb => ⟨fun op ho => by rw [hs]; exact hb.1 op ho, hb.2.1, hb.2.2⟩
  cases hpk : th.park with
  | start => rw [hpk] at hp; exact ⟨hp.1, by rw [hs]; exact hp.2⟩
  | finished => trivial
  | want l k =>
    rw [hpk] at hp
    obtain ⟨cop, h1, h2⟩ := hp
    exact ⟨cop, h1, hk cop k _ h2⟩
  | yielded k =>
    rw [hpk] at hp
    obtain ⟨cop, h1, h2⟩ := hp
    exact ⟨cop, h1, hk cop k _ h2⟩

theorem init_lininv (lt : K → K → Bool) (P : Params K) (tree : Tree K V) (progs : List (List (COp K V))) :
    LinInv lt tree.abs (Config.init P tree progs) [] := by
  refine ⟨Points.nil lt tree.abs, rfl, ?_⟩
  intro t th ht
  obtain ⟨p, _, rfl⟩ := mem_init_threads (List.mem_of_getElem? ht)
  exact ⟨fun _ _ => rfl, rfl, rfl⟩

def StepEff (lt : K → K → Bool) (c : Config K V) (t : Nat) : Prop :=
  ∀ th k, c.threads[t]? = some th → th.enabled c = true → (th.park = .yielded k ∨ ∃ l, th.park = .want l k) →
    StretchEff lt c.P t (stepSt c t th) k

theorem step_lininv_ext (lt : K → K → Bool) (init : List (K × V)) (c c' : Config K V) (t : Nat)
    (hstep : c.step t = some c') (hinv : CInv c) (hE : StepEff lt c t) (h : List (HEv K V))
    (hl : LinInv lt init c h) : ∃ h', LinInv lt init c' h' ∧ LinGrow t h h' := by
  obtain ⟨th, r, F⟩ := step_run hstep hinv
  have ht := F.get
  have hprog := F.prog
  have hbk := hl.thr t th ht
  have base0 : Base lt init (progOf c) t (linState lt init h) (hxRun c).cb c.tree.abs c.log h :=
    ⟨hl.pts, hl.vis, fun _ _ _ => rfl, fun _ _ => rfl⟩
  have base1 : Base lt init (progOf c) t (linState lt init h) (hxRun c).cb (stepSt c t th).tree.abs
      (stepSt c t th).evs h := base0.quiet [Ev.dec t c.enabledSet] rfl
  have hcb1 : (hx (progOf c) (stepSt c t th).evs).cb t = (hxRun c).cb t := by rw [F.hx0]; rfl
  have main : ∃ h', FinalI lt init (progOf c) t (linState lt init h) (hxRun c).cb r h' ∧ LinGrow t h h' := by
    have hdied := F.alive
    rw [F.run] at hdied ⊢
    refine runThread_cases c.P t th (stepSt c t th) (fun r => r.2.2 = false →
        ∃ h', FinalI lt init (progOf c) t (linState lt init h) (hxRun c).cb r h' ∧ LinGrow t h h')
      (fun hp => absurd hp F.nf) (fun _ _ _ => ⟨h, ⟨base1, hbk.fresh, trivial⟩, .inl rfl⟩) ?_ ?_ hdied
    · intro op hp hop _
      have hst := hbk.park
      rw [hp] at hst
      obtain ⟨hpc, hfr⟩ := hst
      have hfresh : ∀ i, 0 ≤ i → (linState lt init h).status t i = .fresh := by
        intro i _
        cases i with
        | zero => exact hfr
        | succ i => exact hbk.fresh _ (by rw [hpc]; exact Nat.succ_pos i)
      obtain ⟨h1, hl1, hx1⟩ := begin_op (s := stepSt c t th) base1 hfresh (by rw [← hprog]; exact hop)
      obtain ⟨h', hf, hx'⟩ := loop_lin th hprog _ _ _ _ h1 hl1
      exact ⟨h', hf, .inl (hx'.trans hx1)⟩
    · intro k hk hdied
      have hpk := Park.kont?_eq_some.1 hk
      -- a thread that yielded holds no lock, so it is not unwinding a Delete
      have hkb : ∃ cop, th.prog[th.pc]? = some cop ∧ KBk (linState lt init h) ((hxRun c).cb t) t th.pc cop k (postK k) := by
        have hkb := hbk.park
        rcases hpk with hp | ⟨l, hp⟩
        · have hlock : kontLock k = none := by
            have := (hinv.s.cfg th (List.mem_of_getElem? ht)).2.2; rw [hp] at this; exact this
          rw [hp] at hkb; rw [postK_of_nodel (kontLock_none hlock).2.2]; exact hkb
        · rw [hp] at hkb; exact hkb
      obtain ⟨new, e, q, hfl, heff⟩ := resume_facts_of_eff lt c.P t (stepSt c t th) k (hE th k ht F.enabled hpk)
      have hnp : (resume c.P t (stepSt c t th) k).2 ≠ .panic := by
        intro hp
        rw [hp, threadLoop_panic] at hdied
        cases hdied
      obtain ⟨cop, hcop, hkb⟩ := hkb
      obtain ⟨h1, hl1, hh⟩ := stretch_lin (pc := th.pc) base1 hbk.fresh (by rw [← hprog]; exact hcop)
        (by rw [hcb1]; exact hkb) e q hfl heff hnp
      obtain ⟨h', hf, hx'⟩ := loop_lin th hprog _ _ _ _ h1 hl1
      exact ⟨h', hf, hh.then hx'⟩
  obtain ⟨h', hfin, hext⟩ := main
  have hrun' : hxRun c' = hx (progOf c) r.2.1.evs := by rw [hxRun_eq, F.progs, F.log]
  refine ⟨h', ⟨by rw [F.tree]; exact hfin.base.pts, ?_, ?_⟩, hext⟩
  · show visible h' = (hxRun c').evs
    rw [hrun']; exact hfin.base.vis
  · refine F.each (by rw [hrun']; exact hfin.bk) fun j b hne hjo => ?_
    apply (hl.thr j b hjo).congr
    · intro i; exact hfin.base.oth j i hne
    · rw [hrun']; exact hfin.base.ocb j hne

theorem stepEff_ku (RU : ResumeKU K V) (lt : K → K → Bool) {c : Config K V} {t : Nat} {th : Thread K V} {k : Kont K V}
    (hinv : CInv c) (hkinv : KInv lt c) (hkp : KParams lt c.P) (ht : c.threads[t]? = some th)
    (hpk : th.park = .yielded k ∨ ∃ l, th.park = .want l k) (hdel : isDelK k = false) :
    StretchEff lt c.P t (stepSt c t th) k := by
  have hk := Park.kont?_eq_some.2 hpk
  obtain ⟨hpre, R⟩ := stepper_pre hinv.s ht hk
  have eff : ∀ evs, AbsEffect lt t k { stepSt c t th with evs := evs }
      (resume c.P t { stepSt c t th with evs := evs } k).1 (resume c.P t { stepSt c t th with evs := evs } k).2 :=
    fun evs => (RU lt c.P t { stepSt c t th with evs := evs } k (stepHeld th) (holeOf c.threads) hdel hkp
      ⟨hpre.tree, hpre.order, hpre.pad⟩ R.kok R.cur R.pre R.cov hkinv.ord (kpos_of_park hkinv ht hk)).1.eff
  exact ⟨eff _, eff [], resume_new_evs c.P t _ k _ hpre (fun h => by rw [hdel] at h; cases h) R.kok⟩

theorem stepEff_nodel (RU : ResumeKU K V) (lt : K → K → Bool) (c : Config K V) (t : Nat) (hk : KCInv lt c) :
    StepEff lt c t := by
  intro th k ht _ hpk
  exact stepEff_ku RU lt hk.cinv hk.kinv hk.kp ht hpk
    ((isDelPark_kont (Park.kont?_eq_some.2 hpk)).symm.trans (hk.nodel th (List.mem_of_getElem? ht)).1)

theorem reachable_lininv_of (lt : K → K → Bool) (P : Params K) (tree : Tree K V) (progs : List (List (COp K V)))
    (hI : ∀ c, Reachable (Config.init P tree progs) c → CInv c ∧ ∀ t, StepEff lt c t)
    {c : Config K V} (hr : Reachable (Config.init P tree progs) c) : ∃ h, LinInv lt tree.abs c h :=
  hr.invariant (fun c => ∃ h, LinInv lt tree.abs c h) ⟨[], init_lininv lt P tree progs⟩
    (fun c c' t hr ⟨h, hl⟩ hs =>
      let ⟨h', hl', _⟩ := step_lininv_ext lt tree.abs c c' t hs (hI c hr).1 ((hI c hr).2 t) h hl
      ⟨h', hl'⟩)

theorem LinInv.linearizable {lt : K → K → Bool} {init : List (K × V)} {c : Config K V} {h : List (HEv K V)}
    (hl : LinInv lt init c h) : Lin.Linearizable lt init (history c) := by
  rw [← hl.vis]
  exact hl.pts.linearizable

theorem linearizable_nodelete (RU : ResumeKU K V) (lt : K → K → Bool) (P : Params K) (tree : Tree K V)
    (progs : List (List (COp K V)))
    (hkp : KParams lt P) (ht : TreeOk none tree) (hord : OrdTree lt tree) (ho : tree.order = P.order)
    (hp : PadOk P) (hd : Disciplined progs) (hnd : NoDelete progs)
    (c : Config K V) (hr : Reachable (Config.init P tree progs) c) :
    Lin.Linearizable lt tree.abs (history c) := by
  obtain ⟨h, hl⟩ := reachable_lininv_of lt P tree progs (fun c hr =>
    have hk := reachable_kcinv RU lt P tree progs hkp ht hord ho hp hd hnd c hr
    ⟨hk.cinv, fun t => stepEff_nodel RU lt c t hk⟩) hr
  exact hl.linearizable

#print axioms linearizable_nodelete

end Gobptree.Conc
