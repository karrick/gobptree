/-
  The linearizability invariant: a decorated history (with linearization points) whose
  visible part is the history extracted from the log, whose `lin` events replay to the
  abstract map of the current tree, and the bookkeeping of every thread's current operation.
  This file: the definitions and the loop of a scheduler step after its first stretch.
-/
import Gobptree.Proofs.CLinNotes

namespace Gobptree.Conc
open Gobptree Gobptree.Lin

variable {K V : Type}

def LinGrow (t : Nat) (h h' : List (HEv K V)) : Prop :=
  linOrder h' = linOrder h ∨
    ∃ i op, invOp h t i = some op ∧ HEv.lin t i ∉ h ∧ linOrder h' = linOrder h ++ [(t, i, op)]

theorem LinGrow.then {t : Nat} {h h1 h' : List (HEv K V)} (hg : LinGrow t h h1) (e : linOrder h' = linOrder h1) :
    LinGrow t h h' :=
  hg.elim (fun e1 => .inl (e.trans e1)) fun ⟨i, op, h1, h2, e1⟩ => .inr ⟨i, op, h1, h2, e.trans e1⟩

theorem visible_append_lin (h : List (HEv K V)) (t i : Nat) : visible (h ++ [HEv.lin t i]) = visible h := by
  simp [visible, List.filter_append, HEv.isLin]

theorem visible_append_nonlin (h : List (HEv K V)) {e : HEv K V} (he : e.isLin = false) :
    visible (h ++ [e]) = visible h ++ [e] := by
  simp [visible, List.filter_append, he]

theorem outOf_panic (cop : COp K V) (cb : Option (Option V)) : outOf cop (.panic : Res K V) cb = none := by
  cases cop <;> rfl

theorem outOf_none_of_opOf (cop : COp K V) (r : Res K V) (cb : Option (Option V)) (h : opOf cop = none) :
    outOf cop r cb = none := by
  cases cop <;> first | rfl | cases h

/-! ### bookkeeping (`KBk`, `ParkBk`, `ThreadBk`, `FlowBk`): how the status the linearization state
    records for a thread's current operation matches where the thread is parked -/

/-- an operation in progress with continuation `k`: invoked, not yet linearized (`post = false`)
    or, for a Delete that has removed its key and is unwinding (`post = true`), linearized;
    `k` belongs to it; inside the callback, the callback note has been logged with the
    remembered argument -/
def KBk (st : LinState K V) (cbt : Option (Option V)) (t pc : Nat) (cop : COp K V) (k : Kont K V) (post : Bool) : Prop :=
  (∀ op, opOf cop = some op → st.status t pc = if post then .linearized op .done else .invoked op) ∧ KontFor cop k ∧
    (∀ arg, cbArg k = some arg → cbt = some arg)

def ParkBk (st : LinState K V) (cbt : Option (Option V)) (t pc : Nat) (ocop : Option (COp K V)) : Park K V → Prop
  | .start => pc = 0 ∧ st.status t 0 = .fresh
  | .finished => True
  | .want _ k => ∃ cop, ocop = some cop ∧ KBk st cbt t pc cop k (postK k)
  | .yielded k => ∃ cop, ocop = some cop ∧ KBk st cbt t pc cop k false

structure ThreadBk (st : LinState K V) (cbt : Option (Option V)) (t : Nat) (th : Thread K V) : Prop where
  fresh : ∀ i, th.pc < i → st.status t i = .fresh
  park  : ParkBk st cbt t th.pc th.prog[th.pc]? th.park

def FlowBk (st : LinState K V) (cbt : Option (Option V)) (t pc : Nat) (ocop : Option (COp K V)) : Flow K V → Prop
  | .panic => True
  | .park p => ParkBk st cbt t pc ocop p
  | .done r => ∀ cop op, ocop = some cop → opOf cop = some op →
      ∃ out, st.status t pc = .linearized op out ∧ outOf cop r cbt = some out

section Step

variable (lt : K → K → Bool) (init : List (K × V)) (progs : Nat → List (COp K V)) (t : Nat)
  (st0 : LinState K V) (cb0 : Nat → Option (Option V))

/-- what holds of the decorated history all along a step of thread `t`; `st0` and `cb0` are the
    linearization state and the last-callback table before the step: the step leaves the other
    threads' entries alone -/
structure Base (m : List (K × V)) (evs : List (Ev K V)) (h : List (HEv K V)) : Prop where
  pts : Points lt init h m
  vis : visible h = (hx progs evs).evs
  oth : ∀ t' i, t' ≠ t → (linState lt init h).status t' i = st0.status t' i
  ocb : ∀ t', t' ≠ t → (hx progs evs).cb t' = cb0 t'

variable {lt init progs t st0 cb0}

theorem Base.quiet {m : List (K × V)} {evs : List (Ev K V)} {h : List (HEv K V)}
    (b : Base lt init progs t st0 cb0 m evs h) (new : List (Ev K V)) (hq : new.all (quietB t) = true) :
    Base lt init progs t st0 cb0 m (new ++ evs) h := by
  obtain ⟨h1, h2, _⟩ := hx_quiet progs t evs new hq
  exact ⟨b.pts, by rw [h1]; exact b.vis, b.oth, fun t' hne => by rw [h2 t' hne]; exact b.ocb t' hne⟩

theorem Base.silent {m : List (K × V)} {evs : List (Ev K V)} {h : List (HEv K V)}
    (b : Base lt init progs t st0 cb0 m evs h) (new : List (Ev K V)) (hq : new.all silentB = true) :
    Base lt init progs t st0 cb0 m (new ++ evs) h :=
  b.quiet new (quiet_of_silent t hq)

theorem Base.lin {m : List (K × V)} {evs : List (Ev K V)} {h : List (HEv K V)}
    (b : Base lt init progs t st0 cb0 m evs h) {pc : Nat} {op : Op K V}
    (hs : (linState lt init h).status t pc = .invoked op) :
    Base lt init progs t st0 cb0 (Spec.step lt m op).1 evs (h ++ [HEv.lin t pc]) ∧
      (linState lt init (h ++ [HEv.lin t pc])).status t pc = .linearized op (Spec.step lt m op).2 ∧
      (∀ i, i ≠ pc → (linState lt init (h ++ [HEv.lin t pc])).status t i = (linState lt init h).status t i) := by
  have hst := linState_append_lin hs
  refine ⟨⟨points_append_lin b.pts hs, by rw [visible_append_lin]; exact b.vis, ?_, b.ocb⟩, ?_, ?_⟩
  · intro t' i hne
    rw [hst, LinState.set_status_of_ne _ _ _ (fun h => hne h.1)]
    exact b.oth t' i hne
  · rw [hst, LinState.set_status_self, b.pts.state_map]
  · intro i hne
    rw [hst, LinState.set_status_of_ne _ _ _ (fun h => hne h.2)]

theorem Base.ret {m : List (K × V)} {evs : List (Ev K V)} {h : List (HEv K V)}
    (b : Base lt init progs t st0 cb0 m evs h) {pc : Nat} {cop : COp K V} {r : Res K V} {op : Op K V} {out : Out V}
    (hcop : (progs t)[pc]? = some cop) (hout : outOf cop r ((hx progs evs).cb t) = some out)
    (hs : (linState lt init h).status t pc = .linearized op out) :
    Base lt init progs t st0 cb0 m (Ev.note t (.ret pc r) :: evs) (h ++ [HEv.ret t pc out]) ∧
      (∀ i, i ≠ pc → (linState lt init (h ++ [HEv.ret t pc out])).status t i = (linState lt init h).status t i) := by
  have hst := linState_append_ret out hs
  have hxe : hx progs (Ev.note t (.ret pc r) :: evs) =
      { hx progs evs with evs := (hx progs evs).evs ++ [HEv.ret t pc out] } := by
    rw [hx_cons]; simp only [hxStep, hcop, hout]
  refine ⟨⟨points_append_ret b.pts hs, ?_, ?_, ?_⟩, ?_⟩
  · rw [visible_append_nonlin _ rfl, hxe, b.vis]
  · intro t' i hne
    rw [hst, LinState.set_status_of_ne _ _ _ (fun h => hne h.1)]
    exact b.oth t' i hne
  · intro t' hne; rw [hxe]; exact b.ocb t' hne
  · intro i hne
    rw [hst, LinState.set_status_of_ne _ _ _ (fun h => hne h.2)]

theorem Base.ret_none {m : List (K × V)} {evs : List (Ev K V)} {h : List (HEv K V)}
    (b : Base lt init progs t st0 cb0 m evs h) {pc : Nat} {r : Res K V}
    (hno : ∀ cop, (progs t)[pc]? = some cop → outOf cop r ((hx progs evs).cb t) = none) :
    Base lt init progs t st0 cb0 m (Ev.note t (.ret pc r) :: evs) h := by
  have hxe : hx progs (Ev.note t (.ret pc r) :: evs) = hx progs evs := by
    rw [hx_cons]
    simp only [hxStep]
    cases hc : (progs t)[pc]? with
    | none => rfl
    | some cop => simp only [hno cop hc]
  exact ⟨b.pts, by rw [hxe]; exact b.vis, b.oth, fun t' hne => by rw [hxe]; exact b.ocb t' hne⟩

theorem Base.inv {m : List (K × V)} {evs : List (Ev K V)} {h : List (HEv K V)}
    (b : Base lt init progs t st0 cb0 m evs h) {j : Nat} {cop : COp K V}
    (hcop : (progs t)[j]? = some cop) (hs : (linState lt init h).status t j = .fresh) :
    ∃ h', Base lt init progs t st0 cb0 m (Ev.note t (.inv j) :: evs) h' ∧
      (∀ op, opOf cop = some op → (linState lt init h').status t j = .invoked op) ∧
      (∀ i, i ≠ j → (linState lt init h').status t i = (linState lt init h).status t i) ∧
      linOrder h' = linOrder h := by
  cases hop : opOf cop with
  | none =>
    have hxe : hx progs (Ev.note t (.inv j) :: evs) = hx progs evs := by
      rw [hx_cons]; simp only [hxStep, hcop, Option.bind_some, hop]
    refine ⟨h, ⟨b.pts, by rw [hxe]; exact b.vis, b.oth, fun t' hne => by rw [hxe]; exact b.ocb t' hne⟩, ?_, ?_, rfl⟩
    · intro op h; cases h
    · intro i _; rfl
  | some op =>
    have hxe : hx progs (Ev.note t (.inv j) :: evs) =
        { hx progs evs with evs := (hx progs evs).evs ++ [HEv.inv t j op] } := by
      rw [hx_cons]; simp only [hxStep, hcop, Option.bind_some, hop]
    have hst := linState_append_inv (lt := lt) (init := init) op hs
    refine ⟨h ++ [HEv.inv t j op], ⟨points_append_inv b.pts op hs, ?_, ?_, ?_⟩, ?_, ?_, linOrder_append_nonlin b.pts.wf rfl⟩
    · rw [visible_append_nonlin _ rfl, hxe, b.vis]
    · intro t' i hne
      rw [hst, LinState.set_status_of_ne _ _ _ (fun h => hne h.1)]
      exact b.oth t' i hne
    · intro t' hne; rw [hxe]; exact b.ocb t' hne
    · intro op' h; cases h
      rw [hst, LinState.set_status_self]
    · intro i hne
      rw [hst, LinState.set_status_of_ne _ _ _ (fun h => hne h.2)]

variable (lt init progs t st0 cb0)

structure LoopI (s : St K V) (fl : Flow K V) (pc : Nat) (h : List (HEv K V)) : Prop where
  base  : Base lt init progs t st0 cb0 s.tree.abs s.evs h
  fresh : ∀ i, pc < i → (linState lt init h).status t i = .fresh
  cur   : FlowBk (linState lt init h) ((hx progs s.evs).cb t) t pc (progs t)[pc]? fl

structure FinalI (r : Thread K V × St K V × Bool) (h : List (HEv K V)) : Prop where
  base : Base lt init progs t st0 cb0 r.2.1.tree.abs r.2.1.evs h
  bk   : ThreadBk (linState lt init h) ((hx progs r.2.1.evs).cb t) t r.1

variable {lt init progs t st0 cb0}

theorem begin_op {s : St K V} {h : List (HEv K V)} {j : Nat} {cop : COp K V}
    (b : Base lt init progs t st0 cb0 s.tree.abs s.evs h)
    (hfresh : ∀ i, j ≤ i → (linState lt init h).status t i = .fresh)
    (hcop : (progs t)[j]? = some cop) :
    ∃ h', LoopI lt init progs t st0 cb0 (startOp t (s.note t (.inv j)) cop).1 (startOp t (s.note t (.inv j)) cop).2 j h' ∧
      linOrder h' = linOrder h := by
  obtain ⟨h', b', hinv, hoth, hext⟩ := b.inv hcop (hfresh j (Nat.le_refl _))
  obtain ⟨new, e, q, fl⟩ := startOp_tr t (s.note t (.inv j)) cop
  refine ⟨h', ⟨?_, ?_, ?_⟩, hext⟩
  · rw [startOp_tree, e]
    exact b'.silent new q
  · intro i hi
    rw [hoth i (by omega)]
    exact hfresh i (by omega)
  · rw [hcop]
    revert fl
    cases (startOp t (s.note t (.inv j)) cop).2 with
    | panic => intro _; trivial
    | done r =>
      intro fl cop' op hc ho
      cases hc
      have : opOf cop = none := fl
      rw [this] at ho; cases ho
    | park p =>
      intro fl
      obtain ⟨k, hk, hkf, hcb, hpp⟩ := fl
      have hb : KBk (linState lt init h') ((hx progs (startOp t (s.note t (.inv j)) cop).1.evs).cb t) t j cop k false :=
        ⟨hinv, hkf, by intro arg ha; rw [hcb] at ha; cases ha⟩
      rcases Park.kont?_eq_some.1 hk with rfl | ⟨l, rfl⟩
      · exact ⟨cop, rfl, hb⟩
      · have hpk : postK k = false := hpp
        exact ⟨cop, rfl, by rw [hpk]; exact hb⟩

theorem ret_step {s : St K V} {r : Res K V} {pc : Nat} {h : List (HEv K V)}
    (hl : LoopI lt init progs t st0 cb0 s (.done r) pc h) :
    ∃ h', Base lt init progs t st0 cb0 s.tree.abs (Ev.note t (.ret pc r) :: s.evs) h' ∧
      (∀ i, pc < i → (linState lt init h').status t i = .fresh) ∧ linOrder h' = linOrder h := by
  cases hb : ((progs t)[pc]?).bind opOf with
  | none =>
    refine ⟨h, hl.base.ret_none fun cop hc => outOf_none_of_opOf cop r _ ?_, hl.fresh, rfl⟩
    rw [hc] at hb; exact hb
  | some op =>
    obtain ⟨cop, hc, ho⟩ := Option.bind_eq_some_iff.1 hb
    obtain ⟨out, hs, hout⟩ := hl.cur cop op hc ho
    obtain ⟨b', hoth⟩ := hl.base.ret hc hout hs
    refine ⟨_, b', ?_, linOrder_append_nonlin hl.base.pts.wf rfl⟩
    intro i hi
    rw [hoth i (by omega)]
    exact hl.fresh i hi

theorem loop_lin (th : Thread K V) (hprog : th.prog = progs t) (fuel : Nat) (s : St K V) (fl : Flow K V) (pc : Nat)
    (h : List (HEv K V)) (hl : LoopI lt init progs t st0 cb0 s fl pc h) :
    ∃ h', FinalI lt init progs t st0 cb0 (threadLoop t th fuel s fl pc) h' ∧ linOrder h' = linOrder h := by
  refine threadLoop_induct t th (fun s fl pc => ∃ h1, LoopI lt init progs t st0 cb0 s fl pc h1 ∧ linOrder h1 = linOrder h)
    (fun r => ∃ h', FinalI lt init progs t st0 cb0 r h' ∧ linOrder h' = linOrder h) ?_ ?_ ?_ ?_ fuel s fl pc ⟨h, hl, rfl⟩
  · rintro s p pc ⟨h, hl, hx⟩
    exact ⟨h, ⟨hl.base, hl.fresh, by rw [hprog]; exact hl.cur⟩, hx⟩
  · rintro s pc ⟨h, hl, hx⟩
    exact ⟨h, ⟨hl.base.ret_none (fun cop _ => outOf_panic cop _), hl.fresh, trivial⟩, hx⟩
  · rintro s r pc ⟨h, hl, hx⟩
    obtain ⟨h1, b1, hf1, hx1⟩ := ret_step hl
    exact ⟨h1, ⟨b1, fun i hi => hf1 i (by simp only at hi; omega), trivial⟩, hx1.trans hx⟩
  · rintro s r pc cop ⟨h, hl, hx⟩ hop
    obtain ⟨h1, b1, hf1, hx1⟩ := ret_step hl
    obtain ⟨h2, hl2, hx2⟩ := begin_op (s := s.note t (.ret pc r)) (j := pc + 1) b1 (fun i hi => hf1 i (by omega)) (by rw [← hprog]; exact hop)
    exact ⟨h2, hl2, hx2.trans (hx1.trans hx)⟩

end Step

end Gobptree.Conc
