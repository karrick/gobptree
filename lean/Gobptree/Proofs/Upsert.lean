/-
  Correctness of the Insert/Update descent: `upsertNode` keeps the node well
  formed and performs exactly `Spec.insert` on the pairs beneath it.

  An inner step rewrites the entry the key is routed to into one or two entries
  (`inner_replace`); the rest of the node is context.
-/
import Gobptree.Proofs.Context
import Gobptree.Proofs.Linked
import Gobptree.Proofs.Split
import Gobptree.Proofs.Leaf

namespace Gobptree

variable {K V : Type} {lt : K → K → Bool}

theorem lowerFirst_eq (P : Params K) (key : K) (index : Nat) (runts : List K) {d : Nat}
    (child : Node K V d) (s : K) (hs : runts[0]? = some s) :
    lowerFirst P key index runts child =
      .ok (if index = 0 ∧ P.lt key s = true then runts.set 0 key else runts) := by
  unfold lowerFirst
  by_cases h0 : index = 0
  · simp [h0, hs]
  · simp [h0]

section steps
variable (P : Params K) (key : K) (f : Option V → V) {d : Nat} (pid : Nat) {rA rB : List K} {k : K}
  {cA cB : List (Node K V d)} {c : Node K V d} {runts' : List K} {nid nid' : Nat} {cb : Option V}
  (hidx : searchLE P.lt key (rA ++ k :: rB) = rA.length) (hcl : cA.length = rA.length)
include hidx hcl

theorem upsertNode_nosplit_eq {c' : Node K V d}
    (hlow : lowerFirst P key rA.length (rA ++ k :: rB) c = .ok runts')
    (hms : Node.maybeSplit P.order nid c = .ok (c, none))
    (hrec : upsertNode P key f d c nid = .ok (c', nid', cb)) :
    upsertNode P key f (d + 1) (Inner.mk pid (rA ++ k :: rB) (cA ++ c :: cB) : Inner K (Node K V d)) nid =
      .ok ((Inner.mk pid runts' (cA ++ c' :: cB) : Inner K (Node K V d)), nid', cb) := by
  simp only [upsertNode, hidx, getElem?_pivot hcl, hlow, hms, hrec, set_pivot hcl, bind, Except.bind,
    pure, Except.pure]

theorem upsertNode_split_eq {k' pad sr : K} {l r c' l' r' : Node K V d}
    (hlow : lowerFirst P key rA.length (rA ++ k :: rB) c = .ok (rA ++ k' :: rB))
    (hms : Node.maybeSplit P.order nid c = .ok (l, some r))
    (hpad : P.pad (some key) = some pad) (hsr : Node.smallest r = .ok sr)
    (hrec : upsertNode P key f d (if P.lt key sr then l else r) (nid + 1) = .ok (c', nid', cb))
    (hl' : l' = if P.lt key sr then c' else l) (hr' : r' = if P.lt key sr then r else c') :
    upsertNode P key f (d + 1) (Inner.mk pid (rA ++ k :: rB) (cA ++ c :: cB) : Inner K (Node K V d)) nid =
      .ok ((Inner.mk pid (rA ++ k' :: sr :: rB) (cA ++ l' :: r' :: cB) : Inner K (Node K V d)), nid', cb) := by
  subst hl' hr'
  cases hlt : P.lt key sr <;> simp only [hlt, Bool.false_eq_true, ↓reduceIte] at hrec ⊢ <;>
    simp only [upsertNode, hidx, getElem?_pivot hcl, hlow, hms, hpad, hsr, hlt, hrec, insertIdiom_next rfl,
      insertIdiom_next hcl, set_pivot hcl, set_next hcl, bind, Except.bind, pure, Except.pure,
      Bool.not_true, Bool.not_false, Bool.false_eq_true, ↓reduceIte]

end steps

/-- Replacing the entries between `A` and `B` of a well-formed, linked inner node by the
    entries `(k', c') :: M`, which span the same key interval and the same stretch of the
    leaf chain.  `hhead` bounds the first separator; what follows `k'` is immaterial to it, so `X`
    is free and a caller passes the bound for the list it holds. -/
theorem inner_replace {o d m : Nat} {lo hi : Option K} {after : Option Nat} (pid : Nat)
    {rA rB rM : List K} {cA cB cM : List (Node K V d)} {k' : K} {c' : Node K V d}
    (hcl : cA.length = rA.length) (hlM : rM.length = cM.length) (hlB : rB.length = cB.length)
    (hle : rA.length + (rM.length + 1) + rB.length ≤ o) (hm : m ≤ rA.length + (rM.length + 1) + rB.length)
    {X : List K} (hhead : ∀ k0, (rA ++ k' :: X).head? = some k0 → leO lt lo k0)
    (hA : Kids lt (RWF lt o d) (some k') (rA.zip cA))
    (hM : Kids lt (RWF lt o d) (nextLo hi (rB.zip cB)) ((k', c') :: rM.zip cM))
    (hB : Kids lt (RWF lt o d) hi (rB.zip cB))
    (hLA : LinkedKids (Linked d) (Node.firstId (d := d)) (some (Node.firstId c')) cA)
    (hLM : LinkedKids (Linked d) (Node.firstId (d := d)) (afterOf (Node.firstId (d := d)) after cB) (c' :: cM))
    (hLB : LinkedKids (Linked d) (Node.firstId (d := d)) after cB) :
    WF lt o (d + 1) m lo hi (Inner.mk pid (rA ++ k' :: (rM ++ rB)) (cA ++ c' :: (cM ++ cB)) : Inner K (Node K V d)) ∧
    Linked (d + 1) after (Inner.mk pid (rA ++ k' :: (rM ++ rB)) (cA ++ c' :: (cM ++ cB)) : Inner K (Node K V d)) := by
  have hlen := length_mid rA rM rB k'
  refine ⟨⟨?_, hlen ▸ hle, hlen ▸ hm,
    hlen ▸ Nat.le_trans (Nat.le_add_left 1 _) (Nat.le_trans (Nat.le_add_left _ _) (Nat.le_add_right _ _)),
    fun k0 hk0 => hhead k0 ?_, ?_⟩, ?_⟩
  · show (rA ++ k' :: (rM ++ rB)).length = (cA ++ c' :: (cM ++ cB)).length
    rw [length_mid, length_mid, hcl, hlM, hlB]
  · cases rA <;> exact hk0
  · have hK := (Kids_mid hi rA rB k' cA cB c' (rM.zip cM) hcl.symm).2 ⟨hA, hM, hB⟩
    rwa [map_fst_zip_eq rM cM hlM, map_snd_zip_eq rM cM hlM] at hK
  · show LinkedKids _ _ after (cA ++ c' :: (cM ++ cB))
    rw [← List.cons_append, LinkedKids_append, LinkedKids_append]
    exact ⟨hLA, hLM, hLB⟩

theorem leO_lowered_of_leO (h : SWO lt) {lo : Option K} {key k : K} (hk : leO lt lo k) :
    leO lt (lowered lt lo key) k :=
  leO_mono h (lowered_loLe h lo key) hk

def UpsertOk (P : Params K) (key : K) (f : Option V → V) (d : Nat) : Prop :=
  ∀ (n : Node K V d) (m : Nat) (lo hi : Option K) (nid : Nat) (after : Option Nat),
    WF P.lt P.order d m lo hi n → Node.count n < P.order → ltO P.lt key hi → Linked d after n →
    ∃ (n' : Node K V d) (nid' : Nat),
      upsertNode P key f d n nid = .ok (n', nid', Spec.lookup P.lt (Node.pairs n) key) ∧
      WF P.lt P.order d m (lowered P.lt lo key) hi n' ∧
      Node.pairs n' = Spec.insert P.lt (Node.pairs n) key (f (Spec.lookup P.lt (Node.pairs n) key)) ∧
      Node.count n' ≤ Node.count n + 1 ∧ Linked d after n' ∧ Node.firstId n' = Node.firstId n

section inner
variable {P : Params K} {key : K} {f : Option V → V} {d : Nat}

/-- "preemptively update smallest value" on a node decomposed at the routing index: the
    separator `k` of the routed child becomes `k' = min k key` -/
theorem lowerFirst_ok (h : SWO P.lt) {rA rB : List K} {k : K} (c : Node K V d) {lo hiC : Option K}
    (hF1 : rA ≠ [] → P.lt key k = false)
    (hlo : ∀ k0, (rA ++ k :: rB).head? = some k0 → leO P.lt lo k0)
    (hkhi : ltO P.lt k hiC) (hkeyhi : ltO P.lt key hiC) :
    ∃ k', lowerFirst P key rA.length (rA ++ k :: rB) c = .ok (rA ++ k' :: rB) ∧
      lowered P.lt (some k) key = some k' ∧ (rA ≠ [] → k' = k) ∧ ltO P.lt k' hiC ∧
      (∀ k0, (rA ++ [k']).head? = some k0 → leO P.lt (lowered P.lt lo key) k0) := by
  cases rA with
  | nil =>
    cases hk : P.lt key k with
    | false =>
      refine ⟨k, by rw [lowerFirst_eq P key _ _ c k rfl, hk]; rfl, lowered_of_ge k key hk, fun _ => rfl, hkhi, fun k0 hk0 => ?_⟩
      cases hk0; exact leO_lowered_of_leO h (hlo k rfl)
    | true =>
      refine ⟨key, by rw [lowerFirst_eq P key _ _ c k rfl, hk]; rfl, lowered_of_lt k key hk, fun hn => absurd rfl hn, hkeyhi, fun k0 hk0 => ?_⟩
      cases hk0; exact lowered_le_key h lo key
  | cons a rA =>
    refine ⟨k, ?_, lowered_of_ge k key (hF1 (List.cons_ne_nil _ _)), fun _ => rfl, hkhi,
      fun k0 hk0 => leO_lowered_of_leO h (hlo k0 hk0)⟩
    rw [lowerFirst_eq P key _ _ c a rfl]; rfl

theorem upsertSplit_ok (h : SWO P.lt) (ih : UpsertOk (V := V) P key f d) {lo hi : Option K} {sr : K}
    {c l r : Node K V d} {after : Option Nat} (nid : Nat)
    (hWl : WF P.lt P.order d (P.order / 2) lo (some sr) l) (hWr : WF P.lt P.order d (P.order / 2) (some sr) hi r)
    (hcl : Node.count l < P.order) (hcr : Node.count r < P.order)
    (hpr : Node.pairs c = Node.pairs l ++ Node.pairs r) (hhi : ltO P.lt key hi)
    (hLl : Linked d (some (Node.firstId r)) l) (hLr : Linked d after r) :
    ∃ (c' l' r' : Node K V d) (nid' : Nat),
      upsertNode P key f d (if P.lt key sr then l else r) nid =
        .ok (c', nid', Spec.lookup P.lt (Node.pairs c) key) ∧
      (l' = if P.lt key sr then c' else l) ∧ (r' = if P.lt key sr then r else c') ∧
      WF P.lt P.order d (P.order / 2) (lowered P.lt lo key) (some sr) l' ∧
      WF P.lt P.order d (P.order / 2) (some sr) hi r' ∧
      Node.pairs l' ++ Node.pairs r' =
        Spec.insert P.lt (Node.pairs c) key (f (Spec.lookup P.lt (Node.pairs c) key)) ∧
      Linked d (some (Node.firstId r')) l' ∧ Linked d after r' ∧ Node.firstId l' = Node.firstId l := by
  have hpl : AllLt P.lt (Node.pairs l) sr := fun q hq => (WF_pairs_bounds h hWl q hq).2
  cases hlt : P.lt key sr with
  | false =>
    have hpl' : AllLt P.lt (Node.pairs l) key := fun q hq => h.lt_of_lt_of_le (hpl q hq) hlt
    obtain ⟨r', nid', heq, hW', hp', -, hLr', hfr'⟩ := ih r _ _ _ nid _ hWr hcr hhi hLr
    rw [lowered_of_ge sr key hlt] at hW'
    rw [hpr, Spec.lookup_append_left _ _ _ hpl', Spec.insert_append_left h _ _ _ _ hpl', ← hp']
    exact ⟨r', l, r', nid', heq, rfl, rfl, WF_mono_lo h (lowered_loLe h lo key) hWl, hW', rfl,
      hfr' ▸ hLl, hLr', rfl⟩
  | true =>
    have hgt : AllGt P.lt (Node.pairs r) key := fun q hq =>
      h.lt_of_lt_of_le hlt (WF_pairs_bounds h hWr q hq).1
    obtain ⟨l', nid', heq, hW', hp', -, hLl', hfl'⟩ := ih l _ _ _ nid _ hWl hcl hlt hLl
    rw [hpr, Spec.lookup_append_right _ _ _ hgt, Spec.insert_append_right _ _ _ _ hgt, ← hp']
    exact ⟨l', l', r, nid', heq, rfl, rfl, hW', hWr, rfl, hLl', hLr, hfl'⟩

theorem upsertInner_ok (h : SWO P.lt) (hpad : ∀ k, P.pad (some k) ≠ none)
    (ho : 2 ≤ P.order) (hev : P.order % 2 = 0) (ih : UpsertOk (V := V) P key f d) :
    UpsertOk (V := V) P key f (d + 1) := by
  have hhalf : 0 < P.order / 2 ∧ P.order / 2 < P.order :=
    ⟨Nat.div_pos ho (Nat.succ_pos 1), Nat.div_lt_self (Nat.lt_of_lt_of_le (Nat.succ_pos 1) ho) (Nat.lt_succ_self 1)⟩
  intro p m lo hi nid after hw hroom hhi hL
  obtain ⟨rA, rB, k, cA, cB, c, R⟩ := route_facts h key p hw
  obtain ⟨pid, runts, kids⟩ := p
  obtain ⟨-, hle, hm, -, hlo, -⟩ := hw
  obtain rfl : runts = rA ++ k :: rB := R.runts
  obtain rfl : kids = cA ++ c :: cB := R.kids
  obtain ⟨hLA, hLc, hLB⟩ : LinkedKids (Linked d) (Node.firstId (d := d)) (some (Node.firstId c)) cA ∧ _ :=
    (LinkedKids_append ..).mp hL
  have hkeyhiC : ltO P.lt key (nextLo hi (rB.zip cB)) := by
    cases rB with
    | nil => exact hhi
    | cons x rB' =>
      cases cB with
      | nil => cases R.lenB
      | cons y cB' => exact R.key_lt x List.mem_cons_self
  have hlook : Spec.lookup P.lt (Node.pairs (d := d + 1) (Inner.mk pid (rA ++ k :: rB) (cA ++ c :: cB) : Inner K _)) key
      = Spec.lookup P.lt (Node.pairs c) key := by
    rw [R.pairs, Spec.lookup_append_left _ _ _ R.pairs_before, Spec.lookup_append_right _ _ _ R.pairs_after]
  have hins : ∀ v, Spec.insert P.lt (Node.pairs (d := d + 1) (Inner.mk pid (rA ++ k :: rB) (cA ++ c :: cB) : Inner K _)) key v
      = cA.flatMap (Node.pairs (d := d)) ++ (Spec.insert P.lt (Node.pairs c) key v ++ cB.flatMap (Node.pairs (d := d))) := by
    intro v
    rw [R.pairs, Spec.insert_append_left h _ _ _ _ R.pairs_before, Spec.insert_append_right _ _ _ _ R.pairs_after]
  obtain ⟨k', hlowEq, hlowered, hkA, hk'hi, hhead⟩ := lowerFirst_ok h c R.key_ge hlo R.sep_lt hkeyhiC
  have hA' : Kids P.lt (RWF P.lt P.order d) (some k') (rA.zip cA) := by
    by_cases hAnil : rA = []
    · subst hAnil; trivial
    · rw [hkA hAnil]; exact R.before
  have hlenp := length_pivot rA rB k
  have hle : rA.length + 1 + rB.length ≤ P.order := hlenp ▸ hle
  have hm : m ≤ rA.length + 1 + rB.length := hlenp ▸ hm
  have hroom : rA.length + 1 + rB.length < P.order := hlenp ▸ hroom
  rw [hlook, hins]
  rcases maybeSplit_ok h ho hev nid R.child _ hLc with ⟨hroomc, hms⟩ |
    ⟨hfull, l, r, sr, hms, hsr, hWl, hWr, hcl', hcr', hpr, hsrhi, hLl, hLr, hfl⟩
  · obtain ⟨c', nid', heq, hW', hp', -, hLc', hfc'⟩ := ih c _ _ _ nid _ R.child hroomc hkeyhiC hLc
    rw [hlowered] at hW'
    obtain ⟨hWn, hLn⟩ := inner_replace (m := m) (lo := lowered P.lt lo key) pid (rM := []) (cM := []) R.lenA rfl R.lenB
      hle hm hhead hA' ⟨hW', hk'hi, trivial⟩ R.after (hfc' ▸ hLA) ⟨hLc', trivial⟩ hLB
    exact ⟨_, nid', upsertNode_nosplit_eq P key f pid R.index R.lenA hlowEq hms heq, hWn,
      by rw [pairs_mk, List.flatMap_append, List.flatMap_cons, hp'],
      by show (rA ++ k' :: rB).length ≤ (rA ++ k :: rB).length + 1
         rw [length_pivot, length_pivot]; exact Nat.le_succ _,
      hLn,
      firstId_mk_append cA hfc'⟩
  · obtain ⟨pad, hp⟩ := Option.ne_none_iff_exists'.mp (hpad key)
    obtain ⟨c', l', r', nid', heq, hl', hr', hWl', hWr', hp', hLl', hLr', hfl'⟩ :=
      upsertSplit_ok h ih (nid + 1) hWl hWr (hcl' ▸ hhalf.2) (hcr' ▸ hhalf.2) hpr hkeyhiC hLl hLr
    rw [hlowered] at hWl'
    have hk'sr : P.lt k' sr = true := by
      obtain ⟨sl, -, hsl1, hsl2, -⟩ := WF_smallest h hWl' (Nat.lt_of_lt_of_le hhalf.1 (WF_count_le hWl').2)
      exact h.lt_of_le_of_lt hsl1 hsl2
    obtain ⟨hWn, hLn⟩ := inner_replace (m := m) (lo := lowered P.lt lo key) pid (rM := [sr]) (cM := [r']) R.lenA rfl R.lenB
      (Nat.le_trans (Nat.le_of_eq (Nat.add_right_comm _ 1 _)) hroom)
      (Nat.le_trans hm (Nat.add_le_add_right (Nat.le_succ _) _)) hhead hA'
      ⟨hWl', hk'sr, hWr', hsrhi, trivial⟩ R.after ((hfl'.trans hfl) ▸ hLA) ⟨hLl', hLr', trivial⟩ hLB
    exact ⟨_, nid', upsertNode_split_eq P key f pid R.index R.lenA hlowEq hms hp hsr heq hl' hr', hWn,
      by rw [pairs_mk, List.flatMap_append, List.flatMap_cons, List.flatMap_cons, ← hp', List.append_assoc],
      by show (rA ++ k' :: sr :: rB).length ≤ (rA ++ k :: rB).length + 1
         rw [length_next, length_pivot]; exact Nat.le_of_eq (Nat.add_right_comm _ 1 _),
      hLn,
      firstId_mk_append cA (hfl'.trans hfl)⟩

end inner

/-- `UpsertOk` at every height, written out -/
theorem upsertNode_ok (h : SWO lt) (P : Params K) (hP : P.lt = lt) (hpad : ∀ k, P.pad (some k) ≠ none)
    (ho : 2 ≤ P.order) (hev : P.order % 2 = 0) (key : K) (f : Option V → V) :
    ∀ (d : Nat) (n : Node K V d) (m : Nat) (lo hi : Option K) (nid : Nat) (after : Option Nat),
      WF lt P.order d m lo hi n → Node.count n < P.order → ltO lt key hi → Linked d after n →
      ∃ (n' : Node K V d) (nid' : Nat),
        upsertNode P key f d n nid = .ok (n', nid', Spec.lookup lt (Node.pairs n) key) ∧
        WF lt P.order d m (lowered lt lo key) hi n' ∧
        Node.pairs n' = Spec.insert lt (Node.pairs n) key (f (Spec.lookup lt (Node.pairs n) key)) ∧
        Node.count n' ≤ Node.count n + 1 ∧ Linked d after n' ∧ Node.firstId n' = Node.firstId n := by
  subst hP
  intro d
  induction d with
  | zero =>
    intro n m lo hi nid after hw hroom hhi hL
    obtain ⟨a, b, c, e, fb⟩ := hw
    obtain ⟨l', heq, hid', hnext', hs', hlen', hzip, hge, hle', hmem⟩ :=
      Leaf.upsert_ok h P rfl hpad (n : Leaf K V) key f a b
    refine ⟨l', nid, ?_, ?_, hzip, hle', by show l'.next = after; rw [hnext']; exact hL, hid'⟩
    · show (do let (l', cb) ← Leaf.upsert P (n : Leaf K V) key f; pure (l', nid, cb)) = _
      rw [heq]; rfl
    · refine ⟨hs', hlen', Nat.le_trans hle' hroom, Nat.le_trans e hge, fun k hk => ?_⟩
      cases hmem k hk with
      | inl hin => exact ⟨leO_lowered_of_leO h (fb k hin).1, (fb k hin).2⟩
      | inr he => subst he; exact ⟨lowered_le_key h lo k, hhi⟩
  | succ d ih => exact upsertInner_ok h hpad ho hev ih

end Gobptree
