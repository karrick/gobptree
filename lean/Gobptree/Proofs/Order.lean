/-
  Strict weak orders on `K` given by a Boolean comparison, and sortedness.
-/
import Gobptree.Node

namespace Gobptree

variable {K : Type}

/-- `lt` is a strict weak order: irreflexive, transitive, and incomparability is
    transitive (stated as co-transitivity).  The five typed trees instantiate
    it with a strict linear order; ComparableTree with any `Less`. -/
structure SWO (lt : K → K → Bool) : Prop where
  irrefl : ∀ a, lt a a = false
  trans : ∀ a b c, lt a b = true → lt b c = true → lt a c = true
  cotrans : ∀ a b c, lt a c = true → lt a b = true ∨ lt b c = true

theorem Conc.eqv_comm {lt : K → K → Bool} (a b : K) : eqv lt a b = eqv lt b a := by
  simp only [eqv]; exact Bool.and_comm _ _

namespace SWO

variable {lt : K → K → Bool} (h : SWO lt)
include h

theorem asymm {a b : K} (hab : lt a b = true) : lt b a = false := by
  cases hba : lt b a with
  | false => rfl
  | true => have := h.trans a b a hab hba; rw [h.irrefl] at this; exact absurd this (by decide)

theorem lt_of_lt_of_le {a b c : K} (hab : lt a b = true) (hbc : lt c b = false) : lt a c = true := by
  rcases h.cotrans a c b hab with h1 | h1
  · exact h1
  · rw [hbc] at h1; exact absurd h1 (by decide)

theorem lt_of_le_of_lt {a b c : K} (hab : lt b a = false) (hbc : lt b c = true) : lt a c = true := by
  rcases h.cotrans b a c hbc with h1 | h1
  · rw [hab] at h1; exact absurd h1 (by decide)
  · exact h1

theorem le_trans {a b c : K} (hab : lt b a = false) (hbc : lt c b = false) : lt c a = false := by
  cases hca : lt c a with
  | false => rfl
  | true =>
    rcases h.cotrans c b a hca with h1 | h1
    · rw [hbc] at h1; exact absurd h1 (by decide)
    · rw [hab] at h1; exact absurd h1 (by decide)

theorem le_of_lt {a b : K} (hab : lt a b = true) : lt b a = false := h.asymm hab

theorem le_refl (a : K) : lt a a = false := h.irrefl a

theorem eqv_refl (a : K) : eqv lt a a = true := by simp [eqv, h.irrefl]

omit h in
theorem eqv_symm {a b : K} (e : eqv lt a b = true) : eqv lt b a = true :=
  Conc.eqv_comm a b ▸ e

theorem lt_congr_left {a a' b : K} (e : eqv lt a a' = true) : lt a b = lt a' b := by
  simp [eqv] at e
  exact Bool.eq_iff_iff.2 ⟨h.lt_of_le_of_lt e.1, h.lt_of_le_of_lt e.2⟩

theorem lt_congr_right {a b b' : K} (e : eqv lt b b' = true) : lt a b = lt a b' := by
  simp [eqv] at e
  exact Bool.eq_iff_iff.2 ⟨fun h1 => h.lt_of_lt_of_le h1 e.2, fun h2 => h.lt_of_lt_of_le h2 e.1⟩

end SWO

theorem SWO.natLt : SWO (fun a b : Nat => decide (a < b)) where
  irrefl a := by simp
  trans a b c h1 h2 := by simp only [decide_eq_true_eq] at *; omega
  cotrans a b c h1 := by simp only [decide_eq_true_eq] at *; omega

def Sorted (lt : K → K → Bool) (l : List K) : Prop := l.Pairwise (fun a b => lt a b = true)

end Gobptree
