/-
  Read frame (non-interference): the relation between two runs of one thread on two
  trees that agree on the own fields of the nodes it holds; the primitives the blocks use to
  read the tree map related trees to equal results.
  A lemma `x_rf` ("read frame") says that block `x` gives related results in the two runs.
-/
import Gobptree.Proofs.CSDelStep
import Gobptree.Proofs.CSStep

namespace Gobptree.Conc
open Gobptree

variable {K V : Type}

/-- two trees look the same to a thread holding the mutexes `H` -/
def SameView (H : List Lk) (T1 T2 : Tree K V) : Prop :=
  T1.order = T2.order ∧ T1.nextId = T2.nextId ∧
  (∀ id, Lk.node id ∈ H → T1.look id = T2.look id) ∧
  (Lk.tree ∈ H → T1.rootId = T2.rootId ∧ T1.depth = T2.depth)

/-- the same, for an arbitrary set `S` of node identities (held, or allocated by the step)
    and a proposition `R` (`rootMutex` is held) -/
structure TRel (S : Nat → Prop) (R : Prop) (T1 T2 : Tree K V) : Prop where
  order  : T1.order = T2.order
  nextId : T1.nextId = T2.nextId
  look   : ∀ id, S id → T1.look id = T2.look id
  root   : R → T1.rootId = T2.rootId ∧ T1.depth = T2.depth

/-- the states of the two runs: same bookkeeping, related trees, the same events emitted so far
    (`b1`, `b2`: the logs the two runs started from); the cursor's leaf is in `S` -/
structure SRel (S : Nat → Prop) (R : Prop) (b1 b2 : List (Ev K V)) (s1 s2 : St K V) : Prop where
  tree      : TRel S R s1.tree s2.tree
  held      : s1.held = s2.held
  cursor    : s1.cursor = s2.cursor
  exhausted : s1.exhausted = s2.exhausted
  evs       : ∃ e, s1.evs = e ++ b1 ∧ s2.evs = e ++ b2
  curS      : ∀ leaf i, s1.cursor = some (some leaf, i) → S leaf

def BRel (S : Nat → Prop) (R : Prop) (b1 b2 : List (Ev K V)) (r1 r2 : St K V × Flow K V) : Prop :=
  SRel S R b1 b2 r1.1 r2.1 ∧ r1.2 = r2.2

section
variable {S : Nat → Prop} {R : Prop} {b1 b2 : List (Ev K V)} {s1 s2 : St K V}

theorem SRel.push (h : SRel S R b1 b2 s1 s2) (e : Ev K V) (fo : List (Lk × Nat) → List (Lk × Nat)) (fh : List Lk → List Lk) :
    SRel S R b1 b2 { s1 with owner := fo s1.owner, held := fh s1.held, evs := e :: s1.evs }
      { s2 with owner := fo s2.owner, held := fh s2.held, evs := e :: s2.evs } := by
  obtain ⟨es, h1, h2⟩ := h.evs
  refine ⟨h.tree, congrArg fh h.held, h.cursor, h.exhausted, ⟨e :: es, ?_, ?_⟩, h.curS⟩
  · show e :: s1.evs = _
    rw [h1]; rfl
  · show e :: s2.evs = _
    rw [h2]; rfl

theorem SRel.acq (h : SRel S R b1 b2 s1 s2) (t : Nat) (l : Lk) : SRel S R b1 b2 (s1.acq t l) (s2.acq t l) :=
  h.push (.acq t l) ((l, t) :: ·) (· ++ [l])

theorem SRel.rel (h : SRel S R b1 b2 s1 s2) (t : Nat) (l : Lk) : SRel S R b1 b2 (s1.rel t l) (s2.rel t l) :=
  h.push (.rel t l) (·.erase (l, t)) (·.erase l)

theorem SRel.note (h : SRel S R b1 b2 s1 s2) (t : Nat) (n : Note K V) :
    SRel S R b1 b2 (s1.note t n) (s2.note t n) :=
  h.push (.note t n) id id

theorem SRel.withTree (h : SRel S R b1 b2 s1 s2) {T1 T2 : Tree K V} (ht : TRel S R T1 T2) :
    SRel S R b1 b2 { s1 with tree := T1 } { s2 with tree := T2 } :=
  ⟨ht, h.held, h.cursor, h.exhausted, h.evs, h.curS⟩

theorem SRel.withCursor (h : SRel S R b1 b2 s1 s2) (c : Option (Option Nat × Int)) (e : Bool)
    (hc : ∀ leaf i, c = some (some leaf, i) → S leaf) :
    SRel S R b1 b2 { s1 with cursor := c, exhausted := e } { s2 with cursor := c, exhausted := e } :=
  ⟨h.tree, h.held, rfl, rfl, h.evs, hc⟩

theorem SRel.withCursor' (h : SRel S R b1 b2 s1 s2) (c : Option (Option Nat × Int))
    (hc : ∀ leaf i, c = some (some leaf, i) → S leaf) :
    SRel S R b1 b2 { s1 with cursor := c } { s2 with cursor := c } :=
  ⟨h.tree, h.held, rfl, h.exhausted, h.evs, hc⟩

theorem SRel.relOpt (h : SRel S R b1 b2 s1 s2) (t : Nat) (o : Option Nat) :
    SRel S R b1 b2 (relOpt t s1 o) (relOpt t s2 o) := by
  cases o with
  | none => exact h
  | some r => exact h.rel t _

theorem SRel.frameUnlock (h : SRel S R b1 b2 s1 s2) (t : Nat) (fr : Frame) (r : Option Nat) :
    SRel S R b1 b2 (frameUnlock t s1 fr r) (frameUnlock t s2 fr r) :=
  (((h.relOpt t r).rel t _).relOpt t fr.left)

end

/-- Every write-back of a block is an instance: both runs keep what `keep` marks (the write frame
    of each run, which the structural layer proves per run), and where `keep` does not hold the
    new trees agree (the two runs wrote the same entries). -/
theorem TRel.of_frame {S : Nat → Prop} {R : Prop} {T1 T2 T1' T2' : Tree K V} (keep : Nat → Bool)
    (hT : TRel S R T1 T2) (f1 : FrameEq keep T1.flat T1'.flat) (f2 : FrameEq keep T2.flat T2'.flat)
    (same : ∀ x, S x → keep x = false → T1'.look x = T2'.look x)
    (ho : T1'.order = T2'.order) (hn : T1'.nextId = T2'.nextId)
    (hr : R → T1'.rootId = T2'.rootId ∧ T1'.depth = T2'.depth) : TRel S R T1' T2' := by
  refine ⟨ho, hn, fun x hx => ?_, hr⟩
  cases hk : keep x with
  | false => exact same x hx hk
  | true => exact ((f1.lookup x hk).symm.trans (hT.look x hx)).trans (f2.lookup x hk)

/-- the root is held and `rootMutex` too: the two roots have the same own fields -/
theorem TRel.root_shallow {S : Nat → Prop} {R : Prop} {T1 T2 : Tree K V} (hT : TRel S R T1 T2) (hR : R)
    (hS : S T1.rootId) (hi1 : IdsOk T1) (hi2 : IdsOk T2) : shallow T1.root = shallow T2.root := by
  have h := hT.look _ hS
  rw [look_root hi1, (hT.root hR).1, look_root hi2] at h
  exact Option.some.inj h

theorem keepOf_false {H : List Lk} {n id : Nat} (h : keepOf H n id = false) : Lk.node id ∈ H ∨ n ≤ id := by
  by_cases h1 : id < n
  · by_cases h2 : Lk.node id ∈ H
    · exact .inl h2
    · rw [keepOf_true h1 h2] at h; cases h
  · exact .inr (Nat.le_of_not_lt h1)

theorem leaf_eq_of_shallow {l1 l2 : Leaf K V} (hid : l1.id = l2.id)
    (h : shallow (d := 0) l1 = shallow (d := 0) l2) : l1 = l2 := by
  cases l1; cases l2
  simp only [shallow, Shallow.mk.injEq] at h
  simp only at hid
  obtain ⟨_, h1, h2, h3, _⟩ := h
  subst hid h1 h2 h3
  rfl

theorem inner_of_shallow {d : Nat} {i1 i2 : Inner K (Node K V d)}
    (h : shallow (d := d + 1) i1 = shallow (d := d + 1) i2) :
    i1.runts = i2.runts ∧ i1.kids.map (Node.id (d := d)) = i2.kids.map (Node.id (d := d)) := by
  simp only [shallow, Shallow.mk.injEq] at h
  exact ⟨h.2.1, h.2.2.2.2⟩

theorem find_depth_eq {S : Nat → Prop} {R : Prop} {T1 T2 : Tree K V} (h : TRel S R T1 T2) {id : Nat} (hs : S id)
    {d1 d2 : Nat} {n1 : Node K V d1} {n2 : Node K V d2}
    (h1 : T1.find id = some ⟨d1, n1⟩) (h2 : T2.find id = some ⟨d2, n2⟩) : d1 = d2 := by
  have hl := h.look id hs
  rw [look_eq_find, look_eq_find, h1, h2] at hl
  have hl' : shallow n1 = shallow n2 := by simpa using hl
  have := congrArg Shallow.height hl'
  rwa [shallow_height, shallow_height] at this

theorem find_shallow_eq {S : Nat → Prop} {R : Prop} {T1 T2 : Tree K V} (h : TRel S R T1 T2) {id : Nat} (hs : S id)
    {d : Nat} {n1 n2 : Node K V d}
    (h1 : T1.find id = some ⟨d, n1⟩) (h2 : T2.find id = some ⟨d, n2⟩) : shallow n1 = shallow n2 := by
  have hl := h.look id hs
  rw [look_eq_find, look_eq_find, h1, h2] at hl
  simpa using hl

theorem find_rel {S : Nat → Prop} {R : Prop} {T1 T2 : Tree K V} (h : TRel S R T1 T2) {id : Nat} (hs : S id) :
    (T1.find id = none ∧ T2.find id = none) ∨
    ∃ (d : Nat) (n1 n2 : Node K V d), T1.find id = some ⟨d, n1⟩ ∧ T2.find id = some ⟨d, n2⟩ ∧
      Node.id n1 = id ∧ Node.id n2 = id ∧ shallow n1 = shallow n2 := by
  have hl := h.look id hs
  rw [look_eq_find, look_eq_find] at hl
  cases h1 : T1.find id with
  | none =>
    cases h2 : T2.find id with
    | none => exact Or.inl ⟨rfl, rfl⟩
    | some a2 => rw [h1, h2] at hl; cases hl
  | some a1 =>
    cases h2 : T2.find id with
    | none => rw [h1, h2] at hl; cases hl
    | some a2 =>
      obtain ⟨d1, n1⟩ := a1
      obtain ⟨d2, n2⟩ := a2
      have hd := find_depth_eq h hs h1 h2
      subst hd
      exact Or.inr ⟨d1, n1, n2, rfl, rfl, (find_facts h1).1, (find_facts h2).1, find_shallow_eq h hs h1 h2⟩

theorem find_split {S : Nat → Prop} {R : Prop} {T1 T2 : Tree K V} (h : TRel S R T1 T2) {id : Nat} (hs : S id) :
    (T1.find id = none ∧ T2.find id = none) ∨
    (∃ l : Leaf K V, T1.find id = some ⟨0, l⟩ ∧ T2.find id = some ⟨0, l⟩) ∨
    (∃ (d : Nat) (p1 p2 : Inner K (Node K V d)), T1.find id = some ⟨d + 1, p1⟩ ∧ T2.find id = some ⟨d + 1, p2⟩ ∧
      p1.runts = p2.runts ∧
      ∀ i : Nat, (p1.kids[i]?).map (Node.id (d := d)) = (p2.kids[i]?).map (Node.id (d := d))) := by
  rcases find_rel h hs with h0 | ⟨d, n1, n2, h1, h2, i1, i2, hsh⟩
  · exact .inl h0
  · cases d with
    | zero =>
      have : n1 = n2 := leaf_eq_of_shallow (l1 := n1) (l2 := n2) (i1.trans i2.symm) hsh
      subst this
      exact .inr (.inl ⟨n1, h1, h2⟩)
    | succ d =>
      obtain ⟨hr, hk⟩ := inner_of_shallow (i1 := n1) (i2 := n2) hsh
      exact .inr (.inr ⟨d, n1, n2, h1, h2, hr, fun i => by rw [← List.getElem?_map, ← List.getElem?_map, hk]⟩)

end Gobptree.Conc
