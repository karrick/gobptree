/-
  `Tree.upsert` (root split + descent) preserves `TreeWF` and refines `Spec.insert`.
-/
import Gobptree.Proofs.Upsert

namespace Gobptree

variable {K V : Type} {lt : K → K → Bool}

def TreeInv (lt : K → K → Bool) (t : Tree K V) : Prop :=
  TreeWF lt t ∧ Linked t.depth none t.root

theorem Tree.upsert_ok (h : SWO lt) (P : Params K) (hP : P.lt = lt) (hpad : ∀ k, P.pad (some k) ≠ none)
    (ho : 2 ≤ P.order) (hev : P.order % 2 = 0) (t : Tree K V) (hto : t.order = P.order)
    (hinv : TreeInv lt t) (key : K) (f : Option V → V) :
    ∃ t' : Tree K V, t.upsert P key f = .ok (t', Spec.lookup lt (Node.pairs t.root) key) ∧
      TreeInv lt t' ∧ t'.order = t.order ∧
      Node.pairs t'.root = Spec.insert lt (Node.pairs t.root) key (f (Spec.lookup lt (Node.pairs t.root) key)) := by
  obtain ⟨hw, hL⟩ := hinv
  obtain ⟨order, depth, root, nextId⟩ := t
  simp only at hto; subst hto; subst hP
  have ih : UpsertOk (V := V) P key f depth := upsertNode_ok h P rfl hpad ho hev key f depth
  rcases maybeSplit_ok h ho hev nextId hw none hL with ⟨hroom, hms⟩ |
    ⟨hfull, l, r, sr, hms, hsr, hWl, hWr, hcl, hcr, hpr, -, hLl, hLr, -⟩
  · obtain ⟨r', nid', heq, hW', hp', -, hL', -⟩ := ih root _ none none nextId none hw hroom trivial hL
    refine ⟨{ order := P.order, depth := depth, root := r', nextId := nid' }, ?_, ⟨hW', hL'⟩, rfl, hp'⟩
    simp only [Tree.upsert, hms, heq, bind, Except.bind, pure, Except.pure]
  · obtain ⟨sl, hsl, -, hslsr, hWls⟩ := WF_smallest h hWl (Nat.lt_of_lt_of_eq (Nat.div_pos ho (Nat.succ_pos 1)) hcl.symm)
    have hhalf : P.order / 2 < P.order := Nat.div_lt_self (Nat.lt_of_lt_of_le (Nat.succ_pos 1) ho) (Nat.lt_succ_self 1)
    obtain ⟨c', l', r', nid', heq, hl', hr', hWl', hWr', hp', hLl', hLr', -⟩ :=
      upsertSplit_ok h ih (nextId + 2) hWls hWr (hcl ▸ hhalf) (hcr ▸ hhalf) hpr trivial hLl hLr
    have hlow : lowered P.lt (some sl) key = some (if P.lt key sl then key else sl) := by
      cases hk : P.lt key sl <;> simp [lowered, hk]
    rw [hlow] at hWl'
    refine ⟨{ order := P.order, depth := depth + 1, nextId := nid',
              root := (Inner.mk (nextId + 1) [if P.lt key sl then key else sl, sr] [l', r'] : Inner K (Node K V depth)) },
      ?_, ⟨⟨rfl, ho, Nat.le_refl 2, Nat.le_succ 1, fun _ _ => trivial, hWl', ?_, hWr', trivial, trivial⟩,
        hLl', hLr', trivial⟩, rfl, ?_⟩
    · subst hl' hr'
      cases hlt : P.lt key sr <;> simp only [hlt, Bool.false_eq_true, ↓reduceIte] at heq ⊢ <;>
        simp only [Tree.upsert, hms, hsl, hsr, hlt, heq, bind, Except.bind, pure, Except.pure,
          Bool.not_true, Bool.not_false, Bool.false_eq_true, ↓reduceIte]
    · show P.lt (if P.lt key sl then key else sl) sr = true
      cases hk : P.lt key sl
      · exact hslsr
      · exact h.trans _ _ _ hk hslsr
    · rw [← hp']
      show Node.pairs l' ++ (Node.pairs r' ++ []) = _
      rw [List.append_nil]

end Gobptree
