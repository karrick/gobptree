/-
  Read frame: the blocks of Insert / Update read only nodes the thread holds, and write the
  same entries back in the two runs.
-/
import Gobptree.Proofs.CReadFrameKids
import Gobptree.Proofs.CReadFrameRO
import Gobptree.Proofs.ConcBlocks
import Gobptree.Proofs.CBlockUp
import Gobptree.Proofs.Ids

namespace Gobptree.Conc
open Gobptree

variable {K V : Type}

section
variable {S : Nat → Prop} {R : Prop} {b1 b2 : List (Ev K V)} {s1 s2 : St K V}

theorem upLeaf_rf (P : Params K) (t : Nat) (key : K) (f : Option V → V) (y : Option Bool) (n : Nat) (l : Leaf K V)
    (hr : SRel S R b1 b2 s1 s2)
    (hf1 : s1.tree.find n = some ⟨0, l⟩) (hf2 : s2.tree.find n = some ⟨0, l⟩)
    (hn1 : s1.tree.ids.Nodup) (hn2 : s2.tree.ids.Nodup) :
    BRel S R b1 b2 (upLeaf P t s1 key f y n l) (upLeaf P t s2 key f y n l) := by
  cases hup : Leaf.upsert P l key f with
  | error e =>
    rw [upLeaf_error hup, upLeaf_error hup]
    exact ⟨hr, rfl⟩
  | ok res =>
    obtain ⟨l', arg⟩ := res
    have hid : l'.id = n := (Leaf.upsert_id P l l' key f arg hup).trans (find_facts hf1).1
    have hT : TRel S R (putLeaf s1.tree l') (putLeaf s2.tree l') :=
      putLeaf_rf hr.tree l' (by rw [hid]; exact hf1) (by rw [hid]; exact hf2) hn1 hn2
    match y with
    | none =>
      rw [upLeaf_none hup, upLeaf_none hup]
      exact ⟨(hr.withTree hT).rel t _, rfl⟩
    | some true =>
      rw [upLeaf_true hup, upLeaf_true hup]
      exact ⟨hr.note t _, rfl⟩
    | some false =>
      rw [upLeaf_false hup, upLeaf_false hup]
      exact ⟨((hr.note t _).withTree hT).rel t _, rfl⟩

theorem upContinue_rf (P : Params K) (t : Nat) (key : K) (f : Option V → V) (y : Option Bool) (n : Nat)
    (hr : SRel S R b1 b2 s1 s2) (hn : S n) (hn1 : s1.tree.ids.Nodup) (hn2 : s2.tree.ids.Nodup) :
    BRel S R b1 b2 (upContinue P t s1 key f y n) (upContinue P t s2 key f y n) := by
  rcases find_split hr.tree hn with ⟨h1, h2⟩ | ⟨l, h1, h2⟩ | ⟨d, p1, p2, h1, h2, hru, hk⟩
  · rw [upContinue_none h1, upContinue_none h2]
    exact ⟨hr, rfl⟩
  · rw [upContinue_leaf h1, upContinue_leaf h2]
    exact upLeaf_rf P t key f y n l hr h1 h2 hn1 hn2
  · rw [upContinue_kid h1, upContinue_kid h2, hru, hk]
    cases (p2.kids[searchLE P.lt key p2.runts]?).map Node.id <;> exact ⟨hr, rfl⟩

/-- the callback returns at a leaf (`KontOk`), the same in the two runs: what is left is `upLeaf` -/
theorem upCallback_rf (P : Params K) (t : Nat) (key : K) (f : Option V → V) (leaf : Nat) (arg : Option V)
    (hr : SRel S R b1 b2 s1 s2) (hk1 : KontOk s1.tree (.upCallback key f leaf arg)) (hn : S leaf)
    (hn1 : s1.tree.ids.Nodup) (hn2 : s2.tree.ids.Nodup) :
    BRel S R b1 b2 (resume P t s1 (.upCallback key f leaf arg)) (resume P t s2 (.upCallback key f leaf arg)) := by
  obtain ⟨⟨sh, hl, h0⟩, -⟩ := hk1
  obtain ⟨l, h1, -, -⟩ := leaf_of_look hl h0
  rcases find_split hr.tree hn with ⟨h1', -⟩ | ⟨l', h1', h2⟩ | ⟨d, p1, p2, h1', -⟩
  · rw [h1] at h1'; cases h1'
  · rw [h1] at h1'
    cases h1'
    rw [resume_upCallback_upLeaf arg h1, resume_upCallback_upLeaf arg h2]
    exact upLeaf_rf P t key f none leaf l hr h1 h2 hn1 hn2
  · rw [h1] at h1'; cases h1'

end

section
variable {S : Nat → Prop} {R : Prop} {b1 b2 : List (Ev K V)} {s1 s2 : St K V}

theorem lowerFirst_indep (P : Params K) (key : K) (index : Nat) (runts : List K) {d : Nat} (c1 c2 : Node K V d) :
    lowerFirst P key index runts c1 = lowerFirst P key index runts c2 := rfl

theorem upRootArrive_rf (P : Params K) (t : Nat) (key : K) (f : Option V → V) (y : Option Bool)
    (root : Nat) (hole1 hole2 : Option Nat) (s1 s2 : St K V)
    (hr : SRel S R b1 b2 s1 s2) (hpre1 : Pre P hole1 s1) (hpre2 : Pre P hole2 s2)
    (hk1 : KontOk s1.tree (.upRoot key f y root)) (hk2 : KontOk s2.tree (.upRoot key f y root))
    (hR : R) (hSr : S root) :
    BRel S R b1 b2 (upRootArrive P t s1 key f y root) (upRootArrive P t s2 key f y root) := by
  obtain ⟨hroot1, out1⟩ := upRootArrive_report P t s1 key f y root [.tree, .node root] hole1 hpre1 hk1
    List.mem_cons_self (List.mem_cons_of_mem _ List.mem_cons_self)
  obtain ⟨hroot2, out2⟩ := upRootArrive_report P t s2 key f y root [.tree, .node root] hole2 hpre2 hk2
    List.mem_cons_self (List.mem_cons_of_mem _ List.mem_cons_self)
  have hT := hr.tree
  obtain ⟨hrid, hdp⟩ := hT.root hR
  have hi1 := hpre1.tree.ids
  have hi2 := hpre2.tree.ids
  have hsh : shallow s1.tree.root = shallow s2.tree.root := hT.root_shallow hR (hroot1 ▸ hSr) hi1 hi2
  generalize upRootArrive P t s1 key f y root = res1 at out1
  generalize upRootArrive P t s2 key f y root = res2 at out2
  cases out1 with
  | stay _ lt1 =>
    cases out2 with
    | stay _ _ => exact upContinue_rf P t key f y root (hr.rel t .tree) hSr hi1.1 hi2.1
    | split sp2 => exact absurd lt1 (by rw [hsh, sp2.out.len, hT.order]; exact Nat.lt_irrefl _)
  | split sp1 =>
    cases out2 with
    | stay _ lt2 => exact absurd lt2 (by rw [← hsh, sp1.out.len, hT.order]; exact Nat.lt_irrefl _)
    | @split l2 r2 ls2 rs2 ls2' T2 sp2 =>
      rename_i l1 r1 ls1 rs1 ls1' T1
      have hshl : shallow l1 = shallow l2 := by rw [sp1.out.shl, sp2.out.shl, hsh, hdp, hT.order, hT.nextId]
      have hshr : shallow r1 = shallow r2 := by rw [sp1.out.shr, sp2.out.shr, hsh, hdp, hT.order]
      have hls : ls1 = ls2 := by
        have h := sp1.sml
        rw [smallest_eq_shallow, hshl, ← smallest_eq_shallow, sp2.sml] at h
        cases h; rfl
      have hrs : rs1 = rs2 := by
        have h := sp1.smr
        rw [smallest_eq_shallow, hshr, ← smallest_eq_shallow, sp2.smr] at h
        cases h; rfl
      subst hls hrs
      have hls' : ls1' = ls2' := sp1.low.trans sp2.low.symm
      subst hls'
      have hidr : Node.id r1 = Node.id r2 := by rw [sp1.out.idr, sp2.out.idr, hT.nextId]
      have hn1 : T1.nextId = s1.tree.nextId + 2 := by rw [sp1.T2eq]
      have hn2 : T2.nextId = s2.tree.nextId + 2 := by rw [sp2.T2eq]
      have hT' : TRel S R T1 T2 := by
        refine TRel.of_frame (keepOf [.tree, .node root] s1.tree.nextId) hT sp1.step.frame
          (by rw [hT.nextId]; exact sp2.step.frame) ?_ (by rw [sp1.step.order, sp2.step.order]; exact hT.order)
          (by rw [hn1, hn2, hT.nextId])
          (fun _ => ⟨by rw [sp1.root, sp2.root, hT.nextId], by rw [sp1.T2eq, sp2.T2eq]; exact congrArg (· + 1) hdp⟩)
        intro x _ hk
        -- the written identities: the old root (now the left half), the right half, the new root
        have e1 : T1.look (s1.tree.nextId + 1) = _ := mem_look sp1.step.tree.ids (by rw [sp1.flat]; exact List.mem_cons_self)
        have e2 : T2.look (s2.tree.nextId + 1) = _ := mem_look sp2.step.tree.ids (by rw [sp2.flat]; exact List.mem_cons_self)
        have el1 := mem_look sp1.step.tree.ids sp1.meml
        have el2 := mem_look sp2.step.tree.ids sp2.meml
        have er1 := mem_look sp1.step.tree.ids sp1.memr
        have er2 := mem_look sp2.step.tree.ids sp2.memr
        rw [sp1.out.idl] at el1
        rw [sp2.out.idl] at el2
        rw [sp1.out.idr] at er1
        rw [sp2.out.idr] at er2
        rcases keepOf_false hk with hH | hge
        · have hx : x = root := by
            simp only [List.mem_cons, List.not_mem_nil, or_false, reduceCtorEq, false_or, Lk.node.injEq] at hH
            exact hH
          subst hx
          have a1 : T1.look x = some (shallow l1) := by rw [hroot1]; exact el1
          have a2 : T2.look x = some (shallow l2) := by rw [hroot2]; exact el2
          rw [a1, a2, hshl]
        · rcases Nat.eq_or_lt_of_le hge with h | h
          · subst h
            rw [er1, hT.nextId, er2, hshr]
          · rcases Nat.eq_or_lt_of_le (Nat.succ_le_of_lt h) with h' | h'
            · subst h'
              rw [e1, hT.nextId, e2, hdp, hrid]
            · rw [look_none_of_nextId_le sp1.step.tree.ids (hn1 ▸ h'),
                look_none_of_nextId_le sp2.step.tree.ids (hn2 ▸ hT.nextId ▸ h')]
      split
      · exact ⟨hr.withTree hT', by rw [hidr]⟩
      · exact upContinue_rf P t key f y root ((hr.withTree hT').rel t .tree) hSr sp1.step.tree.ids.1 sp2.step.tree.ids.1

theorem upChildArrive_rf (P : Params K) (t : Nat) (key : K) (f : Option V → V) (y : Option Bool)
    (parent index child : Nat) (hole1 hole2 : Option Nat)
    (hr : SRel S R b1 b2 s1 s2) (hpre1 : Pre P hole1 s1) (hpre2 : Pre P hole2 s2)
    (hk1 : KontOk s1.tree (.upChild key f y parent index child))
    (hk2 : KontOk s2.tree (.upChild key f y parent index child))
    (hSp : S parent) (hSc : S child) :
    BRel S R b1 b2 (upChildArrive P t s1 key f y parent index child) (upChildArrive P t s2 key f y parent index child) := by
  obtain ⟨d1, rA1, rB1, k1, k1', A1, B1, c1, hi1, hk1', at1, out1⟩ :=
    upChildArrive_report P t s1 key f y parent index child [.node parent, .node child] hole1 hpre1 hk1
      List.mem_cons_self (List.mem_cons_of_mem _ List.mem_cons_self)
  obtain ⟨d2, rA2, rB2, k2, k2', A2, B2, c2, hi2, hk2', at2, out2⟩ :=
    upChildArrive_report P t s2 key f y parent index child [.node parent, .node child] hole2 hpre2 hk2
      List.mem_cons_self (List.mem_cons_of_mem _ List.mem_cons_self)
  have hT := hr.tree
  have hd : d1 = d2 := Nat.succ.inj (find_depth_eq hT hSp at1.find at2.find)
  subst hd
  have hI1 := hpre1.tree.ids
  have hI2 := hpre2.tree.ids
  have hsh := find_shallow_eq hT hSp at1.find at2.find
  have hA : A1.length = A2.length := hi1.symm.trans hi2
  have hru : rA1 ++ k1 :: rB1 = rA2 ++ k2 :: rB2 := (inner_of_shallow hsh).1
  obtain ⟨hrA, hkk⟩ := List.append_inj hru (at1.lA.trans (hA.trans at2.lA.symm))
  subst hrA
  cases hkk
  obtain rfl : k1' = k2' := hk1'.symm.trans hk2'
  have hidk : (A1 ++ c1 :: B1).map (Node.id (d := d1)) = (A2 ++ c2 :: B2).map (Node.id (d := d1)) := (inner_of_shallow hsh).2
  have hcs : shallow c1 = shallow c2 := by
    have h := hT.look child hSc
    rw [← at1.cid, mem_look hI1 at1.mem, at1.cid, ← at2.cid, mem_look hI2 at2.mem] at h
    exact Option.some.inj h
  have hHx : ∀ x, Lk.node x ∈ [Lk.node parent, Lk.node child] → x = parent ∨ x = child := by
    intro x hx
    simp only [List.mem_cons, List.not_mem_nil, or_false, Lk.node.injEq] at hx
    exact hx
  have hroot : ∀ {hole : Option Nat} {T T' : Tree K V}, Step [.node parent, .node child] hole T T' →
      T'.rootId = T.rootId ∧ T'.depth = T.depth := fun st => st.root.resolve_left (fun h => by simp only [List.mem_cons, List.not_mem_nil, or_false, reduceCtorEq] at h)
  generalize upChildArrive P t s1 key f y parent index child = res1 at out1
  generalize upChildArrive P t s2 key f y parent index child = res2 at out2
  cases out1 with
  | @stay p1 T1 p1eq T1eq w1 _ hlt1 mc1 =>
    cases out2 with
    | @stay p2 T2 p2eq T2eq w2 _ _ mc2 =>
      have hT' : TRel S R T1 T2 := by
        refine TRel.of_frame (keepOf [.node parent, .node child] s1.tree.nextId) hT w1.step.frame
          (by rw [hT.nextId]; exact w2.step.frame) ?_ (by rw [w1.step.order, w2.step.order]; exact hT.order)
          (by rw [T1eq, T2eq]; exact hT.nextId) (fun hR => by rw [(hroot w1.step).1, (hroot w1.step).2, (hroot w2.step).1, (hroot w2.step).2]; exact hT.root hR)
        intro x _ hk
        rcases keepOf_false hk with hH | hge
        · rcases hHx x hH with rfl | rfl
          · rw [mem_look w1.step.tree.ids w1.par, mem_look w2.step.tree.ids w2.par, p1eq, p2eq]
            exact congrArg some (nrel_mk rfl rfl hidk).2
          · have a1 := mem_look w1.step.tree.ids mc1
            have a2 := mem_look w2.step.tree.ids mc2
            rw [at1.cid] at a1
            rw [at2.cid] at a2
            rw [a1, a2, hcs]
        · rw [look_none_of_nextId_le w1.step.tree.ids (by rw [T1eq]; exact hge),
            look_none_of_nextId_le w2.step.tree.ids (by rw [T2eq]; exact hT.nextId ▸ hge)]
      exact upContinue_rf P t key f y child ((hr.withTree hT').rel t _) hSc w1.step.tree.ids.1 w2.step.tree.ids.1
    | split sp2 => exact absurd hlt1 (by rw [hcs, sp2.out.len, hT.order]; exact Nat.lt_irrefl _)
  | @split l1 r1 rs1 p1 T1 sp1 =>
    cases out2 with
    | stay _ _ _ _ hlt2 _ => exact absurd hlt2 (by rw [← hcs, sp1.out.len, hT.order]; exact Nat.lt_irrefl _)
    | @split l2 r2 rs2 p2 T2 sp2 =>
      have hshl : shallow l1 = shallow l2 := by rw [sp1.out.shl, sp2.out.shl, hcs, hT.order, hT.nextId]
      have hshr : shallow r1 = shallow r2 := by rw [sp1.out.shr, sp2.out.shr, hcs, hT.order]
      have hidr : Node.id r1 = Node.id r2 := by rw [sp1.out.idr, sp2.out.idr, hT.nextId]
      have hidl : Node.id l1 = Node.id l2 := by rw [sp1.out.idl, sp2.out.idl, at1.cid, at2.cid]
      obtain rfl : rs1 = rs2 := by
        have h := (smallest_of_shallow hshr).symm.trans sp1.smr
        rw [sp2.smr] at h
        cases h; rfl
      have hids : (A1 ++ l1 :: r1 :: B1).map (Node.id (d := d1)) = (A2 ++ l2 :: r2 :: B2).map (Node.id (d := d1)) := by
        rw [List.map_append, List.map_append, List.map_cons, List.map_cons] at hidk
        obtain ⟨hAi, hcB⟩ := List.append_inj hidk (by rw [List.length_map, List.length_map]; exact hA)
        rw [List.map_append, List.map_append, List.map_cons, List.map_cons, List.map_cons, List.map_cons, hAi,
          (List.cons.inj hcB).2, hidl, hidr]
      have hn1 : T1.nextId = s1.tree.nextId + 1 := by rw [sp1.T2eq]; rfl
      have hn2 : T2.nextId = s2.tree.nextId + 1 := by rw [sp2.T2eq]; rfl
      have hT' : TRel S R T1 T2 := by
        refine TRel.of_frame (keepOf [.node parent, .node child] s1.tree.nextId) hT sp1.wrote.step.frame
          (by rw [hT.nextId]; exact sp2.wrote.step.frame) ?_
          (by rw [sp1.wrote.step.order, sp2.wrote.step.order]; exact hT.order)
          (by rw [hn1, hn2, hT.nextId]) (fun hR => by rw [(hroot sp1.wrote.step).1, (hroot sp1.wrote.step).2, (hroot sp2.wrote.step).1, (hroot sp2.wrote.step).2]; exact hT.root hR)
        intro x _ hk
        rcases keepOf_false hk with hH | hge
        · rcases hHx x hH with rfl | rfl
          · rw [mem_look sp1.wrote.step.tree.ids sp1.wrote.par, mem_look sp2.wrote.step.tree.ids sp2.wrote.par,
              sp1.p2eq, sp2.p2eq]
            exact congrArg some (nrel_mk rfl rfl hids).2
          · have a1 := mem_look sp1.wrote.step.tree.ids sp1.meml
            have a2 := mem_look sp2.wrote.step.tree.ids sp2.meml
            rw [sp1.out.idl, at1.cid] at a1
            rw [sp2.out.idl, at2.cid] at a2
            rw [a1, a2, hshl]
        · rcases Nat.eq_or_lt_of_le hge with h | h
          · subst h
            have a1 := mem_look sp1.wrote.step.tree.ids sp1.memr
            have a2 := mem_look sp2.wrote.step.tree.ids sp2.memr
            rw [sp1.out.idr] at a1
            rw [sp2.out.idr] at a2
            rw [a1, hT.nextId, a2, hshr]
          · rw [look_none_of_nextId_le sp1.wrote.step.tree.ids (hn1 ▸ h),
              look_none_of_nextId_le sp2.wrote.step.tree.ids (hn2 ▸ hT.nextId ▸ h)]
      split
      · exact ⟨hr.withTree hT', by rw [hidr]⟩
      · exact upContinue_rf P t key f y child ((hr.withTree hT').rel t _) hSc sp1.wrote.step.tree.ids.1
          sp2.wrote.step.tree.ids.1

theorem resume_rf_U (P : Params K) (t : Nat) (k : Kont K V) (hole1 hole2 : Option Nat)
    (hnd : isDelK k = false) (hr : SRel S R b1 b2 s1 s2) (hpre1 : Pre P hole1 s1) (hpre2 : Pre P hole2 s2)
    (hk1 : KontOk s1.tree k) (hk2 : KontOk s2.tree k)
    (hheld : ∀ x, Lk.node x ∈ kontHeld k → S x) (hlock : ∀ x, kontLock k = some (Lk.node x) → S x)
    (hRt : (Lk.tree ∈ kontHeld k ∨ kontLock k = some .tree) → R) :
    BRel S R b1 b2 (resume P t s1 k) (resume P t s2 k) := by
  have hn1 := hpre1.tree.ids.1
  have hn2 := hpre2.tree.ids.1
  cases k with
  | roTree sc key => exact parkRoot_rf t hr (hRt (Or.inr rfl)) (Kont.roNode sc key Lk.tree)
  | roNode sc key hold want =>
    exact roArrive_rf P t sc key hold want (hr.acq t _) (hlock want rfl)
  | upTree key f y => exact parkRoot_rf t hr (hRt (Or.inr rfl)) (Kont.upRoot key f y)
  | upRoot key f y r =>
    exact upRootArrive_rf P t key f y r hole1 hole2 _ _ (hr.acq t _) ⟨hpre1.tree, hpre1.order, hpre1.pad⟩
      ⟨hpre2.tree, hpre2.order, hpre2.pad⟩ hk1 hk2 (hRt (Or.inl List.mem_cons_self)) (hlock r rfl)
  | upRootSib key f y root sib =>
    simp only [resume]
    exact upContinue_rf P t key f y sib (((hr.acq t _).rel t _).rel t _) (hlock sib rfl) hn1 hn2
  | upChild key f y parent index child =>
    exact upChildArrive_rf P t key f y parent index child hole1 hole2 (hr.acq t _)
      ⟨hpre1.tree, hpre1.order, hpre1.pad⟩ ⟨hpre2.tree, hpre2.order, hpre2.pad⟩ hk1 hk2
      (hheld parent List.mem_cons_self) (hlock child rfl)
  | upSib key f y parent child sib =>
    simp only [resume]
    exact upContinue_rf P t key f y sib (((hr.acq t _).rel t _).rel t _) (hlock sib rfl) hn1 hn2
  | upCallback key f leaf arg =>
    exact upCallback_rf P t key f leaf arg hr hk1 (hheld leaf List.mem_cons_self) hn1 hn2
  | hop cur next =>
    simp only [resume]
    refine ⟨((hr.acq t _).rel t _).withCursor' _ ?_, rfl⟩
    intro leaf i e
    cases e
    exact hlock next rfl
  | paused => exact ⟨hr, rfl⟩
  | _ => cases hnd

end

end Gobptree.Conc
