/-
  Concurrent STRUCTURAL invariant `SInv` of the small-step model (no key order involved).

  Everything is phrased over the *flat view* of the tree: the pre-order list of
  `(identity, own fields)` pairs, where a node's own fields (`Shallow`) are what the Go
  struct holds — its keys/separators, its values, its `next` pointer and the identities
  of its children.  A block of the model rewrites a window of the tree; on the flat view
  that is a local list surgery, and every invariant below is a predicate on the flat
  view, so one context lemma (`find_modify_flat`, CSFlat) carries all of them.

  The *hole* is the node a running Delete is about to rebalance; it alone may hold `order/2 − 1`.
  A Delete needs `4 ≤ order`; without Delete order 2 is fine: a full node of 2 entries splits
  into halves of `order/2 = 1`.  What a thread's continuation claims (`KontOk`) is stated ONLY
  in terms of the own fields of nodes the thread holds (and the root pointer when it holds
  `rootMutex`).
-/
import Gobptree.Proofs.ConcReach
import Gobptree.Proofs.ConcOwner

namespace Gobptree.Conc
open Gobptree

variable {K V : Type}

structure Shallow (K V : Type) where
  height : Nat
  keys   : List K
  vals   : List V
  next   : Option Nat
  kids   : List Nat

def shallow : {d : Nat} → Node K V d → Shallow K V
  | 0, (l : Leaf K V) => ⟨0, l.keys, l.vals, l.next, []⟩
  | d + 1, (i : Inner K (Node K V d)) => ⟨d + 1, i.runts, [], none, i.kids.map (Node.id (d := d))⟩

def flat : {d : Nat} → Node K V d → List (Nat × Shallow K V)
  | 0, (l : Leaf K V) => [(l.id, shallow (d := 0) l)]
  | d + 1, (i : Inner K (Node K V d)) => (i.id, shallow (d := d + 1) i) :: i.kids.flatMap (flat (d := d))

def _root_.Gobptree.Tree.flat (t : Tree K V) : List (Nat × Shallow K V) := Conc.flat t.root

def _root_.Gobptree.Tree.ids (t : Tree K V) : List Nat := t.flat.map Prod.fst

def _root_.Gobptree.Tree.look (t : Tree K V) (id : Nat) : Option (Shallow K V) := t.flat.lookup id

def _root_.Gobptree.Tree.kidAt (t : Tree K V) (p i : Nat) : Option Nat :=
  (t.look p).bind fun sh => sh.kids[i]?

def IdsOk (t : Tree K V) : Prop := t.ids.Nodup ∧ ∀ i ∈ t.ids, i < t.nextId

def minOf (o rootId : Nat) (hole : Option Nat) (id : Nat) (height : Nat) : Nat :=
  if id = rootId then (if height = 0 then 0 else 2)
  else if hole = some id then o / 2 - 1 else o / 2

def NodeOcc (o m : Nat) (sh : Shallow K V) : Prop :=
  sh.keys.length ≤ o ∧ m ≤ sh.keys.length ∧
  (sh.height = 0 → sh.keys.length = sh.vals.length ∧ sh.kids = []) ∧
  (0 < sh.height → sh.keys.length = sh.kids.length ∧ 1 ≤ sh.keys.length ∧ sh.next = none)

def OccOk (hole : Option Nat) (t : Tree K V) : Prop :=
  ∀ p ∈ t.flat, NodeOcc t.order (minOf t.order t.rootId hole p.1 p.2.height) p.2

def flatLeaves (l : List (Nat × Shallow K V)) : List (Nat × Shallow K V) :=
  l.filter fun p => p.2.height == 0

def Chain : List (Nat × Shallow K V) → Prop
  | [] => True
  | [p] => p.2.next = none
  | p :: q :: rest => p.2.next = some q.1 ∧ Chain (q :: rest)

def ChainOk (t : Tree K V) : Prop := Chain (flatLeaves t.flat)

structure TreeOk (hole : Option Nat) (t : Tree K V) : Prop where
  ids   : IdsOk t
  occ   : OccOk hole t
  chain : ChainOk t
  order2 : 2 ≤ t.order
  big   : hole ≠ none → 4 ≤ t.order
  even  : t.order % 2 = 0

theorem new_idsOk (o : Nat) : IdsOk (Tree.new o : Tree K V) := by
  refine ⟨?_, ?_⟩
  · show ([0] : List Nat).Nodup
    simp
  · intro i hi
    have : i = 0 := by simpa [Tree.ids, Tree.flat, Tree.new, flat] using hi
    subst this
    show 0 < 1
    omega

theorem TreeOk.half_pos {hole : Option Nat} {t : Tree K V} (h : TreeOk hole t) : 1 ≤ t.order / 2 := by
  have := h.order2; omega

theorem TreeOk.min_pos {hole : Option Nat} {t : Tree K V} (h : TreeOk hole t) {id : Nat}
    (hne : id ≠ t.rootId) (ht : Nat) : 1 ≤ minOf t.order t.rootId hole id ht := by
  unfold minOf
  rw [if_neg hne]
  have h2 := h.order2
  split
  · rename_i hh
    have := h.big (by rw [hh]; simp)
    omega
  · omega

def FrameOk (t : Tree K V) (fr : Frame) : Prop :=
  t.kidAt fr.node fr.index = some fr.child ∧
  match fr.left with
  | some l => 0 < fr.index ∧ t.kidAt fr.node (fr.index - 1) = some l
  | none => fr.index = 0

/-- frames innermost first; `top` is the node the innermost activation descended into -/
def FramesOk (t : Tree K V) (root : Nat) : List Frame → Nat → Prop
  | [], top => top = root
  | fr :: rest, top => fr.child = top ∧ FrameOk t fr ∧ FramesOk t root rest fr.node

def isInner (t : Tree K V) (id : Nat) : Prop := ∃ sh, t.look id = some sh ∧ 0 < sh.height
def isLeaf (t : Tree K V) (id : Nat) : Prop := ∃ sh, t.look id = some sh ∧ sh.height = 0

def notFull (t : Tree K V) (id : Nat) : Prop := ∃ sh, t.look id = some sh ∧ sh.keys.length < t.order

def isSmall (t : Tree K V) (id : Nat) : Prop := ∃ sh, t.look id = some sh ∧ sh.keys.length < t.order / 2

def KontOk (t : Tree K V) : Kont K V → Prop
  | .roTree _ _ => True
  | .roNode _ _ hold want =>
    match hold with
    | .tree => want = t.rootId
    | .node p => ∃ i, t.kidAt p i = some want
  | .upTree _ _ _ => True
  | .upRoot _ _ _ r => r = t.rootId
  | .upRootSib _ _ _ root sib =>
    (∃ sh, t.look t.rootId = some sh ∧ sh.kids = [root, sib]) ∧ notFull t sib ∧
    (∀ sh, t.look root = some sh → sh.height = 0 → sh.next = some sib)
  | .upChild _ _ _ parent index child => t.kidAt parent index = some child ∧ notFull t parent
  | .upSib _ _ _ parent child sib =>
    (∃ i, t.kidAt parent i = some child ∧ t.kidAt parent (i + 1) = some sib) ∧ notFull t sib ∧
    (∀ sh, t.look child = some sh → sh.height = 0 → sh.next = some sib)
  | .upCallback _ _ leaf _ => isLeaf t leaf ∧ notFull t leaf
  | .delTree _ => True
  | .delRoot _ r => r = t.rootId
  | .delLeft _ frames node index left root =>
    root = t.rootId ∧ FramesOk t root frames node ∧ 0 < index ∧ t.kidAt node (index - 1) = some left ∧
    (∃ c, t.kidAt node index = some c)
  | .delChild _ frames node index left child root =>
    root = t.rootId ∧ FramesOk t root frames node ∧ FrameOk t ⟨node, index, left, child⟩
  | .delRight _ rest fr right root =>
    root = t.rootId ∧ FramesOk t root (fr :: rest) fr.child ∧ t.kidAt fr.node (fr.index + 1) = some right ∧
    isSmall t fr.child
  | .hop cur next => ∃ sh, t.look cur = some sh ∧ sh.height = 0 ∧ sh.next = some next
  | .paused => True

/-- identities a continuation relies on WITHOUT holding their mutex: the sibling a split
    just allocated, and the new root.  The Go code locks the fresh sibling while still holding
    the split node and its parent, and nobody else can get there meanwhile: the sibling is
    reachable only through nodes this thread holds.  The `extra` clause of `SInv` states that
    (no other thread holds or waits for such a node), and is what lets `KontOk` mention it. -/
def kontExtra (t : Tree K V) : Kont K V → List Nat
  | .upRootSib _ _ _ _ sib => [t.rootId, sib]
  | .upSib _ _ _ _ _ sib => [sib]
  | _ => []

def parkExtra (t : Tree K V) : Park K V → List Nat
  | .want _ k => kontExtra t k
  | .yielded k => kontExtra t k
  | _ => []

def parkWant : Park K V → Option Lk
  | .want l _ => some l
  | _ => none

def isHop : Park K V → Bool
  | .want _ (.hop _ _) => true
  | _ => false

def CursorOk (t : Tree K V) (hopping : Bool) : Option (Option Nat × Int) → Prop
  | some (some leaf, i) => ∃ sh, t.look leaf = some sh ∧ sh.height = 0 ∧ -1 ≤ i ∧
      (if hopping then i = (sh.keys.length : Int) else i < (sh.keys.length : Int))
  | _ => True

def parkKontOk (t : Tree K V) : Park K V → Prop
  | .want _ k => KontOk t k
  | .yielded k => KontOk t k
  | _ => True

def ThreadSOk (t : Tree K V) (th : Thread K V) : Prop :=
  parkKontOk t th.park ∧ CursorOk t (isHop th.park) th.cursor

def parkHole : Park K V → Option Nat
  | .want _ (.delRight _ _ fr _ _) => some fr.child
  | _ => none

def holeOf (ths : List (Thread K V)) : Option Nat :=
  ths.findSome? fun th => parkHole th.park

/-- parameters: padding never fails on a present key (true of all six instantiations) -/
def PadOk (P : Params K) : Prop := ∀ k, P.pad (some k) ≠ none

structure SInv (c : Config K V) : Prop where
  tree    : TreeOk (holeOf c.threads) c.tree
  threads : ∀ th ∈ c.threads, ThreadSOk c.tree th
  order   : c.tree.order = c.P.order
  pad     : PadOk c.P
  cfg     : ConfigOk c
  owner   : OwnerOk c
  extra   : ∀ (i j : Nat) (a b : Thread K V), c.threads[i]? = some a → c.threads[j]? = some b → i ≠ j →
              ∀ x ∈ parkExtra c.tree a.park, Lk.node x ∉ b.held ∧ parkWant b.park ≠ some (Lk.node x)

def FrameEq (keep : Nat → Bool) (l l' : List (Nat × Shallow K V)) : Prop :=
  l.filter (fun p => keep p.1) = l'.filter (fun p => keep p.1)

/-- true of the identities a step of a thread holding `H` may NOT write -/
def keepOf (H : List Lk) (nextId : Nat) (id : Nat) : Bool :=
  decide (id < nextId) && !(H.contains (Lk.node id))

/-- `rootMutex` lowest; nodes by level (root first), then by pre-order position.  Lock
    coupling acquires downwards (parent before child: next level), and within a level always
    to the right (a left sibling before the child in Delete, the child before its right
    sibling, a leaf before its `next` in a scan): pre-order within the level. -/
def posRank (t : Tree K V) : Lk → Nat
  | .tree => 0
  | .node id =>
    match t.look id with
    | none => 0
    | some sh => 1 + (t.depth - sh.height) * (t.ids.length + 1) + t.ids.idxOf id

end Gobptree.Conc
