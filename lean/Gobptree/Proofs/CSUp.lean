/-
  Every continuation except Delete's: resuming it keeps the structural invariant
  (`resume_post_U`).  Starting an operation: `startOp_post` (CSUpStart).
-/
import Gobptree.Proofs.CSUpArrive
import Gobptree.Proofs.CSUpRO
import Gobptree.Proofs.CSUpStart

namespace Gobptree.Conc
open Gobptree

variable {K V : Type}

theorem resume_post_U (P : Params K) (t : Nat) (s : St K V) (k : Kont K V) (H : List Lk) (hole : Option Nat)
    (hnd : isDelK k = false)
    (hpre : Pre P hole s)
    (hk : KontOk s.tree k) (hc : CursorOk s.tree (isHopK k) s.cursor) (hkp : KontPre s.cursor k)
    (hcov : Covers H s.cursor k) :
    Post H hole s (resume P t s k).1 (resume P t s k).2 ∧ flowHole (resume P t s k).2 = none := by
  refine ⟨?_, ?_⟩
  case refine_2 =>
    -- a continuation other than Delete's never parks waiting for a right sibling
    cases h : (resume P t s k).2 with
    | park p => cases resume_succ h <;> first | rfl | cases hnd
    | _ => rfl
  obtain ⟨hheld, hlock, _⟩ := hcov
  have hpre' : ∀ s1 : St K V, s1.tree = s.tree → Pre P hole s1 := fun s1 e => ⟨e ▸ hpre.tree, e ▸ hpre.order, hpre.pad⟩
  cases k with
  | roTree sc key =>
    have hcur : cursorLocks s.cursor = [] := hkp
    simp only [resume]
    refine Post.of_unchanged hpre.tree rfl (by simp) ?_ (cursorOk_of_noLocks _ false _ hcur)
    intro p hp
    cases hp
    exact ⟨rfl, hcur, rfl⟩
  | roNode sc key hold want =>
    exact Post.of_tree_eq (by rfl)
      (roArrive_post P t (s.acq t (.node want)) sc key hold want H hole (hpre' _ rfl) hk hkp)
  | upTree key f y =>
    have hcur : cursorLocks s.cursor = [] := hkp
    simp only [resume]
    refine Post.of_unchanged hpre.tree rfl (by simp) ?_ (cursorOk_of_noLocks _ false _ hcur)
    intro p hp
    cases hp
    exact ⟨rfl, hcur, rfl⟩
  | upRoot key f y r =>
    exact Post.of_tree_eq (by rfl) (upRootArrive_inv P t (s.acq t (.node r)) key f y r H hole (hpre' _ rfl) hk
      (hheld _ (by simp [kontHeld])) (hlock _ rfl) hkp)
  | upRootSib key f y root sib =>
    exact Post.of_tree_eq (by rfl) (upContinue_post P t (((s.acq t (.node sib)).rel t (.node root)).rel t .tree)
      key f y sib H hole (hpre' _ rfl) hk.2.1 (hlock _ rfl) hkp)
  | upChild key f y parent index child =>
    exact Post.of_tree_eq (by rfl) (upChildArrive_inv P t (s.acq t (.node child)) key f y parent index child H hole
      (hpre' _ rfl) hk (hheld _ (by simp [kontHeld])) (hlock _ rfl) hkp)
  | upSib key f y parent child sib =>
    exact Post.of_tree_eq (by rfl) (upContinue_post P t
      (((s.acq t (.node sib)).rel t (.node child)).rel t (.node parent)) key f y sib H hole (hpre' _ rfl) hk.2.1
      (hlock _ rfl) hkp)
  | upCallback key f leaf arg =>
    exact upCallback_post P t s key f leaf arg H hole hpre hk (hheld _ (by simp [kontHeld])) hkp
  | delTree key => cases hnd
  | delRoot key r => cases hnd
  | delLeft key frames node index left root => cases hnd
  | delChild key frames node index left child root => cases hnd
  | delRight key rest fr right root => cases hnd
  | hop cur next => exact hop_post P t s cur next H hole hpre hk
  | paused =>
    simp only [resume]
    exact Post.of_unchanged hpre.tree rfl (by simp) (by intro p hp; cases hp) hc

end Gobptree.Conc

#print axioms Gobptree.Conc.resume_post_U
#print axioms Gobptree.Conc.startOp_post
