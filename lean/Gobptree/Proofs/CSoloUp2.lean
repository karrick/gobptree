/-
  The Insert / Update descent of a lone thread computes `upsertNode` (same identities, same
  counter), and from `rootMutex` on `Tree.upsert`.
-/
import Gobptree.Proofs.CSoloUp
import Gobptree.Proofs.CSoloRun

namespace Gobptree.Conc
open Gobptree

variable {K V : Type}

def cbOfY (y : Option Bool) (cb : Option V) : List (Option V) :=
  match y with
  | some _ => [cb]
  | none => []

/-- the statement proved by induction on the height: standing on `x` (the hole of the context), the thread finishes with `x` replaced by what `upsertNode` returns -/
def UpSim (P : Params K) (key : K) (f : Option V → V) (y : Option Bool) (d : Nat) : Prop :=
  ∀ {D : Nat} (c : Ctx K V D d) (x : Node K V d) (o nid : Nat) (x' : Node K V d) (nid' : Nat) (cb : Option V)
    (s : St K V),
    s.tree = treeOf o c x nid → IdInv c x nid →
    upsertNode P key f d x nid = .ok (x', nid', cb) →
    Solo P s (upContinue P 0 s key f y (Node.id x)) (treeOf o c x' nid') .ok (cbOfY y cb)

theorem up_leaf (P : Params K) (key : K) (f : Option V → V) (y : Option Bool) (hy : y ≠ some true) :
    UpSim (V := V) P key f y 0 := by
  intro D c l o nid l' nid' cb s htree hinv hup
  obtain ⟨hl, hn⟩ := upsertNode_zero_inv P key f l nid l' nid' cb hup
  subst hn
  have hnm : Node.id (d := 0) l ∉ c.ids := hinv.not_mem
  have hfind : s.tree.find (Node.id (d := 0) l) = some ⟨0, l⟩ := find_treeOf htree hnm
  have htree' : putLeaf s.tree l' = treeOf o c (l' : Node K V 0) nid' :=
    putLeaf_treeOf htree l' (Leaf.upsert_id P l l' key f cb hl) hnm
  rw [upContinue_leaf hfind]
  cases y with
  | none =>
    rw [upLeaf_none hl]
    exact Solo.done htree' (((Ext.refl s).setTree _).rel _)
  | some b =>
    cases b with
    | true => exact absurd rfl hy
    | false =>
      rw [upLeaf_false hl]
      exact Solo.done htree' ((((Ext.refl s).cb cb).setTree _).rel _)

theorem up_inner (P : Params K) (key : K) (f : Option V → V) (y : Option Bool) (d : Nat)
    (ih : UpSim (V := V) P key f y d) : UpSim (V := V) P key f y (d + 1) := by
  intro D c p o nid p' nid' cb s htree hinv hup
  obtain ⟨A, child, B, runts, hkids, hA, hlf, hcase⟩ := upsertNode_succ_inv P key f p nid p' nid' cb hup
  obtain ⟨pid, prunts, pkids⟩ := p
  simp only at hkids hA hlf hcase
  subst hkids
  have hnm : pid ∉ c.ids := hinv.not_mem
  have hfind : s.tree.find pid = some ⟨d + 1, (⟨pid, prunts, A ++ child :: B⟩ : Inner K (Node K V d))⟩ :=
    find_treeOf htree hnm
  have hk : (A ++ child :: B)[A.length]? = some child := getElem?_pivot rfl child
  have hinv2 : IdInv (Ctx.kid c pid runts A B) child nid := IdInv.kid_iff.2 hinv
  have hne : Node.id child ≠ pid := fun e => hinv2.not_mem (by rw [Ctx.ids_kid, e]; simp)
  have hput : ∀ (r' : List K) (k' : List (Node K V d)),
      putInner s.tree (⟨pid, r', k'⟩ : Inner K (Node K V d)) =
        treeOf o c ((⟨pid, r', k'⟩ : Inner K (Node K V d)) : Node K V (d + 1)) nid := fun r' k' =>
    putInner_treeOf htree ⟨pid, r', k'⟩ rfl hnm
  show Solo P s (upContinue P 0 s key f y pid) _ _ _
  rw [upContinue_inner hfind (by rw [← hA]; exact hk), ← hA]
  refine Solo.park (fun _ => id) (fun h => hne (Lk.node.inj (List.mem_singleton.1 h))) ?_
  -- the child is locked; `s1` is the state in which the thread looks at it
  show Solo P s (upChildArrive P 0 (s.tick.acq 0 (.node (Node.id child))) key f y pid A.length (Node.id child)) _ _ _
  generalize hs1 : s.tick.acq 0 (.node (Node.id child)) = s1
  have he1 : Ext s s1 [] := hs1 ▸ ((Ext.refl s).tick.acq _)
  have htree1 : s1.tree = s.tree := by rw [← hs1]; rfl
  have hfind1 := hfind
  rw [← htree1] at hfind1
  have hnid1 : s1.tree.nextId = nid := by rw [htree1, htree]; rfl
  cases hcase with
  | nosplit c' hms hrec hp' =>
    subst hp'
    rw [upChildArrive_eq_nosplit hfind1 hk hlf (by rw [hnid1]; exact hms)]
    refine (ih (Ctx.kid c pid runts A B) child o nid c' nid' cb _ ?_ hinv2 hrec).rebase ((he1.setTree _).rel _)
    show putInner s1.tree _ = _
    rw [htree1, hput, set_pivot rfl]
    rfl
  | right left right pad rs c' hms hpad hrs hlt hrec hp' =>
    subst hp'
    obtain ⟨-, hrid, -⟩ := maybeSplit_some_facts _ _ _ _ _ hms
    have hplt := hinv.lt
    have hclt := hinv2.lt
    rw [upChildArrive_right hfind1 hk hlf (by rw [hnid1]; exact hms) hpad hrs hlt]
    refine Solo.park (fun _ => id) ?_ ?_
    · show Lk.node (Node.id right) ∉ [Lk.node pid, Lk.node (Node.id child)]
      rw [hrid]
      simp only [List.mem_cons, List.not_mem_nil, or_false, Lk.node.injEq, not_or]
      exact ⟨fun e => by rw [← e] at hplt; exact Nat.lt_irrefl _ hplt, fun e => by rw [← e] at hclt; exact Nat.lt_irrefl _ hclt⟩
    · refine (ih (Ctx.kid c pid (insertIdiom pad runts (A.length + 1) rs) (A ++ [left]) B) right o (nid + 1) c' nid' cb _
        ?_ (hinv2.split _ hms).1 hrec).rebase (((((he1.setTree _).tick.acq _).rel _).rel _))
      show allocId (putInner s1.tree _) = _
      rw [htree1, hput, insertIdiom_next rfl, set_pivot rfl]
      show treeOf o c _ (nid + 1) = _
      unfold treeOf
      rw [Ctx.fill_kid, List.append_assoc]
      rfl
  | left left right pad rs c' hms hpad hrs hlt hrec hp' =>
    subst hp'
    obtain ⟨hlid, -, -⟩ := maybeSplit_some_facts _ _ _ _ _ hms
    rw [upChildArrive_left hfind1 hk hlf (by rw [hnid1]; exact hms) hpad hrs hlt, ← hlid]
    refine (ih (Ctx.kid c pid (insertIdiom pad runts (A.length + 1) rs) A (right :: B)) left o (nid + 1) c' nid' cb _
      ?_ (hinv2.split _ hms).2 hrec).rebase ((he1.setTree _).rel _)
    show allocId (putInner s1.tree _) = _
    rw [htree1, hput, insertIdiom_next rfl, set_pivot rfl]
    rfl

theorem up_all (P : Params K) (key : K) (f : Option V → V) (y : Option Bool) (hy : y ≠ some true) :
    ∀ d, UpSim (V := V) P key f y d
  | 0 => up_leaf P key f y hy
  | d + 1 => up_inner P key f y d (up_all P key f y hy d)

theorem up_tree (P : Params K) (key : K) (f : Option V → V) (y : Option Bool) (hy : y ≠ some true)
    (t' : Tree K V) (cb : Option V) (s : St K V)
    (hinv : IdInv Ctx.top s.tree.root s.tree.nextId) (hup : s.tree.upsert P key f = .ok (t', cb)) :
    Solo P s (s, .park (.want .tree (.upTree key f y))) t' .ok (cbOfY y cb) := by
  refine Solo.enter (fun _ => id) (fun _ => id) rfl rfl rfl ?_
  show Solo P _ (upRootArrive P 0 s.entered key f y (Node.id s.tree.root)) _ _ _
  cases Tree.upsert_inv P key f s.tree t' cb hup with
  | nosplit r' nid' hms hrec ht' =>
    subst ht'
    rw [upRootArrive_eq_nosplit (s := s.entered) hms]
    refine (up_all P key f y hy _ Ctx.top s.tree.root s.tree.order s.tree.nextId r' nid' cb _ ?_
      hinv hrec).rebase ((Ext.refl _).rel _)
    exact (treeOf_eta s.tree).symm
  | right left right ls rs c' nid' hms hls hrs hlt hrec ht' =>
    subst ht'
    obtain ⟨-, hrid, -⟩ := maybeSplit_some_facts _ _ _ _ _ hms
    have hrlt := hinv.lt
    rw [upRootArrive_right (s := s.entered) hms hls hrs hlt]
    refine Solo.park (fun _ => id) ?_ ?_
    · show Lk.node (Node.id right) ∉ [Lk.tree, Lk.node (Node.id s.tree.root)]
      rw [hrid]
      simp only [List.mem_cons, List.not_mem_nil, or_false, Lk.node.injEq, reduceCtorEq, false_or]
      exact fun e => by rw [← e] at hrlt; exact Nat.lt_irrefl _ hrlt
    · refine (up_all P key f y hy _ (Ctx.kid Ctx.top (s.tree.nextId + 1) [if P.lt key ls then key else ls, rs] [left] [])
        right s.tree.order (s.tree.nextId + 2) c' nid' cb _ ?_
        (hinv.splitRoot _ hms).1 hrec).rebase (((((Ext.refl _).setTree _).tick.acq _).rel _).rel _)
      rfl
  | left left right ls rs c' nid' hms hls hrs hlt hrec ht' =>
    subst ht'
    obtain ⟨hlid, -, -⟩ := maybeSplit_some_facts _ _ _ _ _ hms
    rw [upRootArrive_left (s := s.entered) hms hls hrs hlt, ← hlid]
    refine (up_all P key f y hy _ (Ctx.kid Ctx.top (s.tree.nextId + 1) [if P.lt key ls then key else ls, rs] [] [right])
      left s.tree.order (s.tree.nextId + 2) c' nid' cb _ ?_
      (hinv.splitRoot _ hms).2 hrec).rebase (((Ext.refl _).setTree _).rel _)
    rfl

end Gobptree.Conc
