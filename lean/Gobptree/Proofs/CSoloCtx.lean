/-
  One-hole contexts.  A thread of the concurrent model addresses nodes by identity (`Tree.find`,
  `Tree.modify`, `putInner`, `putLeaf`); the sequential model recurses structurally.
  A one-hole context `c` with `root = c.fill x` turns the former into the latter:
  when the identity of `x` does not occur in the context, `find` returns `x` and
  writing back replaces exactly the hole.
-/
import Gobptree.Proofs.CSFlat

namespace Gobptree.Conc
open Gobptree

variable {K V : Type}

/-- one-hole contexts, innermost frame first: `Ctx K V D d` has a hole for a node of
    height `d` inside a tree of height `D` -/
inductive Ctx (K V : Type) (D : Nat) : Nat → Type where
  | top : Ctx K V D D
  | kid {d : Nat} (c : Ctx K V D (d + 1)) (id : Nat) (runts : List K) (pre post : List (Node K V d)) : Ctx K V D d

namespace Ctx

def fill {D : Nat} : {d : Nat} → Ctx K V D d → Node K V d → Node K V D
  | _, .top, x => x
  | _, .kid (d := d) c id r pre post, x => c.fill ((⟨id, r, pre ++ x :: post⟩ : Inner K (Node K V d)) : Node K V (d + 1))

def ids {D : Nat} : {d : Nat} → Ctx K V D d → List Nat
  | _, .top => []
  | _, .kid c id _ pre post => c.ids ++ id :: (pre.flatMap idsOf ++ post.flatMap idsOf)

def path {D : Nat} : {d : Nat} → Ctx K V D d → List Nat
  | _, .top => []
  | _, .kid c id _ _ _ => c.path ++ [id]

theorem fill_top {D : Nat} (x : Node K V D) : (Ctx.top : Ctx K V D D).fill x = x := rfl

theorem fill_kid {D d : Nat} (c : Ctx K V D (d + 1)) (id : Nat) (r : List K) (pre post : List (Node K V d))
    (x : Node K V d) :
    (Ctx.kid c id r pre post).fill x = c.fill ((⟨id, r, pre ++ x :: post⟩ : Inner K (Node K V d)) : Node K V (d + 1)) := rfl

theorem ids_kid {D d : Nat} (c : Ctx K V D (d + 1)) (id : Nat) (r : List K) (pre post : List (Node K V d)) :
    (Ctx.kid c id r pre post).ids = c.ids ++ id :: (pre.flatMap idsOf ++ post.flatMap idsOf) := rfl

end Ctx

theorem findSome_pre_none {d : Nat} (a : Nat) (pre : List (Node K V d)) (h : a ∉ pre.flatMap idsOf) :
    pre.findSome? (findNode a d) = none := by
  rw [List.findSome?_eq_none_iff]
  intro p hp
  apply (findNode_none a d p).2
  intro hm
  apply h
  rw [List.mem_flatMap]
  exact ⟨p, hp, hm⟩

theorem findNode_fill {D : Nat} (a : Nat) : ∀ {d : Nat} (c : Ctx K V D d) (x : Node K V d) (r : AnyNode K V),
    findNode a d x = some r → a ∉ c.ids → findNode a D (c.fill x) = some r := by
  intro d c
  induction c with
  | top => intro x r h _; exact h
  | @kid d c id rs pre post ih =>
    intro x r h hn
    rw [Ctx.fill_kid]
    rw [Ctx.ids_kid] at hn
    simp only [List.mem_append, List.mem_cons, not_or] at hn
    apply ih _ r _ hn.1
    show (if id = a then some (⟨d + 1, _⟩ : AnyNode K V) else (pre ++ x :: post).findSome? (findNode a d)) = some r
    have h1 : id ≠ a := fun e => hn.2.1 e.symm
    rw [if_neg h1, List.findSome?_append, findSome_pre_none a pre hn.2.2.1]
    simp [h]

theorem modifyNode_fill {D : Nat} (a : Nat) (g : (d : Nat) → Node K V d → Node K V d) :
    ∀ {d : Nat} (c : Ctx K V D d) (x : Node K V d),
    a ∉ c.ids → modifyNode a g D (c.fill x) = c.fill (modifyNode a g d x) := by
  intro d c
  induction c with
  | top => intro x _; rfl
  | @kid d c id rs pre post ih =>
    intro x hn
    rw [Ctx.fill_kid, Ctx.fill_kid]
    rw [Ctx.ids_kid] at hn
    simp only [List.mem_append, List.mem_cons, not_or] at hn
    refine (ih _ hn.1).trans ?_
    congr 1
    have h1 : id ≠ a := fun e => hn.2.1 e.symm
    refine (modifyNode_succ_ne a g ⟨id, rs, pre ++ x :: post⟩ h1).trans ?_
    show ((⟨id, rs, (pre ++ x :: post).map (modifyNode a g d)⟩ : Inner K (Node K V d)) : Node K V (d + 1)) = _
    rw [List.map_append, List.map_cons,
      map_modify_absent a g pre (fun p hp hm => hn.2.2.1 (List.mem_flatMap.2 ⟨p, hp, hm⟩)),
      map_modify_absent a g post (fun p hp hm => hn.2.2.2 (List.mem_flatMap.2 ⟨p, hp, hm⟩))]

def treeOf {D d : Nat} (o : Nat) (c : Ctx K V D d) (x : Node K V d) (nid : Nat) : Tree K V :=
  { order := o, depth := D, root := c.fill x, nextId := nid }

theorem find_treeOf {D d : Nat} {o : Nat} {c : Ctx K V D d} {x : Node K V d} {nid : Nat} {t : Tree K V}
    (ht : t = treeOf o c x nid) (h : Node.id x ∉ c.ids) : t.find (Node.id x) = some ⟨d, x⟩ :=
  ht ▸ findNode_fill _ c x _ (findNode_here _ x rfl) h

theorem modify_treeOf {D d : Nat} (o : Nat) (c : Ctx K V D d) (x : Node K V d) (nid : Nat)
    (g : (d : Nat) → Node K V d → Node K V d)
    (h : Node.id x ∉ c.ids) : (treeOf o c x nid).modify (Node.id x) g = treeOf o c (g d x) nid := by
  unfold treeOf Tree.modify
  simp only
  rw [modifyNode_fill _ g c x h, modifyNode_at _ g x rfl]

theorem putInner_treeOf {D d : Nat} {o : Nat} {c : Ctx K V D (d + 1)} {p : Inner K (Node K V d)} {nid : Nat} {t : Tree K V}
    (ht : t = treeOf o c (p : Node K V (d + 1)) nid) (p' : Inner K (Node K V d)) (hid : p'.id = p.id) (h : p.id ∉ c.ids) :
    putInner t p' = treeOf o c (p' : Node K V (d + 1)) nid := by
  subst ht
  unfold putInner
  rw [hid]
  have := modify_treeOf o c (p : Node K V (d + 1)) nid
    (fun d' n => if h : d' = d + 1 then h ▸ (p' : Node K V (d + 1)) else n) h
  exact this.trans (congrArg (fun z => treeOf o c z nid) (putInner_apply p' p))

theorem putLeaf_treeOf {D : Nat} {o : Nat} {c : Ctx K V D 0} {l : Leaf K V} {nid : Nat} {t : Tree K V}
    (ht : t = treeOf o c (l : Node K V 0) nid) (l' : Leaf K V) (hid : l'.id = l.id) (h : l.id ∉ c.ids) :
    putLeaf t l' = treeOf o c (l' : Node K V 0) nid := by
  subst ht
  unfold putLeaf
  rw [hid]
  exact modify_treeOf o c (l : Node K V 0) nid _ h

def IdInv {D d : Nat} (c : Ctx K V D d) (x : Node K V d) (nid : Nat) : Prop :=
  ∀ a, (c.ids.count a + (idsOf x).count a ≤ 1) ∧ (0 < c.ids.count a + (idsOf x).count a → a < nid)

theorem count_id_idsOf {d : Nat} (x : Node K V d) : 1 ≤ (idsOf x).count (Node.id x) :=
  List.count_pos_iff.2 (id_mem_idsOf x)

theorem IdInv.not_mem {D d : Nat} {c : Ctx K V D d} {x : Node K V d} {nid : Nat} (h : IdInv c x nid) :
    Node.id x ∉ c.ids := by
  intro hm
  have h1 := (h (Node.id x)).1
  have h2 := count_id_idsOf x
  have h3 : 0 < c.ids.count (Node.id x) := List.count_pos_iff.2 hm
  omega

theorem IdInv.lt {D d : Nat} {c : Ctx K V D d} {x : Node K V d} {nid : Nat} (h : IdInv c x nid) :
    Node.id x < nid := by
  have h2 := count_id_idsOf x
  exact (h (Node.id x)).2 (by omega)

theorem count_idsOf_split {d : Nat} (id : Nat) (rs : List K) (A B : List (Node K V d)) (x : Node K V d) (a : Nat) :
    (idsOf (d := d + 1) (Inner.mk id rs (A ++ x :: B) : Inner K (Node K V d))).count a =
      (if id = a then 1 else 0) + (A.flatMap idsOf).count a + (idsOf x).count a + (B.flatMap idsOf).count a := by
  rw [idsOf_mk]
  simp only [List.count_cons, List.flatMap_append, List.flatMap_cons, List.count_append, beq_iff_eq]
  omega

theorem count_ids_kid {D d : Nat} (c : Ctx K V D (d + 1)) (id : Nat) (r : List K) (pre post : List (Node K V d)) (a : Nat) :
    (Ctx.kid c id r pre post).ids.count a =
      c.ids.count a + (if id = a then 1 else 0) + (pre.flatMap idsOf).count a + (post.flatMap idsOf).count a := by
  rw [Ctx.ids_kid]
  simp only [List.count_cons, List.count_append, beq_iff_eq]
  omega

theorem count_ids_top {D : Nat} (a : Nat) : (Ctx.top : Ctx K V D D).ids.count a = 0 := rfl

theorem IdInv.kid_iff {D d : Nat} {c : Ctx K V D (d + 1)} {pid : Nat} {r r' : List K} {A B : List (Node K V d)}
    {x : Node K V d} {nid : Nat} :
    IdInv (Ctx.kid c pid r A B) x nid ↔ IdInv c ((⟨pid, r', A ++ x :: B⟩ : Inner K (Node K V d)) : Node K V (d + 1)) nid := by
  refine forall_congr' fun a => ?_
  rw [count_ids_kid, count_idsOf_split]
  omega

theorem idsOk_iff {t : Tree K V} :
    IdsOk t ↔ ∀ a, (idsOf t.root).count a ≤ 1 ∧ (0 < (idsOf t.root).count a → a < t.nextId) := by
  constructor
  · intro h a
    exact ⟨List.nodup_iff_count.1 h.1 a, fun hp => h.2 a (List.count_pos_iff.1 hp)⟩
  · intro h
    exact ⟨List.nodup_iff_count.2 fun a => (h a).1, fun a ha => (h a).2 (List.count_pos_iff.2 ha)⟩

theorem idInv_top_iff {t : Tree K V} : IdInv Ctx.top t.root t.nextId ↔ IdsOk t := by
  rw [idsOk_iff]
  exact forall_congr' fun a => by rw [count_ids_top, Nat.zero_add]

theorem treeOf_eta (t : Tree K V) : treeOf t.order Ctx.top t.root t.nextId = t := by
  cases t; rfl

end Gobptree.Conc
