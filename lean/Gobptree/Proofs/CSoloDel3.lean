/-
  Delete of a lone thread, the way back up: standing at the hole of a context with the rewritten
  node, the unwinding computes `unwindCtx` (rebalance at
  every activation whose callee reported "too small") — `UnwSim`, by induction on the context.
-/
import Gobptree.Proofs.CSoloDel2
import Gobptree.Proofs.CSoloRun

namespace Gobptree.Conc
open Gobptree

variable {K V : Type}

def UnwSim (P : Params K) (key : K) (rootWas : Nat) {D d : Nat} (c : Ctx K V D d) : Prop :=
  ∀ (x' : Node K V d) (small : Bool) (o nid : Nat) (s : St K V) (res : Node K V D × Bool),
    s.tree = treeOf o c x' nid → LockInv c (Node.id x') →
    c.rootId (Node.id x') = rootWas →
    unwindCtx P (P.order >>> 1) c (x', small) = .ok res →
    Solo P s (delUnwind P 0 s key (c.frames (Node.id x')) small rootWas) (finishTree ⟨o, D, res.1, nid⟩ res.2) .ok []

theorem unw_top (P : Params K) (key : K) (rootWas : Nat) {D : Nat} :
    UnwSim (V := V) P key rootWas (Ctx.top : Ctx K V D D) := by
  intro x' small o nid s res htree _ hroot hun
  obtain rfl : (x', small) = res := Except.ok.inj hun
  show Solo P s (delUnwind P 0 s key [] small rootWas) _ _ _
  rw [delUnwind_nil, delFinish_eq]
  refine Solo.done ?_ ((((Ext.refl s).setTree _).rel _).rel _)
  show finishTree s.tree small = _
  rw [htree]; rfl

theorem unw_kid (P : Params K) (key : K) (rootWas : Nat) {D d : Nat} (c : Ctx K V D (d + 1)) (id : Nat) (r : List K)
    (pre post : List (Node K V d)) (ih : UnwSim P key rootWas c) :
    UnwSim P key rootWas (Ctx.kid c id r pre post) := by
  intro x' small o nid s res htree hl hroot hun
  obtain ⟨w, hw, hun2⟩ := bind_ok
    (show (unwind1 P (P.order >>> 1) id r pre post (x', small) >>= unwindCtx P (P.order >>> 1) c) = .ok res from hun)
  · have hl0 : LockInv c id := hl.up
    have hnm : id ∉ c.ids := hl0.not_mem
    have hfind : s.tree.find id = some ⟨d + 1, (⟨id, r, pre ++ x' :: post⟩ : Inner K (Node K V d))⟩ :=
      find_treeOf (c := c) htree hnm
    show Solo P s (delUnwind P 0 s key (⟨id, pre.length, Ctx.leftOf pre, Node.id x'⟩ :: c.frames id) small rootWas) _ _ _
    cases small with
    | false =>
      have hw' : w = (((⟨id, r, pre ++ x' :: post⟩ : Inner K (Node K V d)) : Node K V (d + 1)), false) := by
        simp only [unwind1, Bool.not_false, if_true] at hw
        injection hw with hw; exact hw.symm
      subst hw'
      rw [delUnwind_false]
      refine (ih ((⟨id, r, pre ++ x' :: post⟩ : Inner K (Node K V d)) : Node K V (d + 1)) false o nid _ res ?_ hl0 hroot
        hun2).rebase ((Ext.refl s).frameUnlock _ _)
      rw [frameUnlock_tree, htree]; rfl
    | true =>
      obtain ⟨i', small'⟩ := w
      have hreb : rebalance P {} (P.order >>> 1) (⟨id, r, pre ++ x' :: post⟩ : Inner K (Node K V d)) pre.length x' =
          .ok (i', small') := by
        simp only [unwind1, Bool.not_true, Bool.false_eq_true, if_false] at hw; exact hw
      have hkx : (pre ++ x' :: post)[pre.length]? = some x' := getElem?_pivot rfl x'
      have hid : Node.id (d := d + 1) i' = id := (rebalance_two P {} _ _ i' _ _ x' small' hreb hkx).1
      have hput : putInner s.tree i' = treeOf o c (i' : Node K V (d + 1)) nid := putInner_treeOf (c := c) (p := ⟨id, r, pre ++ x' :: post⟩) htree i' hid hnm
      -- the activation above goes on from any state with the rebalanced node written back
      have hgo : ∀ s2 : St K V, s2.tree = treeOf o c (i' : Node K V (d + 1)) nid →
          Solo P s2 (delUnwind P 0 s2 key (c.frames id) small' rootWas) (finishTree ⟨o, D, res.1, nid⟩ res.2) .ok [] := by
        intro s2 h1
        have h := ih (i' : Node K V (d + 1)) small' o nid s2 res h1 (by rw [hid]; exact hl0) (by rw [hid]; exact hroot) hun2
        rwa [hid] at h
      by_cases hr : pre.length + 1 < r.length
      · obtain ⟨right, hright⟩ := rebalance_right_exists P {} _ _ _ _ _ hreb hr
        have hrm : right ∈ post := mem_post_of_next pre post x' right hright
        rw [delUnwind_right (fr := ⟨id, pre.length, Ctx.leftOf pre, Node.id x'⟩) hfind hr hright]
        refine Solo.park (fun _ h => h) (by rw [← hroot]; exact right_free c id r pre post _ hl right hrm) ?_
        have hfind2 : (s.tick.acq 0 (.node (Node.id right))).tree.find id =
            some ⟨d + 1, (⟨id, r, pre ++ x' :: post⟩ : Inner K (Node K V d))⟩ := hfind
        show Solo P s (delRightArrive P 0 (s.tick.acq 0 (.node (Node.id right))) key (c.frames id)
          ⟨id, pre.length, Ctx.leftOf pre, Node.id x'⟩ (Node.id right) rootWas) _ _ _
        rw [delRightArrive_eq (fr := ⟨id, pre.length, Ctx.leftOf pre, Node.id x'⟩) hfind2 hkx hreb]
        refine (hgo _ ?_).rebase ((((Ext.refl s).tick.acq _).setTree _).frameUnlock _ _)
        rw [frameUnlock_tree]; exact hput
      · rw [delUnwind_reb (fr := ⟨id, pre.length, Ctx.leftOf pre, Node.id x'⟩) hfind hr hkx hreb]
        refine (hgo _ ?_).rebase (((Ext.refl s).setTree _).frameUnlock _ _)
        rw [frameUnlock_tree]; exact hput

theorem unw_all (P : Params K) (key : K) (rootWas : Nat) {D : Nat} :
    ∀ {d : Nat} (c : Ctx K V D d), UnwSim P key rootWas c := by
  intro d c
  induction c with
  | top => exact unw_top P key rootWas
  | kid c id r pre post ih => exact unw_kid P key rootWas c id r pre post ih

end Gobptree.Conc
