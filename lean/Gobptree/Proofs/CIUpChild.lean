/-
  The descent block of Insert/Update (`upChildArrive`) keeps the separator invariant: the
  lowered first separator is covered by the running thread's witness, the separator of a fresh
  sibling is its first separator.
-/
import Gobptree.Proofs.CIUpTree
import Gobptree.Proofs.CKUpChild

namespace Gobptree.Conc
open Gobptree

variable {K V : Type} {lt : K → K → Bool}

theorem nodup_of_find {t : Tree K V} {id d' : Nat} {m : Node K V d'} (hf : t.find id = some ⟨d', m⟩)
    (hids : t.ids.Nodup) : (idsOf m).Nodup := by
  obtain ⟨_, L, R, hflat, _⟩ := Tree.find_modify hf
  have h : ((L ++ flat m ++ R).map Prod.fst).Nodup := by
    have := hids
    unfold Tree.ids at this
    rw [hflat] at this
    exact this
  rw [List.map_append, List.map_append] at h
  exact (List.nodup_append.1 (List.nodup_append.1 h).1).2.1

/-- The parent gets the separator above its kid `c` lowered (`lowKey`), and `c` replaced by `c'` and
    the entries `M'` after it (`c` itself and nothing, or the halves of its split).  The thread came
    with a witness about the parent (`hWit0`); afterwards it is the witness for `c'`, on the ground
    that its key is below the first separator of `c`. -/
theorem lowered_write_isepN (hsw : SWO lt) (W Wit0 : Nat → K → Prop) {t : Tree K V} {d : Nat} (pid child : Nat)
    (key k : K) (rA rB : List K) (A B : List (Node K V d)) (c c' : Node K V d) (M' : List (K × Node K V d))
    (p' : Inner K (Node K V d))
    (hp' : p' = ⟨pid, rA ++ lowKey lt key rA k :: (M'.map Prod.fst ++ rB), A ++ c' :: (M'.map Prod.snd ++ B)⟩)
    {a0 b0 : Option K}
    (hfind : t.find pid = some ⟨d + 1, (Inner.mk pid (rA ++ k :: rB) (A ++ c :: B) : Inner K (Node K V d))⟩)
    (hb : t.boundsOf pid = some (a0, b0)) (hids : t.ids.Nodup) (hpar : ParTree t) (hlA : rA.length = A.length)
    (hle : leO lt a0 key) (hlo : rA = [] → leO lt a0 k)
    (hWit0 : ∀ r x, Wit0 r x → W r x ∨ (r = pid ∧ x = key ∧ rA = []))
    (hWp : ∀ x, ¬ W pid x) (hWc : ∀ x, ¬ W (Node.id c) x) (hI : ISepN lt Wit0 t.depth t.root)
    (hid : Node.id c' = child) (hh : headN d c' = headN d c)
    (hc' : ISepN lt (fun r x => W r x ∨ (r = child ∧ x = key ∧ LowN lt key d c)) d c →
      ISepN lt (fun r x => W r x ∨ (r = child ∧ x = key ∧ LowN lt key d c)) d c' ∧
      ∀ e ∈ M', SepEntry lt (fun r x => W r x ∨ (r = child ∧ x = key ∧ LowN lt key d c)) d e) :
    ISepN lt (fun r x => W r x ∨ (r = child ∧ x = key ∧ LowN lt key d c)) (putInner t p').depth (putInner t p').root := by
  subst hp'
  have hndp := nodup_of_find hfind hids
  have hne : ∀ c0 ∈ A ++ c :: B, ∀ x ∈ idsOf c0, x ≠ pid := by
    intro c0 hc0 x hx e
    rw [idsOf_succ] at hndp
    exact (List.nodup_cons.1 hndp).1 (List.mem_flatMap.2 ⟨c0, hc0, e ▸ hx⟩)
  have hw01 : ∀ r x, r ≠ pid → Wit0 r x → W r x ∨ (r = child ∧ x = key ∧ LowN lt key d c) :=
    fun r x hr hw => (hWit0 r x hw).imp_right (fun h => absurd h.1 hr)
  refine putInner_isepN (p := (Inner.mk pid (rA ++ k :: rB) (A ++ c :: B) : Inner K (Node K V d))) _ hfind hb hids hpar
    Wit0 _ hI hw01 ?_ ?_
  ·
    obtain ⟨hIA, hIc, hIB⟩ := (isepN_decomp Wit0 rfl rfl hlA).1 (ISepN_find _ hfind hids hpar hI)
    have hmono : ∀ e : K × Node K V d, e.2 ∈ A ++ c :: B → SepEntry lt Wit0 d e → SepEntry lt _ d e :=
      fun e he => SepEntry.mono (fun r hr x => hw01 r x (hne e.2 he r hr))
    have hcm : c ∈ A ++ c :: B := List.mem_append_right _ List.mem_cons_self
    obtain ⟨hIc', hIX⟩ := hc' (hmono (k, c) hcm hIc).2
    have hnoW : ¬ Wit0 (Node.id c) k :=
      fun hw => (hWit0 _ _ hw).elim (hWc k) (fun h => hne c hcm _ (id_mem_idsOf c) h.1)
    refine (isepN_decomp _ rfl rfl hlA).2 ⟨fun e he => hmono e (List.mem_append_left _ (List.of_mem_zip he).2) (hIA e he),
      ⟨sepFact_lowered hsw W c c' key k rA child hid hh (SepFact.mono hnoW.elim hIc.1), hIc'⟩, ?_⟩
    rw [List.zip_append (length_fst_snd M'), zip_fst_snd]
    intro e he
    rcases List.mem_append.1 he with he | he
    · exact hIX e he
    · exact hmono e (List.mem_append_right _ (List.mem_cons_of_mem _ (List.of_mem_zip he).2)) (hIB e he)
  ·
    intro s0 h0 hfact
    subst h0
    refine Or.inl (face_low hsw key s0 k rA rB _ hle hlo ?_)
    rcases hfact with h1 | h1
    · exact Or.inl h1
    · exact Or.inr ((hWit0 _ _ h1).resolve_left (hWp _)).2

theorem upChildArrive_isepN (P : Params K) (hK : KParams lt P) (t : Nat) (s : St K V) (key : K) (f : Option V → V)
    (y : Option Bool) (parent index child : Nat) (H : List Lk) (hole : Option Nat) (hpre : Pre P hole s)
    (hord : OrdTree lt s.tree) (hk : KontOk s.tree (.upChild key f y parent index child))
    (hpos : KPos lt s.tree (.upChild key f y parent index child))
    (hHp : Lk.node parent ∈ H) (hHc : Lk.node child ∈ H)
    (W : Nat → K → Prop) (hW : ∀ r x, W r x → Lk.node r ∉ H)
    (hI : ISepN lt (fun r x => W r x ∨ kontWit (.upChild key f y parent index child) r x) s.tree.depth s.tree.root) :
    ISepN lt (fun r x => W r x ∨ flowWit (upChildArrive P t s key f y parent index child).2 r x)
      (upChildArrive P t s key f y parent index child).1.tree.depth
      (upChildArrive P t s key f y parent index child).1.tree.root := by
  have hsw := hK.swo
  obtain ⟨d, rA, rB, k, k1, A, B, c, hi, hk1, at_, out⟩ :=
    upChildArrive_report P t s key f y parent index child H hole hpre hk hHp hHc
  obtain ⟨a0, b0, PL, PR, su⟩ := upChild_setup P hK s key f y parent index child hole hpre hord hpos hi hk1 at_
  rw [hK.lt] at hk1
  subst hi hk1
  have hso := fun {l r rs p2 T2} => UpChildSplit.ord hsw (P := P) (H := H) (hole := hole)
    (l := l) (r := r) (rs := rs) (p2 := p2) (T2 := T2) su
  have hhalf := su.half
  obtain ⟨hfind, hcid, hlA, -⟩ := at_
  obtain ⟨-, -, hle, z, -, -, -, -, -, -, hOc, hPc⟩ := su
  generalize upChildArrive P t s key f y parent A.length child = res at out
  have hwrite := fun c' M' => lowered_write_isepN hsw W _ parent child key k rA rB A B c c' M' _ rfl hfind z.tree_bounds
    hpre.tree.ids.1 (parTree_of_treeOk hpre.tree) hlA hle (fun e => z.ord.1 k (by rw [e]; rfl))
    (fun r x hw => hw.imp_right fun hw => (kontWit_upChild hw).imp_right
      (And.imp_right fun e => List.eq_nil_of_length_eq_zero (hlA.trans e)))
    (fun x hw => hW _ _ hw hHp) (fun x hw => hW _ _ hw (hcid ▸ hHc)) hI
  cases out with
  | @stay p1 T1 p1eq T1eq w hms _ hmc =>
    subst p1eq T1eq
    exact upContinue_lowN P hK hpre.pad t _ key f y child w.step.tree W hcid rfl hmc hOc hPc
      (hwrite c [] hcid rfl (fun h => ⟨h, fun e he => absurd he List.not_mem_nil⟩))
  | @split l r rs p2 T2 sp =>
    have hsplit := sp.out.cut
    obtain ⟨s0, so⟩ := hso sp
    obtain ⟨-, -, -, -, -, p2eq, T2eq, w, hml, -⟩ := sp
    subst p2eq T2eq
    rw [hK.lt]
    have hhl : headN d l = headN d c := isSplit_headN hhalf hsplit
    have hidl : Node.id l = child := so.idl.trans hcid
    have hI2 := hwrite l [(rs, r)] hidl hhl (fun h => by
      obtain ⟨hIl, hIr⟩ := isepN_split _ hsplit h
      refine ⟨hIl, fun e he => ?_⟩
      cases List.mem_singleton.1 he
      exact ⟨sepFact_self hsw _ r rs so.smr, hIr⟩)
    by_cases cc : (!lt key rs) = true
    · rw [if_pos cc]
      exact ISepN.mono (fun r _ x hw => hw.imp_right fun hw =>
        absurd hw.2.2 (not_lowN_of_right hsw hhl so.sml so.s0_s (by simpa using cc))) hI2
    · rw [if_neg cc]
      exact upContinue_lowN P hK hpre.pad t _ key f y child w.step.tree W hidl hhl hml so.ordl so.parl hI2

end Gobptree.Conc
