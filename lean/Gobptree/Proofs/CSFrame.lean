/-
  What another thread's step cannot disturb: `KontOk`/`CursorOk` of a parked thread mention
  only the own fields of nodes it holds (or relies on exclusively, `kontExtra`), the root
  pointer when it holds `rootMutex`, and the order.  If those are unchanged, so are they.
-/
import Gobptree.Proofs.CSDefs

namespace Gobptree.Conc
open Gobptree

variable {K V : Type}

theorem kidAt_congr {t t' : Tree K V} {p : Nat} (h : t'.look p = t.look p) (i : Nat) :
    t'.kidAt p i = t.kidAt p i := by
  unfold Tree.kidAt; rw [h]

theorem notFull_congr {t t' : Tree K V} {p : Nat} (h : t'.look p = t.look p) (ho : t'.order = t.order) :
    notFull t p → notFull t' p := by
  rintro ⟨sh, h1, h2⟩
  exact ⟨sh, by rw [h, h1], by rw [ho]; exact h2⟩

theorem isSmall_congr {t t' : Tree K V} {p : Nat} (h : t'.look p = t.look p) (ho : t'.order = t.order) :
    isSmall t p → isSmall t' p := by
  rintro ⟨sh, h1, h2⟩
  exact ⟨sh, by rw [h, h1], by rw [ho]; exact h2⟩

theorem FrameOk_congr {t t' : Tree K V} {fr : Frame} (h : t'.look fr.node = t.look fr.node) :
    FrameOk t fr → FrameOk t' fr := by
  unfold FrameOk
  rw [kidAt_congr h]
  cases fr.left with
  | none => exact id
  | some l => simp only; rw [kidAt_congr h]; exact id

theorem FramesOk_top {t : Tree K V} {root : Nat} {frames : List Frame} {top : Nat}
    (h : FramesOk t root frames top) : top = root ∨ Lk.node top ∈ framesHeld frames := by
  cases frames with
  | nil => exact Or.inl h
  | cons fr rest =>
    right
    obtain ⟨h1, _, _⟩ := h
    simp only [framesHeld, List.mem_append, List.mem_singleton]
    exact Or.inr (Or.inr (by rw [h1]))

theorem look_top {t t' : Tree K V} {root : Nat} {frames : List Frame} {top : Nat}
    (hr : t'.look root = t.look root) (hl : ∀ id, Lk.node id ∈ framesHeld frames → t'.look id = t.look id)
    (h : FramesOk t root frames top) : t'.look top = t.look top := by
  rcases FramesOk_top h with e | e
  · rw [e]; exact hr
  · exact hl _ e

theorem FramesOk_congr {t t' : Tree K V} {root : Nat} :
    ∀ (frames : List Frame) (top : Nat),
      (t'.look root = t.look root) →
      (∀ id, Lk.node id ∈ framesHeld frames → t'.look id = t.look id) →
      FramesOk t root frames top → FramesOk t' root frames top := by
  intro frames
  induction frames with
  | nil => intro top _ _ h; exact h
  | cons fr rest ih =>
    intro top hr hl h
    obtain ⟨h1, h2, h3⟩ := h
    have hl' : ∀ id, Lk.node id ∈ framesHeld rest → t'.look id = t.look id :=
      fun id hid => hl id (List.mem_append_left _ hid)
    exact ⟨h1, FrameOk_congr (look_top hr hl' h3) h2, ih fr.node hr hl' h3⟩

theorem KontOk_congr {t t' : Tree K V} (k : Kont K V) (cursor : Option (Option Nat × Int))
    (hl : ∀ id, Lk.node id ∈ kontHeld k ++ cursorLocks cursor → t'.look id = t.look id)
    (hx : ∀ id ∈ kontExtra t k, t'.look id = t.look id)
    (hr : Lk.tree ∈ kontHeld k → t'.rootId = t.rootId)
    (ho : t'.order = t.order) (hpre : KontPre cursor k)
    (hk : KontOk t k) : KontOk t' k ∧ kontExtra t' k = kontExtra t k := by
  have hh : ∀ id, Lk.node id ∈ kontHeld k → t'.look id = t.look id :=
    fun id h => hl id (List.mem_append_left _ h)
  -- each conjunct of `KontOk t k` reads the fields of one node, and that node is held or extra
  cases k with
  | roTree sc key => exact ⟨trivial, rfl⟩
  | upTree key f y => exact ⟨trivial, rfl⟩
  | delTree key => exact ⟨trivial, rfl⟩
  | paused => exact ⟨trivial, rfl⟩
  | roNode sc key hold want =>
    refine ⟨?_, rfl⟩
    cases hold with
    | tree => exact (show want = t.rootId from hk).trans (hr (List.mem_cons_self ..)).symm
    | node p =>
      obtain ⟨i, hi⟩ : ∃ i, t.kidAt p i = some want := hk
      exact ⟨i, (kidAt_congr (hh p (List.mem_cons_self ..)) i).trans hi⟩
  | upRoot key f y r => exact ⟨(show r = t.rootId from hk).trans (hr (List.mem_cons_self ..)).symm, rfl⟩
  | delRoot key r => exact ⟨(show r = t.rootId from hk).trans (hr (List.mem_cons_self ..)).symm, rfl⟩
  | upRootSib key f y root sib =>
    have hroot := hr (List.mem_cons_self ..)
    obtain ⟨⟨sh, h1, h2⟩, h3, h4⟩ := hk
    have e1 : t'.look t.rootId = t.look t.rootId := hx _ (List.mem_cons_self ..)
    have e2 := hx sib (List.mem_cons_of_mem _ (List.mem_cons_self ..))
    have e3 := hh root (List.mem_cons_of_mem _ (List.mem_cons_self ..))
    refine ⟨⟨⟨sh, ?_, h2⟩, notFull_congr e2 ho h3, fun sh' hs' => h4 sh' (e3.symm.trans hs')⟩, ?_⟩
    · rw [hroot]; exact e1.trans h1
    · show [t'.rootId, sib] = [t.rootId, sib]
      rw [hroot]
  | upChild key f y parent index child =>
    have e := hh parent (List.mem_cons_self ..)
    exact ⟨⟨(kidAt_congr e _).trans hk.1, notFull_congr e ho hk.2⟩, rfl⟩
  | upSib key f y parent child sib =>
    obtain ⟨⟨i, h1, h2⟩, h3, h4⟩ := hk
    have e1 := hh parent (List.mem_cons_self ..)
    have e3 := hh child (List.mem_cons_of_mem _ (List.mem_cons_self ..))
    exact ⟨⟨⟨i, (kidAt_congr e1 _).trans h1, (kidAt_congr e1 _).trans h2⟩,
      notFull_congr (hx sib (List.mem_cons_self ..)) ho h3, fun sh' hs' => h4 sh' (e3.symm.trans hs')⟩, rfl⟩
  | upCallback key f leaf arg =>
    have e := hh leaf (List.mem_cons_self ..)
    obtain ⟨⟨sh, h1, h2⟩, h3⟩ := hk
    exact ⟨⟨⟨sh, e.trans h1, h2⟩, notFull_congr e ho h3⟩, rfl⟩
  | delLeft key frames node index left root =>
    have hroot := hr (List.mem_cons_self ..)
    obtain ⟨h1, h2, h3, h4, c, h5⟩ := hk
    have er := hh root (List.mem_cons_of_mem _ (List.mem_cons_self ..))
    have ef : ∀ id, Lk.node id ∈ framesHeld frames → t'.look id = t.look id :=
      fun id hid => hh id (List.mem_cons_of_mem _ (List.mem_cons_of_mem _ hid))
    have en := look_top er ef h2
    exact ⟨⟨h1.trans hroot.symm, FramesOk_congr frames node er ef h2, h3, (kidAt_congr en _).trans h4, c,
      (kidAt_congr en _).trans h5⟩, rfl⟩
  | delChild key frames node index left child root =>
    have hroot := hr (List.mem_cons_self ..)
    obtain ⟨h1, h2, h3⟩ := hk
    have er := hh root (List.mem_cons_of_mem _ (List.mem_cons_self ..))
    have ef : ∀ id, Lk.node id ∈ framesHeld frames → t'.look id = t.look id :=
      fun id hid => hh id (List.mem_cons_of_mem _ (List.mem_cons_of_mem _ (List.mem_append_left _ hid)))
    exact ⟨⟨h1.trans hroot.symm, FramesOk_congr frames node er ef h2,
      FrameOk_congr (fr := ⟨node, index, left, child⟩) (look_top er ef h2) h3⟩, rfl⟩
  | delRight key rest fr right root =>
    have hroot := hr (List.mem_cons_self ..)
    obtain ⟨h1, h2, h3, h4⟩ := hk
    have er := hh root (List.mem_cons_of_mem _ (List.mem_cons_self ..))
    have ef : ∀ id, Lk.node id ∈ framesHeld (fr :: rest) → t'.look id = t.look id :=
      fun id hid => hh id (List.mem_cons_of_mem _ (List.mem_cons_of_mem _ hid))
    have ec : t'.look fr.child = t.look fr.child := ef _ (by simp [framesHeld])
    have en := look_top er (fun id hid => ef id (List.mem_append_left _ hid)) h2.2.2
    exact ⟨⟨h1.trans hroot.symm, FramesOk_congr (fr :: rest) fr.child er ef h2, (kidAt_congr en _).trans h3,
      isSmall_congr ec ho h4⟩, rfl⟩
  | hop cur next =>
    have hc : cursorLocks cursor = [.node cur] := hpre
    obtain ⟨sh, h1, h2, h3⟩ := hk
    exact ⟨⟨sh, (hl cur (by simp [hc])).trans h1, h2, h3⟩, rfl⟩

theorem CursorOk_congr {t t' : Tree K V} (b : Bool) (cursor : Option (Option Nat × Int))
    (hl : ∀ id, Lk.node id ∈ cursorLocks cursor → t'.look id = t.look id)
    (hc : CursorOk t b cursor) : CursorOk t' b cursor := by
  cases cursor with
  | none => trivial
  | some p =>
    obtain ⟨leaf?, i⟩ := p
    cases leaf? with
    | none => trivial
    | some leaf =>
      simp only [CursorOk] at hc ⊢
      obtain ⟨sh, h1, h2⟩ := hc
      exact ⟨sh, by rw [hl leaf (by simp [cursorLocks])]; exact h1, h2⟩

end Gobptree.Conc
