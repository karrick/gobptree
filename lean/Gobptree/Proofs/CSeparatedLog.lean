/-
  Log-level mutual exclusion "at every instant", and the one bookkeeping invariant.

  `Excl log`: at EVERY instant of the log (every suffix), no mutex is in the replayed held sets
  of two different threads; it is `Always ExclAt` written out (`excl_iff`).  `Book c`: the four
  records of who holds what agree — held lists as the park positions prescribe (`ConfigOk`), the
  owner table (`OwnerOk`), the replay of the log (`heldNow t c.log = heldOf c t`), and `Excl c.log`;
  the last two alone are `HeldLogOk c`, what C07 states.  It holds in every reachable configuration
  in which nobody has panicked.  The log of a step is the grant (`grantLog`: the scheduler's
  `dec`, then the `acq` of the mutex the thread was parked at, if any) followed by releases and
  notes of the stepping thread (`step_log`); so a property that survives shrinking of held lists
  need only be checked at the grant (`always_step`): the grant is exclusive by the owner table
  (`Book.grant_excl`), and at the grant of a non-Delete continuation at most three locks are
  held (`bnd_step`, C10).
-/
import Gobptree.Proofs.CHeldTrace
import Gobptree.Proofs.CSStep

namespace Gobptree.Conc
open Gobptree

variable {K V : Type}

theorem heldNow_cons (t : Nat) (e : Ev K V) (log : List (Ev K V)) :
    heldNow t (e :: log) = upd t e (heldNow t log) := rfl

def ExclAt (log : List (Ev K V)) : Prop :=
  ∀ t t' l, l ∈ heldNow t log → l ∈ heldNow t' log → t = t'

def Excl : List (Ev K V) → Prop
  | [] => True
  | e :: s => ExclAt (e :: s) ∧ Excl s

theorem exclAt_nil : ExclAt ([] : List (Ev K V)) := by
  intro t t' l h
  simp [heldNow, replay] at h

theorem Excl.at : ∀ {log : List (Ev K V)}, Excl log → ExclAt log
  | [], _ => exclAt_nil
  | _ :: _, h => h.1

theorem Excl.suffix : ∀ (a : List (Ev K V)) {b : List (Ev K V)}, Excl (a ++ b) → Excl b
  | [], _, h => h
  | _ :: a, _, h => Excl.suffix a h.2

theorem excl_iff : ∀ log : List (Ev K V), Excl log ↔ Always ExclAt log
  | [] => Iff.rfl
  | _ :: s => and_congr Iff.rfl (excl_iff s)

theorem down_exclAt : Down (ExclAt (K := K) (V := V)) :=
  fun _ _ hsub hb t t' l h1 h2 => hb t t' l ((hsub t).subset h1) ((hsub t').subset h2)

def grantLog (c : Config K V) (t : Nat) (th : Thread K V) : List (Ev K V) :=
  match th.park with
  | .want l _ => Ev.acq t l :: Ev.dec t c.enabledSet :: c.log
  | _ => Ev.dec t c.enabledSet :: c.log

theorem grantLog_eq (c : Config K V) (t : Nat) (th : Thread K V) :
    ∃ p, grantLog c t th = p ++ Ev.dec t c.enabledSet :: c.log ∧
      (p = [] ∨ ∃ l k, th.park = .want l k ∧ p = [Ev.acq t l]) := by
  unfold grantLog
  cases hp : th.park with
  | want l k => exact ⟨[Ev.acq t l], rfl, Or.inr ⟨l, k, rfl, rfl⟩⟩
  | start => exact ⟨[], rfl, Or.inl rfl⟩
  | yielded k => exact ⟨[], rfl, Or.inl rfl⟩
  | finished => exact ⟨[], rfl, Or.inl rfl⟩

theorem heldNow_grant_self (c : Config K V) (t : Nat) (th : Thread K V) (h : heldNow t c.log = th.held) :
    heldNow t (grantLog c t th) = stepHeld th := by
  unfold grantLog stepHeld
  cases hp : th.park with
  | want l k =>
    show upd t (Ev.acq t l : Ev K V) (heldNow t c.log) = _
    simp [upd, h]
  | start => exact h
  | yielded k => exact h
  | finished => exact h

theorem heldNow_grant_other (c : Config K V) (t t' : Nat) (th : Thread K V) (hne : t' ≠ t) :
    heldNow t' (grantLog c t th) = heldNow t' c.log := by
  unfold grantLog
  cases hp : th.park with
  | want l k =>
    show upd t' (Ev.acq t l : Ev K V) (heldNow t' c.log) = _
    have : ¬ t = t' := fun e => hne e.symm
    simp [upd, this]
  | start => rfl
  | yielded k => rfl
  | finished => rfl

theorem step_log {c c' : Config K V} {t : Nat} (hs : c.step t = some c') (hok : ConfigOk c) :
    ∃ th th' new, c.threads[t]? = some th ∧ th.enabled c = true ∧ c'.threads = c.threads.set t th' ∧
      c'.log = new ++ grantLog c t th ∧ OnlyRel t new ∧ th'.held = replay t new (stepHeld th) := by
  obtain ⟨th, r, S⟩ := step_stepped hs
  obtain ⟨he, hheld⟩ := runThread_eff c.P t th (stepSt c t th) (hok th S.mem).2.2 rfl
  rw [← S.run] at he hheld
  obtain ⟨new, h1, h2, h3⟩ := he.relM
  refine ⟨th, r.1, new, S.get, S.enabled, S.threads, ?_, h2, ?_⟩
  · rw [S.log, h1]; unfold grantLog; cases th.park <;> rfl
  · rw [hheld, h3, stepHeld_eq_grant th _ t rfl]

def HeldLogOk (c : Config K V) : Prop :=
  (∀ t, heldNow t c.log = heldOf c t) ∧ Excl c.log

structure Book (c : Config K V) : Prop where
  ok      : ConfigOk c
  owner   : OwnerOk c
  replays : ∀ t, heldNow t c.log = heldOf c t
  excl    : Excl c.log

theorem Book.grant {c : Config K V} (hb : Book c) {t : Nat} {th : Thread K V} (ht : c.threads[t]? = some th)
    (t' : Nat) : heldNow t' (grantLog c t th) = if t' = t then stepHeld th else heldOf c t' := by
  split
  · rename_i e; subst e
    exact heldNow_grant_self c t' th (by rw [hb.replays t', heldOf_eq ht])
  · rename_i e
    rw [heldNow_grant_other c t t' th e, hb.replays t']

theorem Book.grant_excl {c : Config K V} (hb : Book c) {t : Nat} {th : Thread K V} (ht : c.threads[t]? = some th)
    (hen : th.enabled c = true) : ExclAt (grantLog c t th) := by
  intro t1 t2 l h1 h2
  rw [hb.grant ht] at h1 h2
  by_cases e1 : t1 = t <;> by_cases e2 : t2 = t <;> simp only [e1, e2, if_true, if_false] at h1 h2
  · rw [e1, e2]
  · obtain ⟨b, hj, hlb⟩ := mem_heldOf h2
    exact absurd h1 (stepHeld_excl hb.owner ht hj e2 hen hlb)
  · obtain ⟨b, hj, hlb⟩ := mem_heldOf h1
    exact absurd h2 (stepHeld_excl hb.owner ht hj e1 hen hlb)
  · obtain ⟨a, hi, ha⟩ := mem_heldOf h1
    obtain ⟨b, hj, hb'⟩ := mem_heldOf h2
    exact held_excl hb.owner hi hj ha hb'

theorem always_step {Q : List (Ev K V) → Prop} (hQ : Down Q) {c c' : Config K V} {t : Nat}
    (hs : c.step t = some c') (hok : ConfigOk c) (hall : Always Q c.log)
    (hg : ∀ th, c.threads[t]? = some th → th.enabled c = true → Q (grantLog c t th)) : Always Q c'.log := by
  obtain ⟨th, _, new, ht, hen, _, hlog, hor, _⟩ := step_log hs hok
  have hq := hg th ht hen
  rw [hlog]
  refine always_append hQ new _ hor hq ?_
  -- the instant of the decision shows what the grant shows, less the mutex granted
  have hdec : Always Q (Ev.dec t c.enabledSet :: c.log) := by
    refine ⟨hQ _ _ (fun t' => ?_) hq, hall⟩
    unfold grantLog
    cases th.park with
    | want l k =>
      show (heldNow t' c.log).Sublist (upd t' (Ev.acq t l : Ev K V) (heldNow t' c.log))
      simp only [upd]
      split
      · exact List.sublist_append_left _ _
      · exact .refl _
    | _ => exact .refl _
  unfold grantLog at hq ⊢
  cases hp : th.park with
  | want l k => rw [hp] at hq; exact ⟨hq, hdec⟩
  | _ => exact hdec

theorem Book.heldLogOk {c : Config K V} (hb : Book c) : HeldLogOk c := ⟨hb.replays, hb.excl⟩

theorem Book.heldLogOk_step {c c' : Config K V} {t0 : Nat} (hb : Book c) (hs : c.step t0 = some c') : HeldLogOk c' := by
  refine ⟨?_, (excl_iff _).2 (always_step down_exclAt hs hb.ok ((excl_iff _).1 hb.excl) fun th ht hen => hb.grant_excl ht hen)⟩
  intro t'
  obtain ⟨th, th', new, ht, _, hthr, hlog, hor, hheld⟩ := step_log hs hb.ok
  rw [hlog, heldNow_append, hb.grant ht]
  split
  · rename_i e; subst e
    rw [heldOf_set_same c c' t' th th' ht hthr, hheld]
  · rename_i e
    rw [(replay_rel hor t' _).2 e, heldOf_set_other c c' t0 t' th' e hthr]

theorem heldlogok_step {c c' : Config K V} {t0 : Nat} (hs : c.step t0 = some c') (hok : ConfigOk c)
    (ho : OwnerOk c) (hinv : HeldLogOk c) : HeldLogOk c' :=
  Book.heldLogOk_step ⟨hok, ho, hinv.1, hinv.2⟩ hs

theorem book_step {c c' : Config K V} {t : Nat} (hs : c.step t = some c') (hd : c'.dead = false) (hb : Book c) :
    Book c' :=
  have h := hb.heldLogOk_step hs
  ⟨step_ok c c' t hs hb.ok hd, owner_step c c' t hs hb.owner hb.ok, h.1, h.2⟩

theorem init_book (P : Params K) (tree : Tree K V) (progs : List (List (COp K V))) :
    Book (Config.init P tree progs) :=
  ⟨init_ok P tree progs, init_owner P tree progs, fun t => (heldOf_init P tree progs t).symm, True.intro⟩

theorem reachable_book {c0 c : Config K V} (h0 : Book c0) (hr : Reachable c0 c) (hd : c.dead = false) : Book c :=
  hr.invariant (fun c => c.dead = false → Book c) (fun _ => h0)
    (fun c1 c2 t _ ih hs hd => book_step hs hd (ih (step_dead c1 c2 t hs hd))) hd

theorem reachable_heldlogok (P : Params K) (tree : Tree K V) (progs : List (List (COp K V)))
    (c : Config K V) (hr : Reachable (Config.init P tree progs) c) (hd : c.dead = false) : HeldLogOk c :=
  (reachable_book (init_book P tree progs) hr hd).heldLogOk

theorem bnd_step {c c' : Config K V} {t0 : Nat} (hs : c.step t0 = some c') (hb : Book c) (hn : NoDel c)
    (hall : ∀ t, Bnd t c.log) : ∀ t, Bnd t c'.log := by
  intro t
  refine always_step (down_len t 3) hs hb.ok (hall t) fun th ht _ => ?_
  show (heldNow t (grantLog c t0 th)).length ≤ 3
  have hnow : (heldNow t c.log).length ≤ 3 := always_now (Nat.zero_le 3) (hall t)
  by_cases e : t = t0
  · subst e
    have hrep : heldNow t c.log = th.held := by rw [hb.replays t, heldOf_eq ht]
    rw [heldNow_grant_self c t th hrep]
    unfold stepHeld
    cases hp : th.park with
    | want l k =>
      -- the one acquisition of a step is where the bound of three is needed
      have hmem : th ∈ c.threads := List.mem_of_getElem? ht
      obtain ⟨hperm, hpre, _⟩ := hb.ok th hmem
      have hnd := (hn th hmem).1
      rw [hp] at hperm hpre hnd
      rw [List.length_append, hperm.length_eq]
      exact Nat.succ_le_succ (held_le_two th.cursor k hnd hpre)
    | _ => exact hrep ▸ hnow
  · rw [heldNow_grant_other c t0 t th e]; exact hnow

theorem every_instant (P : Params K) (tree : Tree K V) (progs : List (List (COp K V)))
    (hnd : ∀ p ∈ progs, ∀ op ∈ p, match op with | .del _ => False | _ => True)
    (c : Config K V) (hr : Reachable (Config.init P tree progs) c) (hd : c.dead = false) :
    ∀ t, ∀ h ∈ heldTrace t c.log.reverse [], h.length ≤ 3 := by
  have key : c.dead = false → Book c ∧ NoDel c ∧ ∀ t, Bnd t c.log :=
    hr.invariant (fun c => c.dead = false → Book c ∧ NoDel c ∧ ∀ t, Bnd t c.log)
      (fun _ => ⟨init_book P tree progs, init_nodel P tree progs hnd, fun _ => True.intro⟩)
      (fun c1 c2 t0 _ ih hs hd =>
        have ⟨hb, hn, hall⟩ := ih (step_dead c1 c2 t0 hs hd)
        ⟨book_step hs hd hb, nodel_step c1 c2 t0 hs hn, bnd_step hs hb hn hall⟩)
  exact fun t => trace_bound t c.log ((key hd).2.2 t)

theorem C10_every_instant : C10_every_instant_statement := by
  intro P tree progs c hnd hr hd
  refine every_instant P tree progs ?_ c hr hd
  intro p hp op hop
  have := hnd p hp op hop
  cases op <;> first | exact True.intro | exact this

end Gobptree.Conc
