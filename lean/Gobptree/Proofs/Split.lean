/-
  What the shape invariant reads of a node seen as `(id, keys, entries, next)` (`WF_view`,
  `epairs`), and with it what `maybeSplit` does to a well-formed, linked node: a chain cut in
  the middle is two chains (`Kids_halves`).
-/
import Gobptree.Proofs.Linked
import Gobptree.Proofs.NodeView
import Gobptree.Proofs.WFLemmas

namespace Gobptree

variable {K V : Type} {lt : K → K → Bool}

theorem count_leaf (l : Leaf K V) : Node.count (d := 0) l = l.keys.length := rfl
theorem count_inner {d : Nat} (i : Inner K (Node K V d)) : Node.count (d := d + 1) i = i.runts.length := rfl

theorem WF_count_le {o d m : Nat} {lo hi : Option K} {n : Node K V d} (hw : WF lt o d m lo hi n) :
    Node.count n ≤ o ∧ m ≤ Node.count n := by
  cases d with
  | zero => obtain ⟨_, _, c, e, _⟩ := hw; exact ⟨c, e⟩
  | succ d => obtain ⟨_, b, c, _, _, _⟩ := hw; exact ⟨b, c⟩

theorem nextLo_zip_cons {C : Type} (hi : Option K) (k : K) (c : C) (rest : List (K × C)) :
    nextLo hi ((k, c) :: rest) = some k := rfl

def EWF (lt : K → K → Bool) (o : Nat) : (d : Nat) → Option K → Option K → Ent K V d → Prop
  | 0 => fun _ _ _ => True
  | d + 1 => fun a b (c : Node K V d) => WF lt o d (o / 2) a b c

/-- the clauses of `WF` for both heights; the order and bounds of a leaf's keys are its chain -/
theorem WF_view (h : SWO lt) {o m : Nat} : ∀ {d : Nat} (lo hi : Option K) (n : Node K V d),
    WF lt o d m lo hi n ↔ (Node.keys n).length = (Node.ents n).length ∧ (Node.keys n).length ≤ o ∧
      m ≤ (Node.keys n).length ∧ (d ≠ 0 → 1 ≤ (Node.keys n).length) ∧
      (∀ k, (Node.keys n).head? = some k → leO lt lo k) ∧ Kids lt (EWF lt o d) hi ((Node.keys n).zip (Node.ents n))
  | 0, lo, hi, (l : Leaf K V) =>
    ⟨fun hw => ⟨hw.2.1, hw.2.2.1, hw.2.2.2.1, fun h0 => absurd rfl h0,
      (leaf_chain h hi l.keys l.vals lo hw.2.1).1 ⟨hw.1, hw.2.2.2.2⟩⟩,
     fun hv =>
      have hc := (leaf_chain h hi l.keys l.vals lo hv.1).2 hv.2.2.2.2
      ⟨hc.1, hv.1, hv.2.1, hv.2.2.1, hc.2⟩⟩
  | d + 1, _, _, _ =>
    ⟨fun hw => ⟨hw.1, hw.2.1, hw.2.2.1, fun _ => hw.2.2.2.1, hw.2.2.2.2⟩,
     fun hv => ⟨hv.1, hv.2.1, hv.2.2.1, hv.2.2.2.1 (Nat.succ_ne_zero d), hv.2.2.2.2⟩⟩

def epairs : {d : Nat} → List K → List (Ent K V d) → List (K × V)
  | 0, ks, (vs : List V) => ks.zip vs
  | d + 1, _, (es : List (Node K V d)) => es.flatMap (Node.pairs (d := d))

theorem epairs_append : ∀ {d : Nat} (ks1 ks2 : List K) (es1 es2 : List (Ent K V d)), ks1.length = es1.length →
    epairs (ks1 ++ ks2) (es1 ++ es2) = epairs ks1 es1 ++ epairs ks2 es2
  | 0, _, _, _, _, hl => List.zip_append hl
  | _ + 1, _, _, _, _, _ => List.flatMap_append

theorem pairs_view {d : Nat} (n : Node K V d) : Node.pairs n = epairs (Node.keys n) (Node.ents n) := by
  cases d <;> rfl

theorem WF_smallest (h : SWO lt) {o d m : Nat} {lo hi : Option K} {n : Node K V d}
    (hw : WF lt o d m lo hi n) (hne : 0 < Node.count n) :
    ∃ s, Node.smallest n = .ok s ∧ leO lt lo s ∧ ltO lt s hi ∧ WF lt o d m (some s) hi n := by
  obtain ⟨a, b, c, e, f, g⟩ := (WF_view h lo hi n).1 hw
  rw [Node.count_eq_keys] at hne
  obtain ⟨s, ks, hk⟩ := List.exists_cons_of_length_pos hne
  obtain ⟨y, es, he⟩ := List.exists_cons_of_length_pos (a ▸ hne)
  refine ⟨s, Node.smallest_of_keys n s ks hk, f s (by rw [hk]; rfl), ?_,
    (WF_view h _ _ n).2 ⟨a, b, c, e, fun k hk' => ?_, g⟩⟩
  · exact Kids_keys_lt h hi _ g (s, y) (by rw [hk, he]; exact List.mem_cons_self)
  · rw [hk] at hk'; cases hk'; exact h.irrefl _

theorem linked_halves (fresh : Nat) (after : Option Nat) (ks1 ks2 : List K) {d : Nat} (n : Node K V d)
    (e1 e2 : Ent K V d) (a b : List (Ent K V d)) (he : Node.ents n = e1 :: a ++ e2 :: b) (hL : Linked d after n) :
    Linked d (some (Node.firstId (Node.make fresh ks2 (e2 :: b) (Node.nxt n))))
      (Node.put n ks1 (e1 :: a) (Node.splitNext d fresh)) ∧
    Linked d after (Node.make fresh ks2 (e2 :: b) (Node.nxt n)) ∧
    Node.firstId (Node.put n ks1 (e1 :: a) (Node.splitNext d fresh)) = Node.firstId n := by
  cases d with
  | zero => exact ⟨rfl, hL, rfl⟩
  | succ d =>
    have he' : (n : Inner K (Node K V d)).kids =
        (e1 : Node K V d) :: (a : List (Node K V d)) ++ (e2 : Node K V d) :: (b : List (Node K V d)) := he
    have hL' : LinkedKids (Linked d) (Node.firstId (d := d)) after (n : Inner K (Node K V d)).kids := hL
    rw [he'] at hL'
    obtain ⟨hA, hB⟩ := (LinkedKids_append _ _ after _ _).mp hL'
    exact ⟨hA, hB, (congrArg (fun ks => match ks with | [] => 0 | c :: _ => Node.firstId (d := d) c) he').symm⟩

theorem Kids_halves (h : SWO lt) {C : Type} {R : Option K → Option K → C → Prop} {hi : Option K} {ks : List K}
    {es : List C} {hh : Nat} (hpos : 1 ≤ hh) (hk : ks.length = hh + hh) (he : es.length = hh + hh)
    (g : Kids lt R hi (ks.zip es)) :
    ∃ s0 L1 s L2, ks.take hh = s0 :: L1 ∧ ks.drop hh = s :: L2 ∧
      (ks.take hh).length = hh ∧ (ks.drop hh).length = hh ∧ (es.take hh).length = hh ∧ (es.drop hh).length = hh ∧
      ks.zip es = (ks.take hh).zip (es.take hh) ++ (ks.drop hh).zip (es.drop hh) ∧
      Kids lt R (some s) ((ks.take hh).zip (es.take hh)) ∧ Kids lt R hi ((ks.drop hh).zip (es.drop hh)) ∧
      lt s0 s = true ∧ ltO lt s hi := by
  obtain ⟨hlt, hld, ⟨s0, L1, e1⟩, s, L2, e2⟩ := halves_cons ks hpos hk
  obtain ⟨hltk, hldk, ⟨c1, C1, e1k⟩, c2, C2, e3⟩ := halves_cons es hpos he
  have hz := zip_halves ks es hk he
  have hn : nextLo hi ((ks.drop hh).zip (es.drop hh)) = some s := by rw [e2, e3]; rfl
  rw [hz, Kids_append, hn] at g
  exact ⟨s0, L1, s, L2, e1, e2, hlt, hld, hltk, hldk, hz, g.1, g.2,
    Kids_keys_lt h (some s) _ g.1 (s0, c1) (by rw [e1, e1k]; exact List.mem_cons_self),
    Kids_keys_lt h hi _ g.2 (s, c2) (by rw [e2, e3]; exact List.mem_cons_self)⟩

theorem maybeSplit_ok (h : SWO lt) {o d m : Nat} {lo hi : Option K} {n : Node K V d}
    (ho : 2 ≤ o) (hev : o % 2 = 0) (fresh : Nat) (hw : WF lt o d m lo hi n)
    (after : Option Nat) (hL : Linked d after n) :
    (Node.count n < o ∧ Node.maybeSplit o fresh n = .ok (n, none)) ∨
    (Node.count n = o ∧ ∃ (l r : Node K V d) (s : K),
      Node.maybeSplit o fresh n = .ok (l, some r) ∧ Node.smallest r = .ok s ∧
      WF lt o d (o / 2) lo (some s) l ∧ WF lt o d (o / 2) (some s) hi r ∧
      Node.count l = o / 2 ∧ Node.count r = o / 2 ∧
      Node.pairs n = Node.pairs l ++ Node.pairs r ∧
      ltO lt s hi ∧
      Linked d (some (Node.firstId r)) l ∧ Linked d after r ∧ Node.firstId l = Node.firstId n) := by
  obtain ⟨hlen, hle, -, -, hlo, g⟩ := (WF_view h lo hi n).1 hw
  rw [Node.count_eq_keys]
  rcases maybeSplit_eval hev fresh n hle hlen with hroom | ⟨hfull, hms⟩
  · exact .inl hroom
  have ho2 := (half_add_half hev).symm
  have hpos : 1 ≤ o / 2 := Nat.div_pos ho (Nat.succ_pos 1)
  have hhalf : o / 2 ≤ o := Nat.div_le_self o 2
  have hen := (hlen ▸ hfull).trans ho2
  obtain ⟨s0, L1, s, L2, e1, e2, hlt, hld, hltk, hldk, -, g1, g2, -, hshi⟩ := Kids_halves h hpos (hfull.trans ho2) hen g
  obtain ⟨-, -, ⟨c1, C1, e1k⟩, c2, C2, e3⟩ := halves_cons (Node.ents n) hpos hen
  have hkn : Node.keys n = s0 :: (L1 ++ s :: L2) := by rw [← List.take_append_drop (o / 2) (Node.keys n), e1, e2]; rfl
  obtain ⟨k1, k2, k3⟩ := linked_halves fresh after ((Node.keys n).take (o / 2)) ((Node.keys n).drop (o / 2)) n c1 c2 C1 C2
    (by rw [← e1k, ← e3, List.take_append_drop]) hL
  rw [← e1k] at k1 k3
  rw [← e3] at k1 k2
  have wl := WF_view h (o := o) (m := o / 2) lo (some s)
    (Node.put n ((Node.keys n).take (o / 2)) ((Node.ents n).take (o / 2)) (Node.splitNext d fresh))
  have wr := WF_view h (o := o) (m := o / 2) (some s) hi
    (Node.make fresh ((Node.keys n).drop (o / 2)) ((Node.ents n).drop (o / 2)) (Node.nxt n))
  rw [Node.keys_put, Node.ents_put, hlt, hltk] at wl
  rw [Node.keys_make, Node.ents_make, hld, hldk] at wr
  refine .inr ⟨hfull, _, _, s, hms, Node.smallest_of_keys _ s L2 ((Node.keys_make ..).trans e2),
    wl.2 ⟨rfl, hhalf, Nat.le_refl _, fun _ => hpos, fun k hk => ?_, g1⟩,
    wr.2 ⟨rfl, hhalf, Nat.le_refl _, fun _ => hpos, fun k hk => ?_, g2⟩, ?_, ?_, ?_,
    hshi, k1, k2, k3⟩
  · rw [e1] at hk; cases hk; exact hlo s0 (by rw [hkn]; rfl)
  · rw [e2] at hk; cases hk; exact h.irrefl _
  · rw [Node.count_eq_keys, Node.keys_put]; exact hlt
  · rw [Node.count_eq_keys, Node.keys_make]; exact hld
  · rw [pairs_view, pairs_view, pairs_view, Node.keys_put, Node.ents_put, Node.keys_make, Node.ents_make,
      ← epairs_append _ _ _ _ (hlt.trans hltk.symm), List.take_append_drop, List.take_append_drop]

end Gobptree
