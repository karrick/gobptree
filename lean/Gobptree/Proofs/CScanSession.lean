/-
  WHOLE-SCAN GUARANTEE: weak consistency of a scan under concurrent writers.

  Setting.  A run is the list of the configurations visited, newest first (`RunFrom init (c :: hist)`),
  under ANY schedule, for any family of disciplined programs.  A SESSION is thread `j` together with
  the index `a` of a `NewScanner(start)` in its program; a call `y` belongs to it (`InSess prog a y`)
  if `a < y` and every call of the thread after `a` up to `y` is `Scan`, `Pair` or a client pause
  (the cursor is not closed, no other one is opened).  Responses are read off the log:
  `Ev.note j (.ret y r) ∈ c.log`.  The INTERVAL of the session consists of the configurations `d` of
  the run with `nsReturned j a d` (the response of `NewScanner` is in `d.log`).

  One step of the scheduler may run several calls of the thread; the ghost invariant `ThInv` of
  `CScanSessionDefs` is carried through every single call and every step (`run_thInv`), and
  (S1)–(S4) are read off its log part.  In (S3) client pauses — the points where other threads get
  to run between `Scan` and `Pair` — may sit anywhere.
-/
import Gobptree.Proofs.CScanSessionStep

namespace Gobptree.Conc
open Gobptree

variable {K V : Type}

def nsReturned (j a : Nat) (d : Config K V) : Prop := Ev.note j (.ret a .ok) ∈ d.log

def AlwaysPresent (j a : Nat) (run : List (Config K V)) (k : K) : Prop :=
  ∀ d ∈ run, nsReturned j a d → ∃ v, (k, v) ∈ d.tree.abs

def SoundAt (lt : K → K → Bool) (j a : Nat) (run : List (Config K V)) (y : Nat) (k : K) (v : V) : Prop :=
  ∃ d ∈ run, nsReturned j a d ∧ Ev.note j (.ret y (.pair k v)) ∈ d.log ∧ (k, v) ∈ d.tree.abs ∧
    Spec.lookup lt d.tree.abs k = some v

def runCtx (lt : K → K → Bool) (j a e : Nat) (start : K) (prog : List (COp K V)) (run : List (Config K V)) :
    SCtx K V :=
  { lt := lt, j := j, a := a, e := e, start := start, prog := prog,
    Sd := SoundAt lt j a run,
    KS := fun k => lt k start = false ∧ AlwaysPresent j a run k }

theorem SoundAt.cons {lt : K → K → Bool} {j a : Nat} {run : List (Config K V)} {y : Nat} {k : K} {v : V}
    (h : SoundAt lt j a run y k v) (c : Config K V) : SoundAt lt j a (c :: run) y k v := by
  obtain ⟨d, hd, h1⟩ := h
  exact ⟨d, List.mem_cons_of_mem _ hd, h1⟩

theorem AlwaysPresent.tail {j a : Nat} {run : List (Config K V)} {c : Config K V} {k : K}
    (h : AlwaysPresent j a (c :: run) k) : AlwaysPresent j a run k :=
  fun d hd => h d (List.mem_cons_of_mem _ hd)

section Full
variable (lt : K → K → Bool) (P : Params K) (tree : Tree K V) (progs : List (List (COp K V)))
  (hkp : KParams lt P) (ht : TreeOk none tree) (hord : OrdTree lt tree) (hsep : SepTree lt tree)
  (ho : tree.order = P.order) (hp : PadOk P) (hd : Disciplined progs)
  (hdel : 4 ≤ tree.order ∨ NoDelete progs)
include hkp ht hord hsep ho hp hd hdel

theorem run_thInv (j a e : Nat) (start : K) (prog : List (COp K V)) (hprog : progs[j]? = some prog)
    (hns : prog[a]? = some (.ns start)) {run : List (Config K V)}
    (hrun : RunFrom (Config.init P tree progs) run) :
    ∀ c hist, run = c :: hist →
      ∃ th, c.threads[j]? = some th ∧ ThInv (runCtx lt j a e start prog run) c.tree th (rets j c.log) := by
  have hdp : disciplined .N prog = true := hd prog (List.mem_of_getElem? hprog)
  have hnfp : ∀ y, a < y → (∀ x, a < x → x < y → prog[x]? = some .pause) → prog[y]? ≠ some .pair :=
    fun y hay hpz => disc_no_fresh_pair prog .N a y start hdp hns hay hpz
  induction hrun with
  | init =>
    intro c hist e0
    cases e0
    refine ⟨{ prog := prog, pc := 0, park := .start, held := [], cursor := none, exhausted := false }, ?_, rfl,
      LogOk.nil _, ?_⟩
    · simp [Config.init, hprog]
    · intro i r hm
      cases hm
  | @step c c' hist t hrun' hstep ih =>
    intro c0 hist0 e0
    cases e0
    obtain ⟨th, hth, hinvj⟩ := ih c hist rfl
    have hreach : Reachable (Config.init P tree progs) c := hrun'.reachable
    have hinv : KFInv lt c := reachable_kfinv' lt P tree progs hkp ht hord hsep ho hp hd hdel c hreach
    have h' : KFInv lt c' := step_kfinv kblocks_ok lt c c' t hstep hinv
    by_cases htj : t = j
    · subst htj
      -- the parameters during the step: what is known at its end
      have ih' := hinvj.mono
        (fun y k v => SoundAt lt t a (c :: hist) y k v ∨ (k, v) ∈ c'.tree.abs)
        (fun k => (lt k start = false ∧ AlwaysPresent t a (c' :: c :: hist) k) ∧ nsReturned t a c')
        (fun _ _ _ _ _ h => Or.inl h)
        (fun _ k hk => ⟨hk.1.1, hk.1.2.tail⟩)
      obtain ⟨th', hth', hres⟩ := step_own_thInv
        (X := { runCtx lt t a e start prog (c :: hist) with
                Sd := fun y k v => SoundAt lt t a (c :: hist) y k v ∨ (k, v) ∈ c'.tree.abs,
                KS := fun k => (lt k start = false ∧ AlwaysPresent t a (c' :: c :: hist) k) ∧ nsReturned t a c' })
        c c' hstep hinv hns hnfp
        (fun k hk => ⟨hk.1.1, hk.1.2 c' List.mem_cons_self hk.2⟩)
        (fun _ _ _ h => Or.inr h) hth ih'
      refine ⟨th', hth', ?_⟩
      exact hres.mono (SoundAt lt t a (c' :: c :: hist))
        (fun k => lt k start = false ∧ AlwaysPresent t a (c' :: c :: hist) k)
        (by
          intro y k v hy hnsr hsd
          rcases hsd with hsd | hmem
          · exact hsd.cons c'
          · exact ⟨c', List.mem_cons_self, mem_rets.1 hnsr, mem_rets.1 hy, hmem,
              Tree.lookup_of_mem h'.kp.swo h'.cinv.s.tree h'.kinv.ord hmem⟩)
        (fun hnsr k hk => ⟨hk, mem_rets.1 hnsr⟩)
    · obtain ⟨hth', hres⟩ := step_other_thInv (X := runCtx lt j a e start prog (c :: hist)) c c' t
        (fun h => htj h.symm) hstep hinv hth hinvj
      refine ⟨th, hth', ?_⟩
      exact hres.mono (SoundAt lt j a (c' :: c :: hist))
        (fun k => lt k start = false ∧ AlwaysPresent j a (c' :: c :: hist) k)
        (fun _ _ _ _ _ h => h.cons c')
        (fun _ k hk => ⟨hk.1, hk.2.tail⟩)

theorem run_logOk (j a e : Nat) (start : K) (prog : List (COp K V)) (hprog : progs[j]? = some prog)
    (hns : prog[a]? = some (.ns start)) {c : Config K V} {hist : List (Config K V)}
    (hrun : RunFrom (Config.init P tree progs) (c :: hist)) :
    LogOk (runCtx lt j a e start prog (c :: hist)) (rets j c.log) := by
  obtain ⟨_, _, h⟩ := run_thInv lt P tree progs hkp ht hord hsep ho hp hd hdel j a e start prog hprog hns hrun
    c hist rfl
  exact h.2.1

/-- **(S1) soundness.**  A pair returned by a `Pair` of the session was an entry of the map, with
    that value, in a configuration of the session's interval that already shows the response. -/
theorem scan_session_sound (j a : Nat) (start : K) (prog : List (COp K V)) (hprog : progs[j]? = some prog)
    (hns : prog[a]? = some (.ns start)) {c : Config K V} {hist : List (Config K V)}
    (hrun : RunFrom (Config.init P tree progs) (c :: hist))
    {y : Nat} {k : K} {v : V} (hy : InSess prog a y) (hret : Ev.note j (.ret y (.pair k v)) ∈ c.log) :
    ∃ d ∈ c :: hist, nsReturned j a d ∧ Ev.note j (.ret y (.pair k v)) ∈ d.log ∧ (k, v) ∈ d.tree.abs ∧
      Spec.lookup lt d.tree.abs k = some v :=
  ((run_logOk lt P tree progs hkp ht hord hsep ho hp hd hdel j a 0 start prog hprog hns hrun).s1 y k v
    (mem_rets.2 hret) hy).2

/-- **(S2) every returned key is `≥ start`.** -/
theorem scan_session_ge_start (j a : Nat) (start : K) (prog : List (COp K V)) (hprog : progs[j]? = some prog)
    (hns : prog[a]? = some (.ns start)) {c : Config K V} {hist : List (Config K V)}
    (hrun : RunFrom (Config.init P tree progs) (c :: hist))
    {y : Nat} {k : K} {v : V} (hy : InSess prog a y) (hret : Ev.note j (.ret y (.pair k v)) ∈ c.log) :
    lt k start = false :=
  (run_logOk lt P tree progs hkp ht hord hsep ho hp hd hdel j a 0 start prog hprog hns hrun).s2a y k v
    (mem_rets.2 hret) hy

/-- **(S2) successive `Pair`s never descend.** -/
theorem scan_session_monotone (j a : Nat) (start : K) (prog : List (COp K V)) (hprog : progs[j]? = some prog)
    (hns : prog[a]? = some (.ns start)) {c : Config K V} {hist : List (Config K V)}
    (hrun : RunFrom (Config.init P tree progs) (c :: hist))
    {x y : Nat} {k k' : K} {v v' : V} (hax : a < x) (hxy : x < y) (hy : InSess prog a y)
    (hx : Ev.note j (.ret x (.pair k v)) ∈ c.log) (hret : Ev.note j (.ret y (.pair k' v')) ∈ c.log) :
    lt k' k = false :=
  (run_logOk lt P tree progs hkp ht hord hsep ho hp hd hdel j a 0 start prog hprog hns hrun).s2b x y k v k' v'
    (mem_rets.2 hx) (mem_rets.2 hret) hax hxy hy

/-- **(S2) across a `Scan` that returned `true` the keys strictly ascend.** -/
theorem scan_session_strict (j a : Nat) (start : K) (prog : List (COp K V)) (hprog : progs[j]? = some prog)
    (hns : prog[a]? = some (.ns start)) {c : Config K V} {hist : List (Config K V)}
    (hrun : RunFrom (Config.init P tree progs) (c :: hist))
    {x z y : Nat} {k k' : K} {v v' : V} (hax : a < x) (hxz : x < z) (hzy : z < y) (hy : InSess prog a y)
    (hx : Ev.note j (.ret x (.pair k v)) ∈ c.log) (hz : Ev.note j (.ret z (.bool true)) ∈ c.log)
    (hret : Ev.note j (.ret y (.pair k' v')) ∈ c.log) :
    lt k k' = true :=
  (run_logOk lt P tree progs hkp ht hord hsep ho hp hd hdel j a 0 start prog hprog hns hrun).s2c x z y k v k' v'
    (mem_rets.2 hx) (mem_rets.2 hz) (mem_rets.2 hret) hax hxz hzy hy

/-- **(S3) completeness.**  The `Scan` at index `e` of the session has returned `false`; between any two
    `Scan`s of the session up to `e` there is a `Pair`.  Then every key `≥ start` that was in the
    map in every configuration from the return of `NewScanner` on has been returned by a `Pair` of the
    session before `e`. -/
theorem scan_session_complete (j a e : Nat) (start : K) (prog : List (COp K V)) (hprog : progs[j]? = some prog)
    (hns : prog[a]? = some (.ns start)) {c : Config K V} {hist : List (Config K V)}
    (hrun : RunFrom (Config.init P tree progs) (c :: hist))
    (hae : a < e) (hseg : CurOps prog a e) (hscan : prog[e]? = some .scan)
    (hshape : ∀ i m, a < i → i < m → m ≤ e → prog[i]? = some .scan → prog[m]? = some .scan →
      ∃ x, i < x ∧ x < m ∧ prog[x]? = some .pair)
    (hfalse : Ev.note j (.ret e (.bool false)) ∈ c.log)
    (k : K) (hk : lt k start = false)
    (hpres : ∀ d ∈ c :: hist, nsReturned j a d → ∃ v, (k, v) ∈ d.tree.abs) :
    ∃ x v, a < x ∧ x < e ∧ Ev.note j (.ret x (.pair k v)) ∈ c.log := by
  obtain ⟨x, v, h1, h2, h3⟩ :=
    (run_logOk lt P tree progs hkp ht hord hsep ho hp hd hdel j a e start prog hprog hns hrun).s3
      ⟨hae, hseg, hscan, hshape⟩ (mem_rets.2 hfalse) k ⟨hk, hpres⟩
  exact ⟨x, v, h1, h2, mem_rets.1 h3⟩

/-- **(S3), with the interval ending where `Scan` returned `false`**: `c` is any configuration of a
    longer run whose log shows the response `false` (e.g. the first one); presence is only required
    up to `c`, and the pairs have been returned by then. -/
theorem scan_session_complete_upto (j a e : Nat) (start : K) (prog : List (COp K V)) (hprog : progs[j]? = some prog)
    (hns : prog[a]? = some (.ns start)) (later : List (Config K V)) {c : Config K V} {hist : List (Config K V)}
    (hrun : RunFrom (Config.init P tree progs) (later ++ c :: hist))
    (hae : a < e) (hseg : CurOps prog a e) (hscan : prog[e]? = some .scan)
    (hshape : ∀ i m, a < i → i < m → m ≤ e → prog[i]? = some .scan → prog[m]? = some .scan →
      ∃ x, i < x ∧ x < m ∧ prog[x]? = some .pair)
    (hfalse : Ev.note j (.ret e (.bool false)) ∈ c.log)
    (k : K) (hk : lt k start = false)
    (hpres : ∀ d ∈ c :: hist, nsReturned j a d → ∃ v, (k, v) ∈ d.tree.abs) :
    ∃ x v, a < x ∧ x < e ∧ Ev.note j (.ret x (.pair k v)) ∈ c.log :=
  scan_session_complete lt P tree progs hkp ht hord hsep ho hp hd hdel j a e start prog hprog hns
    (RunFrom.tail later hrun) hae hseg hscan hshape hfalse k hk hpres

/-- **(S3), the session hypothesis discharged by the client discipline**: it suffices that the cursor
    is not closed before the exhausting `Scan`. -/
theorem scan_session_complete_not_closed (j a e : Nat) (start : K) (prog : List (COp K V))
    (hprog : progs[j]? = some prog)
    (hns : prog[a]? = some (.ns start)) {c : Config K V} {hist : List (Config K V)}
    (hrun : RunFrom (Config.init P tree progs) (c :: hist))
    (hae : a < e) (hnc : ∀ x, a < x → x < e → prog[x]? ≠ some .close) (hscan : prog[e]? = some .scan)
    (hshape : ∀ i m, a < i → i < m → m ≤ e → prog[i]? = some .scan → prog[m]? = some .scan →
      ∃ x, i < x ∧ x < m ∧ prog[x]? = some .pair)
    (hfalse : Ev.note j (.ret e (.bool false)) ∈ c.log)
    (k : K) (hk : lt k start = false)
    (hpres : ∀ d ∈ c :: hist, nsReturned j a d → ∃ v, (k, v) ∈ d.tree.abs) :
    ∃ x v, a < x ∧ x < e ∧ Ev.note j (.ret x (.pair k v)) ∈ c.log := by
  have hdp : disciplined .N prog = true := hd prog (List.mem_of_getElem? hprog)
  have hel : e ≤ prog.length := Nat.le_of_lt (List.getElem?_eq_some_iff.1 hscan).1
  exact scan_session_complete lt P tree progs hkp ht hord hsep ho hp hd hdel j a e start prog hprog hns hrun hae
    (curOps_of_not_closed prog .N a e start hdp hns hel hnc) hscan hshape hfalse k hk hpres

/-- **(S4) no phantom.**  A key that is in the map in no configuration of the session's interval is
    never returned by a `Pair` of the session. -/
theorem scan_session_no_phantom (j a : Nat) (start : K) (prog : List (COp K V)) (hprog : progs[j]? = some prog)
    (hns : prog[a]? = some (.ns start)) {c : Config K V} {hist : List (Config K V)}
    (hrun : RunFrom (Config.init P tree progs) (c :: hist)) (k : K)
    (habs : ∀ d ∈ c :: hist, nsReturned j a d → ∀ v, (k, v) ∉ d.tree.abs)
    {y : Nat} {v : V} (hy : InSess prog a y) : Ev.note j (.ret y (.pair k v)) ∉ c.log := by
  intro hret
  obtain ⟨d, hd', hnsr, _, hmem, _⟩ :=
    scan_session_sound lt P tree progs hkp ht hord hsep ho hp hd hdel j a start prog hprog hns hrun hy hret
  exact habs d hd' hnsr v hmem

end Full

end Gobptree.Conc

#print axioms Gobptree.Conc.run_thInv
#print axioms Gobptree.Conc.scan_session_sound
#print axioms Gobptree.Conc.scan_session_ge_start
#print axioms Gobptree.Conc.scan_session_monotone
#print axioms Gobptree.Conc.scan_session_strict
#print axioms Gobptree.Conc.scan_session_complete
#print axioms Gobptree.Conc.scan_session_complete_upto
#print axioms Gobptree.Conc.scan_session_complete_not_closed
#print axioms Gobptree.Conc.scan_session_no_phantom
