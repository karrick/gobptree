/-
  The inner node as context of the child a key is routed to: `Routed` is the node
  decomposed at `searchLE key runts` (`route_facts`), with everything stored before
  the child below the key and everything after above it.
-/
import Gobptree.Proofs.Slice
import Gobptree.Proofs.Search
import Gobptree.Proofs.SpecLemmas
import Gobptree.Proofs.WFLemmas2

namespace Gobptree

variable {K V : Type} {lt : K → K → Bool}

/-- lower bound after inserting `key`: `min lo key` -/
def lowered (lt : K → K → Bool) (lo : Option K) (key : K) : Option K :=
  match lo with
  | none => none
  | some l => if lt key l then some key else some l

theorem lowered_of_ge (lo : K) (key : K) (hk : lt key lo = false) : lowered lt (some lo) key = some lo := by
  simp [lowered, hk]

theorem lowered_of_lt (lo : K) (key : K) (hk : lt key lo = true) : lowered lt (some lo) key = some key := by
  simp [lowered, hk]

theorem lowered_le_key (h : SWO lt) (lo : Option K) (key : K) : leO lt (lowered lt lo key) key := by
  cases lo with
  | none => trivial
  | some l =>
    cases hk : lt key l with
    | true => rw [lowered_of_lt l key hk]; exact h.irrefl key
    | false => rw [lowered_of_ge l key hk]; exact hk

theorem lowered_loLe (h : SWO lt) (lo : Option K) (key : K) : loLe lt (lowered lt lo key) lo := by
  cases lo with
  | none => trivial
  | some l =>
    cases hk : lt key l with
    | true => rw [lowered_of_lt l key hk]; exact h.asymm hk
    | false => rw [lowered_of_ge l key hk]; exact h.irrefl l

theorem allLt_pairsE (h : SWO lt) {o d : Nat} (k key : K) (es : List (K × Node K V d))
    (hk : Kids lt (RWF lt o d) (some k) es) (hkk : lt key k = false) :
    AllLt lt (pairsE es) key := fun p hp =>
  h.lt_of_lt_of_le (Kids_pairs_bounds h (some k) es (fun _ _ _ _ hc => WF_pairs_bounds h hc) hk p hp).1 hkk

theorem allGt_pairsE (h : SWO lt) {o d : Nat} (hi : Option K) (key : K) (es : List (K × Node K V d))
    (hk : Kids lt (RWF lt o d) hi es) (hkk : ∀ e ∈ es, lt key e.1 = true) :
    AllGt lt (pairsE es) key := by
  intro p hp
  cases es with
  | nil => simp [pairsE] at hp
  | cons e es =>
    exact h.lt_of_lt_of_le (hkk e List.mem_cons_self)
      ((Kids_pairs_bounds h hi _ (fun _ _ _ _ hc => WF_pairs_bounds h hc) hk p hp).2 e rfl)

theorem Kids_sorted {C : Type} {R : Option K → Option K → C → Prop} (h : SWO lt) (hi : Option K)
    (es : List (K × C)) (hk : Kids lt R hi es) : Sorted lt (es.map Prod.fst) := by
  induction es with
  | nil => simp [Sorted]
  | cons e es ih =>
    obtain ⟨k, c⟩ := e
    have hh := Kids_head_lt h hi k c es hk
    obtain ⟨_, _, hrest⟩ := hk
    unfold Sorted
    rw [List.map_cons, List.pairwise_cons]
    refine ⟨?_, ih hrest⟩
    intro a ha
    obtain ⟨e', he', rfl⟩ := List.mem_map.mp ha
    exact hh e' he'

theorem searchLE_split_facts (h : SWO lt) (key : K) (rA rB : List K) (k : K)
    (hs : Sorted lt (rA ++ k :: rB)) (hidx : searchLE lt key (rA ++ k :: rB) = rA.length) :
    (rA ≠ [] → lt key k = false) ∧ (∀ x ∈ rB, lt key x = true) := by
  constructor
  · intro hne
    have hpos : 0 < searchLE lt key (rA ++ k :: rB) := by
      rw [hidx]; exact List.length_pos_iff.mpr hne
    have := searchLE_at h key _ hs hpos (by rw [hidx]; simp)
    simpa [hidx] using this
  · intro x hx
    obtain ⟨j, hj, e⟩ := List.getElem_of_mem hx
    have hlen : rA.length + 1 + j < (rA ++ k :: rB).length := by simp; omega
    have h1 := searchLE_after h key _ hs (rA.length + 1 + j) (by rw [hidx]; omega) hlen
    have e2 : (rA ++ k :: rB)[rA.length + 1 + j]'hlen = rB[j] := by
      rw [List.getElem_append_right (by omega)]
      have : rA.length + 1 + j - rA.length = j + 1 := by omega
      simp [this]
    rw [e2, e] at h1
    exact h1

theorem pairs_mk {d : Nat} (id : Nat) (runts : List K) (kids : List (Node K V d)) :
    Node.pairs (d := d + 1) (Inner.mk id runts kids : Inner K (Node K V d)) = kids.flatMap (Node.pairs (d := d)) := rfl

/-- A well-formed inner node `p` decomposed at the index `searchLE key p.runts`, where Search,
    Insert/Update, Delete and NewScanner all descend. -/
structure Routed (lt : K → K → Bool) (o : Nat) (hi : Option K) (key : K) {d : Nat} (p : Inner K (Node K V d))
    (rA rB : List K) (k : K) (cA cB : List (Node K V d)) (c : Node K V d) : Prop where
  runts : p.runts = rA ++ k :: rB
  kids : p.kids = cA ++ c :: cB
  index : searchLE lt key p.runts = rA.length
  lenA : cA.length = rA.length
  lenB : rB.length = cB.length
  before : Kids lt (RWF lt o d) (some k) (rA.zip cA)
  child : WF lt o d (o / 2) (some k) (nextLo hi (rB.zip cB)) c
  sep_lt : ltO lt k (nextLo hi (rB.zip cB))
  after : Kids lt (RWF lt o d) hi (rB.zip cB)
  key_ge : rA ≠ [] → lt key k = false
  key_lt : ∀ x ∈ rB, lt key x = true
  pairs_before : AllLt lt (cA.flatMap (Node.pairs (d := d))) key
  pairs_after : AllGt lt (cB.flatMap (Node.pairs (d := d))) key
  pairs : Node.pairs (d := d + 1) p =
    cA.flatMap (Node.pairs (d := d)) ++ (Node.pairs c ++ cB.flatMap (Node.pairs (d := d)))

theorem Routed.kid {o : Nat} {hi : Option K} {key : K} {d : Nat} {p : Inner K (Node K V d)} {rA rB : List K} {k : K}
    {cA cB : List (Node K V d)} {c : Node K V d} (R : Routed lt o hi key p rA rB k cA cB c) :
    p.kids[searchLE lt key p.runts]? = some c := by
  rw [R.index, R.kids]; exact getElem?_pivot R.lenA c

theorem route_facts (h : SWO lt) {o d m : Nat} {lo hi : Option K} (key : K)
    (p : Inner K (Node K V d)) (hw : WF lt o (d + 1) m lo hi p) :
    ∃ (rA rB : List K) (k : K) (cA cB : List (Node K V d)) (c : Node K V d),
      Routed lt o hi key p rA rB k cA cB c := by
  obtain ⟨pid, runts, kids⟩ := p
  obtain ⟨hlen, hle, hm, hne, hlo, hkids⟩ := hw
  simp only at hlen hle hm hne hlo hkids
  have hnil : runts ≠ [] := List.ne_nil_of_length_pos hne
  have hsorted : Sorted lt runts := by
    have := Kids_sorted h hi _ hkids
    rwa [map_fst_zip_eq _ _ hlen] at this
  have hidxlt : searchLE lt key runts < runts.length := searchLE_lt_length key runts hnil
  obtain ⟨rA, k, rB, hr, hrA⟩ := split_at runts _ hidxlt
  obtain ⟨cA, c, cB, hc, hcA⟩ := split_at kids (searchLE lt key runts) (by omega)
  subst hr; subst hc
  have hidx : searchLE lt key (rA ++ k :: rB) = rA.length := hrA.symm
  have hcl : cA.length = rA.length := hcA.trans hrA.symm
  have hlB : rB.length = cB.length := by simp at hlen; omega
  obtain ⟨hF1, hF2⟩ := searchLE_split_facts h key rA rB k hsorted hidx
  obtain ⟨hA, hcW, hkhi, hB⟩ := (Kids_decomp hi rA rB k cA cB c hcl.symm).1 hkids
  have hpA : AllLt lt (cA.flatMap (Node.pairs (d := d))) key := by
    by_cases hAnil : rA = []
    · subst hAnil
      have : cA = [] := List.eq_nil_of_length_eq_zero (by simpa using hcl)
      subst this; intro p hp; simp at hp
    · rw [← pairsE_zip rA cA hcl.symm]
      exact allLt_pairsE h k key _ hA (hF1 hAnil)
  have hpB : AllGt lt (cB.flatMap (Node.pairs (d := d))) key := by
    rw [← pairsE_zip rB cB hlB]
    apply allGt_pairsE h hi key _ hB
    intro e he
    exact hF2 e.1 (List.of_mem_zip he).1
  refine ⟨rA, rB, k, cA, cB, c, rfl, rfl, hidx, hcl, hlB, hA, hcW, hkhi, hB, hF1, hF2, hpA, hpB, ?_⟩
  rw [pairs_mk]; simp

end Gobptree
