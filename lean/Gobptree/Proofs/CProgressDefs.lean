/-
  Progress measure of a parked thread (variant argument for "every operation eventually
  returns"): definitions and the facts about heights it rests on.

  The measure of a park is computed from the tree and the thread's OWN continuation only,
  and only from data the thread's held mutexes protect:
    * the height (`hgt`) of a node the thread HOLDS (its own fields cannot be rewritten by
      anybody else, `StepFrame.nodes`), or
    * the depth of the tree while the thread holds `rootMutex` (`StepFrame.root`), or
    * the number of pending `deleteKey` activations (Delete holds `rootMutex` throughout).
  Hence steps of other threads leave it unchanged, with the single exception of the very
  first park of an operation, `want .tree _` (nothing is held yet, the depth may grow).
-/
import Gobptree.Proofs.CSRank
import Gobptree.Proofs.CSFlat

namespace Gobptree.Conc
open Gobptree

variable {K V : Type}

def hgt (t : Tree K V) (id : Nat) : Nat :=
  match t.look id with
  | some sh => sh.height
  | none => 0

/-- the variant: an upper bound on the number of own steps the current operation still takes
    before it returns -/
def kMeasure (t : Tree K V) : Kont K V → Nat
  | .roTree _ _ => 3 * t.depth + 6
  | .roNode _ _ hold _ =>
    match hold with
    | .tree => 3 * t.depth + 5
    | .node p => 3 * hgt t p
  | .upTree _ _ _ => 3 * t.depth + 6
  | .upRoot _ _ _ _ => 3 * t.depth + 5
  | .upRootSib _ _ _ root _ => 3 * hgt t root + 4
  | .upChild _ _ _ parent _ _ => 3 * hgt t parent
  | .upSib _ _ _ _ child _ => 3 * hgt t child + 2
  | .upCallback _ _ _ _ => 0
  | .delTree _ => 3 * t.depth + 6
  | .delRoot _ _ => 3 * t.depth + 5
  | .delLeft _ frames _ _ _ _ => t.depth + 2 + 2 * (t.depth - frames.length) + 1
  | .delChild _ frames _ _ _ _ _ => t.depth + 2 + 2 * (t.depth - frames.length)
  | .delRight _ rest _ _ _ => rest.length + 1
  | .hop _ _ => 0
  | .paused => 0

def opMeasure (t : Tree K V) : Park K V → Nat
  | .want _ k => kMeasure t k
  | .yielded k => kMeasure t k
  | _ => 0

theorem opMeasure_kont {T : Tree K V} {p : Park K V} {k : Kont K V} (h : p.kont? = some k) :
    opMeasure T p = kMeasure T k := by
  cases p <;> cases h <;> rfl

def lkIsTree : Lk → Bool
  | .tree => true
  | .node _ => false

/-- a park inside an operation, past the acquisition of `rootMutex` -/
def parkNT : Park K V → Bool
  | .want l _ => !lkIsTree l
  | .yielded _ => true
  | _ => false

theorem parkNT_spec {p : Park K V} (h : parkNT p = true) : parkWant p ≠ some Lk.tree := by
  intro e
  cases p with
  | want l k => cases l <;> cases e; cases h
  | _ => cases e

theorem Succ.nt {k : Kont K V} {p : Park K V} (h : Succ k p) : parkNT p = true := by
  cases h <;> rfl

theorem hgt_of_look {t : Tree K V} {id : Nat} {sh : Shallow K V} (h : t.look id = some sh) :
    hgt t id = sh.height := by
  unfold hgt; rw [h]

theorem hgt_congr {t t' : Tree K V} {id : Nat} (h : t'.look id = t.look id) : hgt t' id = hgt t id := by
  unfold hgt; rw [h]

theorem hgt_le_depth (t : Tree K V) (id : Nat) : hgt t id ≤ t.depth := by
  unfold hgt
  cases h : t.look id with
  | none => exact Nat.zero_le _
  | some sh => exact look_height_le h

theorem hgt_root {t : Tree K V} (hi : IdsOk t) : hgt t t.rootId = t.depth := by
  rw [hgt_of_look (look_root hi), shallow_height]

theorem hgt_kid {t : Tree K V} (hi : IdsOk t) {p j c : Nat} (h : t.kidAt p j = some c) :
    hgt t c + 1 = hgt t p := by
  obtain ⟨sh, hp, _⟩ := kidAt_look h
  obtain ⟨shc, hc, hh⟩ := kid_look hi h hp
  rw [hgt_of_look hp, hgt_of_look hc, hh]

theorem hgt_find {t : Tree K V} {id d : Nat} {m : Node K V d} (h : t.find id = some ⟨d, m⟩) :
    hgt t id = d := by
  rw [hgt_of_look (look_of_find h), shallow_height]

theorem hgt_mem {t : Tree K V} (hi : IdsOk t) {d : Nat} {c : Node K V d} (h : (Node.id c, shallow c) ∈ t.flat) :
    hgt t (Node.id c) = d := by
  rw [hgt_of_look (mem_look hi h), shallow_height]

theorem frames_len {t : Tree K V} (hi : IdsOk t) :
    ∀ (frames : List Frame) (top : Nat), FramesOk t t.rootId frames top →
      hgt t top + frames.length = t.depth := by
  intro frames
  induction frames with
  | nil =>
    intro top h
    simp only [FramesOk] at h
    subst h
    simp [hgt_root hi]
  | cons fr rest ih =>
    intro top h
    obtain ⟨htop, hfr, hrest⟩ := h
    have h1 := ih fr.node hrest
    have h2 := hgt_kid hi hfr.1
    subst htop
    simp only [List.length_cons]
    omega

def OutLt (B : Nat) (r : St K V × Flow K V) : Prop := r.2.parksIn fun p => opMeasure r.1.tree p < B

theorem OutLt.mono {B B' : Nat} {r : St K V × Flow K V} (h : OutLt B r) (hle : B ≤ B') : OutLt B' r := by
  obtain ⟨s, fl⟩ := r
  cases fl with
  | park p => exact Nat.lt_of_lt_of_le h hle
  | done r => trivial
  | panic => trivial

theorem OutLt.park {B : Nat} {r : St K V × Flow K V} (h : OutLt B r) {p : Park K V} (hp : r.2 = .park p) :
    opMeasure r.1.tree p < B :=
  Flow.parksIn.park h hp

end Gobptree.Conc
