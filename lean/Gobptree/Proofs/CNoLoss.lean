/-
  The three "in particular" clauses of C03 on RUNS, for every reachable execution of disciplined
  programs, every number of threads, every schedule:

    "no completed Insert or Update is lost, no deleted key reappears, and a Search never misses
     a key that is present throughout the Search."

  The write clauses are those of `CNoLossWrites` with the real-time hypothesis in its plainest
  form (`OutOfTheWay`).
-/
import Gobptree.Proofs.CNoLossWrites
import Gobptree.Proofs.CNoLossSearch

namespace Gobptree.Conc
open Gobptree Gobptree.Lin

variable {K V : Type}

def CallInvoked (d : Config K V) (t i : Nat) : Prop := ∃ op, HEv.inv t i op ∈ history d

def CallReturned (d : Config K V) (t i : Nat) : Prop := ∃ out, HEv.ret t i out ∈ history d

def RetBeforeInv (run : List (Config K V)) (t' i' t i : Nat) : Prop :=
  ∃ d ∈ run, CallReturned d t' i' ∧ ¬ CallInvoked d t i

/-- the third disjunct (program order) is not an instance of the second: the `ret` note of a call
    and the `inv` note of the thread's next call are logged in the same scheduler step, so no
    configuration separates them -/
def OutOfTheWay (run : List (Config K V)) (c : Config K V) (t' i' t i : Nat) : Prop :=
  ¬ CallInvoked c t' i' ∨ RetBeforeInv run t' i' t i ∨ (t' = t ∧ i' < i)

theorem opOf_of_any {q : Op K V → Bool} {cq : COp K V → Bool} (he : ∀ cop, cq cop = (opOf cop).any q)
    {cop : COp K V} (h : cq cop = true) : ∃ op, opOf cop = some op :=
  let ⟨op, ho, _⟩ := (Option.any_eq_true _ _).1 ((he cop).symm.trans h)
  ⟨op, ho⟩

theorem invoked_iff_note {d : Config K V} {t i : Nat} {cop : COp K V} {op : Op K V}
    (hc : (progOf d t)[i]? = some cop) (ho : opOf cop = some op) :
    CallInvoked d t i ↔ Ev.note t (.inv i) ∈ d.log :=
  ⟨fun ⟨_, h⟩ => history_inv_note h, fun h => ⟨op, (mem_hx_inv (progs := progOf d) (evs := d.log)).2 ⟨h, by rw [hc]; exact ho⟩⟩⟩

theorem note_of_returned {d : Config K V} {t i : Nat} (h : CallReturned d t i) : ∃ r, Ev.note t (.ret i r) ∈ d.log :=
  let ⟨_, h'⟩ := h
  history_ret_note h'

theorem returned_of_note_ins {d : Config K V} {t i : Nat} {k : K} {v : V} (hc : (progOf d t)[i]? = some (.ins k v))
    (h : Ev.note t (.ret i .ok) ∈ d.log) : CallReturned d t i :=
  ⟨.done, hx_ret_of_note (progOf d) hc (fun _ => rfl) d.log h⟩

theorem returned_of_note_del {d : Config K V} {t i : Nat} {k : K} (hc : (progOf d t)[i]? = some (.del k))
    (h : Ev.note t (.ret i .ok) ∈ d.log) : CallReturned d t i :=
  ⟨.done, hx_ret_of_note (progOf d) hc (fun _ => rfl) d.log h⟩

theorem returned_of_note_get {d : Config K V} {t i : Nat} {k : K} {r : Option V} (hc : (progOf d t)[i]? = some (.get k))
    (h : Ev.note t (.ret i (.found r)) ∈ d.log) : CallReturned d t i :=
  ⟨.found r, hx_ret_of_note (progOf d) hc (fun _ => rfl) d.log h⟩

theorem hx_found_note (progs : Nat → List (COp K V)) {t i : Nat} {k : K} {r : Option V}
    (hc : (progs t)[i]? = some (.get k)) :
    ∀ (evs : List (Ev K V)), HEv.ret t i (.found r) ∈ (hx progs evs).evs → Ev.note t (.ret i (.found r)) ∈ evs := by
  intro evs h
  obtain ⟨r', pre, post, e, h2⟩ := mem_hx_ret.1 h
  rw [hc] at h2
  rw [e]
  apply List.mem_append_right
  cases r' <;> cases h2 <;> exact List.mem_cons_self

section Main

variable (lt : K → K → Bool) (P : Params K) (tree : Tree K V) (progs : List (List (COp K V)))

theorem returned_of_past
    (ht : TreeOk none tree) (ho : tree.order = P.order) (hp : PadOk P) (hd : Disciplined progs)
    (hdel : 4 ≤ tree.order ∨ NoDelete progs)
    (c : Config K V) (hr : Reachable (Config.init P tree progs) c)
    {t i : Nat} {th : Thread K V} {cop : COp K V} {op : Op K V} (hth : c.threads[t]? = some th)
    (hi : i < th.pc) (hc : th.prog[i]? = some cop) (hop : opOf cop = some op) : CallReturned c t i :=
  (reachable_retok P tree progs ht ho hp hd hdel c hr t th hth).past i cop op hi hc hop

theorem returned_at_end
    (ht : TreeOk none tree) (ho : tree.order = P.order) (hp : PadOk P) (hd : Disciplined progs)
    (hdel : 4 ≤ tree.order ∨ NoDelete progs)
    (c : Config K V) (hr : Reachable (Config.init P tree progs) c) (hu : c.unfinished = false)
    {t i : Nat} {cop : COp K V} {op : Op K V} (hcall : CallAt progs t i cop) (hop : opOf cop = some op) :
    CallReturned c t i := by
  obtain ⟨p, h1, h2⟩ := hcall
  exact finished_all_returned P tree progs ht ho hp hd hdel c hr hu t p i cop op h1 h2 hop

end Main

section Runs

variable (lt : K → K → Bool) (P : Params K) (tree : Tree K V) (progs : List (List (COp K V)))
  (hkp : KParams lt P) (ht : TreeOk none tree) (hord : OrdTree lt tree) (hsep : SepTree lt tree)
  (ho : tree.order = P.order) (hp : PadOk P) (hd : Disciplined progs)
  (hdel : 4 ≤ tree.order ∨ NoDelete progs)
include hkp ht hord hsep ho hp hd hdel

theorem invoked_of_returned (c : Config K V) (hr : Reachable (Config.init P tree progs) c) {t i : Nat} (hret : CallReturned c t i) :
    CallInvoked c t i := by
  obtain ⟨out, hout⟩ := hret
  obtain ⟨h, hl⟩ := reachable_lininv lt P tree progs hkp ht hord hsep ho hp hd hdel c hr
  rw [← hl.vis] at hout
  obtain ⟨op, hop, _⟩ := inv_of_lin hl.pts.wf (lin_of_ret hl.pts.wf (mem_visible.1 hout).1)
  exact ⟨op, by rw [← hl.vis]; exact mem_visible.2 ⟨hop, rfl⟩⟩

theorem settled_of_run {c : Config K V} {hist : List (Config K V)}
    (hrun : RunFrom (Config.init P tree progs) (c :: hist)) {t' i' t i : Nat} (hret : CallReturned c t i)
    {cop' : COp K V} (hcall : CallAt progs t' i' cop') (hop : ∃ op', opOf cop' = some op')
    (h : OutOfTheWay (c :: hist) c t' i' t i) :
    SettledBefore (history c) t' i' t i := by
  obtain ⟨op, hinv⟩ := invoked_of_returned lt P tree progs hkp ht hord hsep ho hp hd hdel c hrun.reachable hret
  rcases h with h | ⟨d, hd', ⟨out, hout⟩, hni⟩ | ⟨rfl, hlt⟩
  · exact .inl (fun op hop => h ⟨op, hop⟩)
  · exact settledBefore_of_moment hrun hd' hout (fun op' h' => hni ⟨op', h'⟩) hinv
  · obtain ⟨op', hop'⟩ := hop
    obtain ⟨p, h1, h2⟩ := hcall
    exact settled_of_program_order P tree progs ht ho hp hd hdel c hrun.reachable hlt h1 h2 hop' hinv

/-- **C03: no completed Insert is lost.**  Along every run: `ins k v` (call `i` of thread `t`) has
    returned, and every OTHER call of the programs that writes a key equivalent to `k` is out of the
    way.  Then the map holds `v` at `k` — in the configuration where the Insert returns and in every
    later one, until another writer of `k` is invoked. -/
theorem no_completed_insert_lost {c : Config K V} {hist : List (Config K V)} (hrun : RunFrom (Config.init P tree progs) (c :: hist))
    {t i : Nat} {k : K} {v : V} (hcall : CallAt progs t i (.ins k v)) (hret : CallReturned c t i)
    (hothers : ∀ t' i' cop, CallAt progs t' i' cop → (t', i') ≠ (t, i) → cWrites lt k cop = true →
      OutOfTheWay (c :: hist) c t' i' t i) :
    Spec.lookup lt c.tree.abs k = some v := by
  obtain ⟨out, hout⟩ := hret
  exact insert_not_lost lt P tree progs hkp ht hord hsep ho hp hd hdel c hrun.reachable hcall hout fun t' i' cop hc hne hw =>
    settled_of_run lt P tree progs hkp ht hord hsep ho hp hd hdel hrun ⟨out, hout⟩ hc (opOf_of_any (cWrites_eq lt k) hw)
      (hothers t' i' cop hc hne hw)

/-- **C03: no completed Update is lost.**  Along every run: `upd k f` (call `i` of thread `t`) has
    returned — its response in the history carries the argument `arg` its callback received — and
    every other call of the programs that writes a key equivalent to `k` is out of the way.  Then
    the map holds `f arg` at `k`. -/
theorem no_completed_update_lost {c : Config K V} {hist : List (Config K V)} (hrun : RunFrom (Config.init P tree progs) (c :: hist))
    {t i : Nat} {k : K} {f : Option V → V} {y : Bool} (hcall : CallAt progs t i (.upd k f y))
    {arg : Option V} (hret : HEv.ret t i (.callback arg) ∈ history c)
    (hothers : ∀ t' i' cop, CallAt progs t' i' cop → (t', i') ≠ (t, i) → cWrites lt k cop = true →
      OutOfTheWay (c :: hist) c t' i' t i) :
    Spec.lookup lt c.tree.abs k = some (f arg) :=
  update_not_lost lt P tree progs hkp ht hord hsep ho hp hd hdel c hrun.reachable hcall hret fun t' i' cop hc hne hw =>
    settled_of_run lt P tree progs hkp ht hord hsep ho hp hd hdel hrun ⟨_, hret⟩ hc (opOf_of_any (cWrites_eq lt k) hw)
      (hothers t' i' cop hc hne hw)

/-- **C03: no deleted key reappears.**  Along every run: `del k` (call `i` of thread `t`) has
    returned, and every call of the programs that STORES a value at a key equivalent to `k` (Insert
    or Update) is out of the way.  Then `k` is absent from the map — in the configuration where
    the Delete returns and in every later one, until such a call is invoked. -/
theorem no_deleted_key_reappears {c : Config K V} {hist : List (Config K V)} (hrun : RunFrom (Config.init P tree progs) (c :: hist))
    {t i : Nat} {k : K} (hcall : CallAt progs t i (.del k)) (hret : CallReturned c t i)
    (hothers : ∀ t' i' cop, CallAt progs t' i' cop → cPuts lt k cop = true →
      OutOfTheWay (c :: hist) c t' i' t i) :
    Spec.lookup lt c.tree.abs k = none := by
  obtain ⟨out, hout⟩ := hret
  exact delete_not_undone lt P tree progs hkp ht hord hsep ho hp hd hdel c hrun.reachable hcall hout fun t' i' cop hc hw =>
    settled_of_run lt P tree progs hkp ht hord hsep ho hp hd hdel hrun ⟨out, hout⟩ hc (opOf_of_any (cPuts_eq lt k) hw)
      (hothers t' i' cop hc hw)

/-- once every thread has finished: the only call of the programs that writes `k` is `ins k v` ⟹
    the map holds `v` at `k` (the hypotheses `CallReturned …` of the theorems above are then automatic:
    `finished_all_returned`; for programs that close their cursors every maximal execution ends
    that way: `all_operations_return_closing`) -/
theorem insert_present_at_end (c : Config K V) (hr : Reachable (Config.init P tree progs) c) (hu : c.unfinished = false)
    {t i : Nat} {k : K} {v : V} (hcall : CallAt progs t i (.ins k v)) (hno : NoOtherWrites lt k progs t i) :
    Spec.lookup lt c.tree.abs k = some v := by
  obtain ⟨out, hout⟩ := returned_at_end P tree progs ht ho hp hd hdel c hr hu hcall rfl
  exact insert_not_lost_alone lt P tree progs hkp ht hord hsep ho hp hd hdel c hr hcall hout hno

theorem update_present_at_end (c : Config K V) (hr : Reachable (Config.init P tree progs) c) (hu : c.unfinished = false)
    {t i : Nat} {k : K} {f : Option V → V} {y : Bool} (hcall : CallAt progs t i (.upd k f y))
    (hno : NoOtherWrites lt k progs t i) :
    Spec.lookup lt c.tree.abs k = some (f (Spec.lookup lt tree.abs k)) := by
  obtain ⟨out, hout⟩ := returned_at_end P tree progs ht ho hp hd hdel c hr hu hcall rfl
  exact update_not_lost_alone lt P tree progs hkp ht hord hsep ho hp hd hdel c hr hcall hout hno

end Runs

section Main

variable (lt : K → K → Bool) (P : Params K) (tree : Tree K V) (progs : List (List (COp K V)))

theorem deleted_absent_at_end
    (hkp : KParams lt P) (ht : TreeOk none tree) (hord : OrdTree lt tree) (hsep : SepTree lt tree)
    (ho : tree.order = P.order) (hp : PadOk P) (hd : Disciplined progs)
    (hdel : 4 ≤ tree.order ∨ NoDelete progs)
    (c : Config K V) (hr : Reachable (Config.init P tree progs) c) (hu : c.unfinished = false)
    {t i : Nat} {k : K} (hcall : CallAt progs t i (.del k))
    (hno : ∀ t' i' cop, CallAt progs t' i' cop → cPuts lt k cop = false) :
    Spec.lookup lt c.tree.abs k = none := by
  obtain ⟨out, hout⟩ := returned_at_end P tree progs ht ho hp hd hdel c hr hu hcall rfl
  exact delete_not_undone_alone lt P tree progs hkp ht hord hsep ho hp hd hdel c hr hcall hout hno

end Main

namespace NoLossExample

def ltN : Nat → Nat → Bool := fun a b => decide (a < b)
def PN : Params Nat := Params.mk ltN (fun _ => some 0) 4

/-- thread 0 inserts 7 and then deletes it; thread 1 searches 7 and inserts 3; thread 2 updates 5
    (absent counts as 10) with a yield inside the callback -/
def progs : List (List (COp Nat Nat)) :=
  [[.ins 7 1, .del 7], [.get 7, .ins 3 3], [.upd 5 (fun o => o.getD 10 + 1) true]]

theorem callAt_cases {t i : Nat} {cop : COp Nat Nat} (h : CallAt progs t i cop) :
    (t = 0 ∧ i = 0 ∧ cop = .ins 7 1) ∨ (t = 0 ∧ i = 1 ∧ cop = .del 7) ∨ (t = 1 ∧ i = 0 ∧ cop = .get 7) ∨
      (t = 1 ∧ i = 1 ∧ cop = .ins 3 3) ∨ (t = 2 ∧ i = 0 ∧ cop = .upd 5 (fun o => o.getD 10 + 1) true) := by
  obtain ⟨p, h1, h2⟩ := h
  match t, i, h1, h2 with
  | 0, 0, h1, h2 => cases h1; cases h2; exact .inl ⟨rfl, rfl, rfl⟩
  | 0, 1, h1, h2 => cases h1; cases h2; exact .inr (.inl ⟨rfl, rfl, rfl⟩)
  | 0, i + 2, h1, h2 => cases h1; cases h2
  | 1, 0, h1, h2 => cases h1; cases h2; exact .inr (.inr (.inl ⟨rfl, rfl, rfl⟩))
  | 1, 1, h1, h2 => cases h1; cases h2; exact .inr (.inr (.inr (.inl ⟨rfl, rfl, rfl⟩)))
  | 1, i + 2, h1, h2 => cases h1; cases h2
  | 2, 0, h1, h2 => cases h1; cases h2; exact .inr (.inr (.inr (.inr ⟨rfl, rfl, rfl⟩)))
  | 2, i + 1, h1, h2 => cases h1; cases h2
  | t + 3, i, h1, h2 => cases h1

/-- under EVERY schedule, once all three threads have finished: 7 is absent (the Delete came after
    the Insert in program order, and nothing else stores at 7), 3 holds 3, and 5 holds 11 -/
theorem at_end (c : Config Nat Nat) (hr : Reachable (Config.init PN (Tree.new 4) progs) c)
    (hu : c.unfinished = false) :
    Spec.lookup ltN c.tree.abs 7 = none ∧ Spec.lookup ltN c.tree.abs 3 = some 3 ∧
      Spec.lookup ltN c.tree.abs 5 = some 11 := by
  have hkp : KParams ltN PN := ⟨SWO.natLt, rfl⟩
  have hpad : PadOk PN := by intro k h; simp [PN] at h
  have hd : Disciplined progs := by
    intro p hp; simp [progs] at hp; rcases hp with rfl | rfl | rfl <;> rfl
  have ht := new_treeOk (K := Nat) (V := Nat) 4 (by omega) (by omega)
  have hord := new_ordTree (K := Nat) (V := Nat) ltN 4
  have hsep := new_sepTree (K := Nat) (V := Nat) ltN 4
  have hdel : 4 ≤ (Tree.new 4 : Tree Nat Nat).order ∨ NoDelete progs := Or.inl (Nat.le_refl 4)
  refine ⟨?_, ?_, ?_⟩
  · -- key 7: deleted by call 1 of thread 0; the only call that stores at 7 is call 0 of thread 0
    have hcall : CallAt progs 0 1 (.del 7) := ⟨_, rfl, rfl⟩
    obtain ⟨out, hout⟩ := returned_at_end PN (Tree.new 4) progs ht rfl hpad hd hdel c hr hu hcall rfl
    obtain ⟨op, hop⟩ := invoked_of_returned ltN PN (Tree.new 4) progs hkp ht hord hsep rfl hpad hd hdel c hr ⟨out, hout⟩
    refine delete_not_undone ltN PN (Tree.new 4) progs hkp ht hord hsep rfl hpad hd hdel c hr hcall hout ?_
    intro t' i' cop hc hput
    rcases callAt_cases hc with ⟨rfl, rfl, rfl⟩ | ⟨rfl, rfl, rfl⟩ | ⟨rfl, rfl, rfl⟩ | ⟨rfl, rfl, rfl⟩ | ⟨rfl, rfl, rfl⟩
    · exact settled_of_program_order PN (Tree.new 4) progs ht rfl hpad hd hdel c hr (by omega)
        (p := [.ins 7 1, .del 7]) rfl rfl rfl hop
    all_goals exact absurd hput (by decide)
  · -- key 3: only call 1 of thread 1 writes it
    refine insert_present_at_end ltN PN (Tree.new 4) progs hkp ht hord hsep rfl hpad hd hdel c hr hu
      (t := 1) (i := 1) ⟨_, rfl, rfl⟩ ?_
    intro t' i' cop hc hne
    rcases callAt_cases hc with ⟨rfl, rfl, rfl⟩ | ⟨rfl, rfl, rfl⟩ | ⟨rfl, rfl, rfl⟩ | ⟨rfl, rfl, rfl⟩ | ⟨rfl, rfl, rfl⟩
    all_goals first | exact absurd rfl hne | decide
  · -- key 5: only call 0 of thread 2 writes it; the initial tree is empty
    have := update_present_at_end ltN PN (Tree.new 4) progs hkp ht hord hsep rfl hpad hd hdel c hr hu
      (t := 2) (i := 0) (k := 5) (f := fun o => o.getD 10 + 1) (y := true) ⟨_, rfl, rfl⟩ (by
        intro t' i' cop hc hne
        rcases callAt_cases hc with ⟨rfl, rfl, rfl⟩ | ⟨rfl, rfl, rfl⟩ | ⟨rfl, rfl, rfl⟩ | ⟨rfl, rfl, rfl⟩ | ⟨rfl, rfl, rfl⟩
        all_goals first | exact absurd rfl hne | decide)
    rw [this]
    have habs : (Tree.new 4 : Tree Nat Nat).abs = [] := rfl
    rw [habs]
    simp [Spec.lookup]

end NoLossExample

end Gobptree.Conc

#print axioms Gobptree.Conc.reachable_seq
#print axioms Gobptree.Conc.settled_of_program_order
#print axioms Gobptree.Conc.search_reads_run_config
#print axioms Gobptree.Conc.search_finds_present
#print axioms Gobptree.Conc.search_reports_absent
#print axioms Gobptree.Conc.split_at_returned
#print axioms Gobptree.Conc.lookup_last_write
#print axioms Gobptree.Conc.insert_not_lost
#print axioms Gobptree.Conc.update_not_lost
#print axioms Gobptree.Conc.delete_not_undone
#print axioms Gobptree.Conc.insert_not_lost_alone
#print axioms Gobptree.Conc.update_not_lost_alone
#print axioms Gobptree.Conc.delete_not_undone_alone
#print axioms Gobptree.Conc.no_completed_insert_lost
#print axioms Gobptree.Conc.no_completed_update_lost
#print axioms Gobptree.Conc.no_deleted_key_reappears
#print axioms Gobptree.Conc.insert_present_at_end
#print axioms Gobptree.Conc.update_present_at_end
#print axioms Gobptree.Conc.deleted_absent_at_end
#print axioms Gobptree.Conc.NoLossExample.at_end
