/-
  One rewrite of an inner node for the whole key-order layer: the entries `(k, c) :: M` between
  `A` and `B` are replaced by `(k', c') :: M'`, which stand for the same interval.  Lowering the
  first separator, the split of a child, a borrow and a merge are instances.  `replace_entries` is
  what the write-back of the node asks for (order, parallel lengths, pairs), `replace_entries_widen`
  what the positions of the other threads ask for (identities and their intervals).
-/
import Gobptree.Proofs.CKDelBounds

namespace Gobptree.Conc
open Gobptree

variable {K V : Type} {lt : K → K → Bool}

theorem loLe_lowD (h : SWO lt) (cl : Bool) (lo : Option K) (rA : List K) (k k' : K) (h1 : lt k k' = false)
    (h2 : rA ≠ [] → k' = k) : loLe lt (lowD cl lo rA k') (lowD cl lo rA k) := by
  cases rA with
  | nil => cases cl with
    | true => exact loLe_refl h lo
    | false => exact h1
  | cons _ _ => rw [h2 (List.cons_ne_nil _ _)]; exact loLe_refl h _

theorem firstG_mid {C β : Type} (cl : Bool) (g : Option K → Option K → C → Option β) (lo hi : Option K)
    (rA rB : List K) (k : K) (A B : List C) (c : C) (M : List (K × C)) (hl : rA.length = A.length) :
    firstG cl g lo hi ((rA ++ k :: (M.map Prod.fst ++ rB)).zip (A ++ c :: (M.map Prod.snd ++ B))) =
      (firstG cl g lo (some k) (rA.zip A)).or
        ((winE g (lowD cl lo rA k) (nextLo hi (rB.zip B)) c M).or (firstE g hi (rB.zip B))) := by
  rw [firstG_decomp cl g lo hi rA _ k A _ c hl, List.zip_append (length_fst_snd M), zip_fst_snd,
    firstE_append_or, nextLo_append]
  show _ = (firstG cl g lo (some k) (rA.zip A)).or
    (((g (lowD cl lo rA k) (nextLo (nextLo hi (rB.zip B)) M) c).or
      (firstE g (nextLo hi (rB.zip B)) M)).or (firstE g hi (rB.zip B)))
  rw [Option.or_assoc]

theorem firstG_prefix {C β : Type} (cl : Bool) (g : Option K → Option K → C → Option β) (lo : Option K)
    (rA : List K) (A : List C) (k k' : K) (hk : rA ≠ [] → k' = k) :
    firstG cl g lo (some k') (rA.zip A) = firstG cl g lo (some k) (rA.zip A) := by
  cases rA with
  | nil => rfl
  | cons _ _ => rw [hk (List.cons_ne_nil _ _)]

/-- `k'` is `k`, or a lower key when the window starts the node -/
theorem replace_entries {d : Nat} {lo hi : Option K} (i i' : Inner K (Node K V d)) (rA rB : List K)
    (k k' : K) (A B : List (Node K V d)) (c c' : Node K V d) (M M' : List (K × Node K V d))
    (hl : rA.length = A.length)
    (hr : i.runts = rA ++ k :: (M.map Prod.fst ++ rB)) (hc : i.kids = A ++ c :: (M.map Prod.snd ++ B))
    (hr' : i'.runts = rA ++ k' :: (M'.map Prod.fst ++ rB)) (hc' : i'.kids = A ++ c' :: (M'.map Prod.snd ++ B))
    (hO : Ord lt (d + 1) lo hi i) (hP : ParN (d + 1) i)
    (hk : rA ≠ [] → k' = k) (hk0 : rA = [] → leO lt lo k')
    (hM : Kids lt (fun a b c => Ord lt d a b c) (nextLo hi (rB.zip B)) ((k', c') :: M'))
    (hPM : ∀ y ∈ c' :: M'.map Prod.snd, ParN d y)
    (hpairs : (c' :: M'.map Prod.snd).flatMap (Node.pairs (d := d)) =
      (c :: M.map Prod.snd).flatMap (Node.pairs (d := d))) :
    Ord lt (d + 1) lo hi i' ∧ ParN (d + 1) i' ∧ Node.pairs (d := d + 1) i' = Node.pairs (d := d + 1) i := by
  obtain ⟨hlo, hK⟩ := hO
  rw [hr, hc, Kids_mid hi rA rB k A B c M hl] at hK
  obtain ⟨hKA, -, hKB⟩ := hK
  obtain ⟨hlen, -, hkids⟩ := hP
  rw [hr, hc, length_mid, length_mid, hl, length_fst_snd M] at hlen
  have hlB : rB.length = B.length := Nat.add_left_cancel hlen
  refine ⟨⟨?_, ?_⟩, ⟨?_, ?_, ?_⟩, ?_⟩
  · intro k0 hk0'
    rw [hr'] at hk0'
    cases rA with
    | nil => cases (show some k' = some k0 from hk0'); exact hk0 rfl
    | cons a rA => exact hlo k0 (by rw [hr]; exact hk0')
  · rw [hr', hc', Kids_mid hi rA rB k' A B c' M' hl]
    refine ⟨?_, hM, hKB⟩
    cases rA with
    | nil => cases A with
      | nil => trivial
      | cons _ _ => cases hl
    | cons _ _ => rw [hk (List.cons_ne_nil _ _)]; exact hKA
  · rw [hr', hc', length_mid, length_mid, hl, length_fst_snd M', hlB]
  · rw [hr', length_mid]
    exact Nat.le_trans (Nat.le_add_left 1 _) (Nat.le_trans (Nat.le_add_left _ _) (Nat.le_add_right _ _))
  · intro y hy
    rw [hc', ← List.cons_append] at hy
    rw [hc, ← List.cons_append] at hkids
    rcases List.mem_append.1 hy with hy | hy
    · exact hkids y (List.mem_append_left _ hy)
    · rcases List.mem_append.1 hy with hy | hy
      · exact hPM y hy
      · exact hkids y (List.mem_append_right _ (List.mem_append_right _ hy))
  · show i'.kids.flatMap (Node.pairs (d := d)) = i.kids.flatMap (Node.pairs (d := d))
    rw [hc', hc, ← List.cons_append, ← List.cons_append, List.flatMap_append, List.flatMap_append,
      List.flatMap_append, List.flatMap_append, hpairs]

theorem replace_entries_widen (h : SWO lt) {d : Nat} (i i' : Inner K (Node K V d)) (rA rB : List K)
    (k k' : K) (A B : List (Node K V d)) (c c' : Node K V d) (M M' : List (K × Node K V d))
    (hl : rA.length = A.length)
    (hr : i.runts = rA ++ k :: (M.map Prod.fst ++ rB)) (hc : i.kids = A ++ c :: (M.map Prod.snd ++ B))
    (hid : i'.id = i.id)
    (hr' : i'.runts = rA ++ k' :: (M'.map Prod.fst ++ rB)) (hc' : i'.kids = A ++ c' :: (M'.map Prod.snd ++ B))
    (hk : rA ≠ [] → k' = k) :
    (∀ x, x ∈ idsOf (d := d + 1) i' → x ∈ (c' :: M'.map Prod.snd).flatMap idsOf ∨ x ∈ idsOf (d := d + 1) i) ∧
    ∀ cl lo hi x, i.id ≠ x →
      OW lt (winE (gbounds cl x d) (lowD cl lo rA k) (nextLo hi (rB.zip B)) c M)
        (winE (gbounds cl x d) (lowD cl lo rA k') (nextLo hi (rB.zip B)) c' M') →
      OW lt (gbounds cl x (d + 1) lo hi i) (gbounds cl x (d + 1) lo hi i') := by
  refine ⟨?_, ?_⟩
  · intro x hx
    rw [idsOf_succ, hid, hc', ← List.cons_append, List.flatMap_append, List.flatMap_append] at hx
    rw [idsOf_succ, hc, ← List.cons_append, List.flatMap_append, List.flatMap_append]
    rcases List.mem_cons.1 hx with e | e
    · exact Or.inr (List.mem_cons.2 (Or.inl e))
    · rcases List.mem_append.1 e with e | e
      · exact Or.inr (List.mem_cons_of_mem _ (List.mem_append_left _ e))
      · rcases List.mem_append.1 e with e | e
        · exact Or.inl e
        · exact Or.inr (List.mem_cons_of_mem _ (List.mem_append_right _ (List.mem_append_right _ e)))
  · intro cl lo hi x hne hw
    rw [gbounds_succ_ne cl x lo hi i hne, gbounds_succ_ne cl x lo hi i' (hid ▸ hne), hr, hc, hr', hc',
      firstG_mid cl _ lo hi rA rB k A B c M hl, firstG_mid cl _ lo hi rA rB k' A B c' M' hl,
      firstG_prefix cl _ lo rA A k k' hk]
    exact OW.or (OW.refl h _) (OW.or hw (OW.refl h _))

end Gobptree.Conc
