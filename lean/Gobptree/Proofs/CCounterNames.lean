/-
  Counting by names (list lemmas, no dependence on the model): the operations of a family of
  programs that satisfy a predicate, listed as names `(thread, index)` without repetition.
-/

namespace Gobptree.Conc

variable {α : Type}

def selIdx (q : α → Bool) : List α → List Nat
  | [] => []
  | a :: l => (if q a then [0] else []) ++ (selIdx q l).map (· + 1)

theorem mem_selIdx (q : α → Bool) : ∀ (l : List α) (j : Nat),
    j ∈ selIdx q l ↔ ∃ a, l[j]? = some a ∧ q a = true := by
  intro l
  induction l with
  | nil =>
    intro j
    constructor
    · intro h; cases h
    · rintro ⟨a, h, _⟩; rw [List.getElem?_nil] at h; cases h
  | cons b l ih =>
    intro j
    rw [selIdx, List.mem_append, List.mem_map]
    cases j with
    | zero =>
      rw [List.getElem?_cons_zero]
      constructor
      · rintro (h | ⟨j', _, h⟩)
        · by_cases hb : q b = true
          · exact ⟨b, rfl, hb⟩
          · rw [if_neg hb] at h; cases h
        · exact absurd h (Nat.succ_ne_zero j')
      · rintro ⟨a, ha, hq⟩
        cases ha
        exact .inl (by rw [if_pos hq]; exact List.mem_cons_self)
    | succ j =>
      rw [List.getElem?_cons_succ]
      constructor
      · rintro (h | ⟨j', hj', h⟩)
        · by_cases hb : q b = true
          · rw [if_pos hb] at h; exact absurd (List.mem_singleton.1 h) (Nat.succ_ne_zero j)
          · rw [if_neg hb] at h; cases h
        · cases Nat.succ.inj h
          exact (ih j).1 hj'
      · exact fun h => .inr ⟨j, (ih j).2 h, rfl⟩

theorem selIdx_nodup (q : α → Bool) : ∀ (l : List α), (selIdx q l).Nodup := by
  intro l
  induction l with
  | nil => exact List.nodup_nil
  | cons b l ih =>
    rw [selIdx, List.nodup_append]
    refine ⟨?_, List.Pairwise.map _ (fun a b hab e => hab (Nat.succ.inj e)) ih, ?_⟩
    · by_cases hb : q b = true
      · rw [if_pos hb]; exact List.nodup_cons.2 ⟨List.not_mem_nil, List.nodup_nil⟩
      · rw [if_neg hb]; exact List.nodup_nil
    · intro a ha c hc e
      obtain ⟨j, _, rfl⟩ := List.mem_map.1 hc
      by_cases hb : q b = true
      · rw [if_pos hb] at ha
        exact Nat.succ_ne_zero j ((List.mem_singleton.1 ha).symm.trans e).symm
      · rw [if_neg hb] at ha; cases ha

theorem selIdx_length (q : α → Bool) : ∀ (l : List α), (selIdx q l).length = l.countP q := by
  intro l
  induction l with
  | nil => rfl
  | cons b l ih =>
    rw [selIdx, List.length_append, List.length_map, ih, List.countP_cons, Nat.add_comm]
    by_cases hb : q b = true
    · rw [if_pos hb, if_pos hb]; rfl
    · rw [if_neg hb, if_neg hb]; rfl

def selNames (q : α → Bool) : List (List α) → List (Nat × Nat)
  | [] => []
  | p :: ps => (selIdx q p).map (fun i => (0, i)) ++ (selNames q ps).map (fun x => (x.1 + 1, x.2))

theorem mem_selNames (q : α → Bool) : ∀ (ps : List (List α)) (x : Nat × Nat),
    x ∈ selNames q ps ↔ ∃ p a, ps[x.1]? = some p ∧ p[x.2]? = some a ∧ q a = true := by
  intro ps
  induction ps with
  | nil =>
    intro x
    constructor
    · intro h; cases h
    · rintro ⟨p, a, h, _⟩; rw [List.getElem?_nil] at h; cases h
  | cons p0 ps ih =>
    rintro ⟨t, i⟩
    rw [selNames, List.mem_append, List.mem_map, List.mem_map]
    cases t with
    | zero =>
      show _ ↔ ∃ p a, (p0 :: ps)[0]? = some p ∧ p[i]? = some a ∧ q a = true
      rw [List.getElem?_cons_zero]
      constructor
      · rintro (⟨i', hi', h⟩ | ⟨y, _, h⟩)
        · cases h
          obtain ⟨a, ha, hq⟩ := (mem_selIdx q p0 i).1 hi'
          exact ⟨p0, a, rfl, ha, hq⟩
        · exact absurd (Prod.mk.inj h).1 (Nat.succ_ne_zero y.1)
      · rintro ⟨p, a, hp, ha, hq⟩
        cases hp
        exact .inl ⟨i, (mem_selIdx q p0 i).2 ⟨a, ha, hq⟩, rfl⟩
    | succ t =>
      show _ ↔ ∃ p a, (p0 :: ps)[t + 1]? = some p ∧ p[i]? = some a ∧ q a = true
      rw [List.getElem?_cons_succ]
      constructor
      · rintro (⟨i', _, h⟩ | ⟨y, hy, h⟩)
        · exact absurd (Prod.mk.inj h).1.symm (Nat.succ_ne_zero t)
        · obtain ⟨h1, h2⟩ := Prod.mk.inj h
          have := (ih y).1 hy
          rw [Nat.succ.inj h1, h2] at this
          exact this
      · exact fun h => .inr ⟨(t, i), (ih (t, i)).2 h, rfl⟩

theorem selNames_nodup (q : α → Bool) : ∀ (ps : List (List α)), (selNames q ps).Nodup := by
  intro ps
  induction ps with
  | nil => exact List.nodup_nil
  | cons p0 ps ih =>
    rw [selNames, List.nodup_append]
    refine ⟨List.Pairwise.map _ (fun a b hab e => hab (Prod.mk.inj e).2) (selIdx_nodup q p0),
      List.Pairwise.map _ (fun a b hab e => hab (Prod.ext (Nat.succ.inj (Prod.mk.inj e).1) (Prod.mk.inj e).2)) ih, ?_⟩
    intro a ha c hc e
    obtain ⟨i, _, rfl⟩ := List.mem_map.1 ha
    obtain ⟨y, _, rfl⟩ := List.mem_map.1 hc
    exact Nat.succ_ne_zero y.1 (Prod.mk.inj e).1.symm

theorem selNames_length (q : α → Bool) : ∀ (ps : List (List α)),
    (selNames q ps).length = ps.flatten.countP q := by
  intro ps
  induction ps with
  | nil => rfl
  | cons p0 ps ih =>
    rw [selNames, List.length_append, List.length_map, List.length_map, selIdx_length, ih, List.flatten_cons,
      List.countP_append]

end Gobptree.Conc
