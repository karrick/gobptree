/-
  One scheduler step preserves `CInv` and respects the write frame.
-/
import Gobptree.Proofs.CSStep

namespace Gobptree.Conc
open Gobptree

variable {K V : Type}

/-- a stepping Delete holds `rootMutex`, so no other thread is about to rebalance -/
theorem others_no_hole {c : Config K V} (hinv : SInv c) {t j : Nat} {th b : Thread K V}
    (ht : c.threads[t]? = some th) (hen : th.enabled c = true) (hdel : isDelPark th.park = true)
    (hj : c.threads[j]? = some b) (hne : j ≠ t) : parkHole b.park = none := by
  cases hb : parkHole b.park with
  | none => rfl
  | some x =>
    have hbt := hole_holds_tree (hinv.cfg b (List.mem_of_getElem? hj)) hb
    exact absurd (del_stepHeld_tree (hinv.cfg th (List.mem_of_getElem? ht)) hdel)
      (stepHeld_excl hinv.owner ht hj hne hen hbt)

theorem hole_of_stepper {c : Config K V} (hinv : SInv c) {t : Nat} {th : Thread K V}
    (ht : c.threads[t]? = some th) (hen : th.enabled c = true) (hdel : isDelPark th.park = true) :
    holeOf c.threads = parkHole th.park :=
  holeOf_eq_of_others_none c.threads t th ht fun _ _ hj hne => others_no_hole hinv ht hen hdel hj hne

theorem del_stepper_pre {c : Config K V} (hinv : CInv c) {t : Nat} {th : Thread K V}
    (ht : c.threads[t]? = some th) (hen : th.enabled c = true) {k : Kont K V} (hk : th.park.kont? = some k)
    (hdel : isDelK k = true) : Pre c.P (kontHole k) (stepSt c t th) ∧ 4 ≤ c.tree.order := by
  have hS := hinv.s
  have htm := List.mem_of_getElem? ht
  have hdp : isDelPark th.park = true := (isDelPark_kont hk).trans hdel
  have hhole : holeOf c.threads = kontHole k := by
    rw [hole_of_stepper hS ht hen hdp, parkHole_kont hk (hS.cfg th htm).2.2]
  exact ⟨⟨hhole ▸ hS.tree, hS.order, hS.pad⟩, hinv.four htm hdp⟩

theorem step_cstep_of (B : Blocks K V) {c c' : Config K V} {t : Nat} (hstep : c.step t = some c') (hinv : CInv c) :
    ∃ th r, CStep c c' t th r := by
  obtain ⟨th, r, S⟩ := step_stepped hstep
  have ht := S.get
  have hen := S.enabled
  have htm : th ∈ c.threads := List.mem_of_getElem? ht
  have hS := hinv.s
  have hok := hS.cfg th htm
  obtain ⟨hole', hout, hD, hU⟩ := runThread_sinv B c t th
    (holeOf c.threads) ⟨hS.tree, hS.order, hS.pad⟩ hok (hS.threads th htm) (hinv.disc th htm) S.nf
    (fun hdel => hole_of_stepper hS ht hen hdel) (fun hdel => hinv.four htm hdel)
  rw [← S.run] at hout hD hU
  have hT := S.tree
  have halive : c'.dead = false := by rw [S.dead, hinv.alive, hout.alive]; rfl
  have hcfg' : ConfigOk c' := step_ok c c' t hstep hS.cfg halive
  have hown' : OwnerOk c' := owner_step c c' t hstep hS.owner hS.cfg
  have hframe : StepFrame c c' th := by
    refine ⟨fun id h1 h2 => ?_, fun hnt => ?_⟩ <;> rw [hT]
    · exact (hout.frame.lookup id (keepOf_true h1 h2)).symm
    · exact hout.root.resolve_left hnt
  have horder : c'.tree.order = c.tree.order := by rw [hT]; exact hout.order
  have hother : ∀ j b, j ≠ t → c.threads[j]? = some b →
      ThreadSOk c'.tree b ∧ parkExtra c'.tree b.park = parkExtra c.tree b.park :=
    fun j b hne hj => (other_kept hS ht hj hne hen hframe).sok (hS.cfg b (List.mem_of_getElem? hj))
      (hS.threads b (List.mem_of_getElem? hj)) horder
  have hnew_held : ∀ x ∈ r.1.held, x ∈ stepHeld th := by
    rw [S.run]; exact newHeld_sub c.P t th _ rfl hok
  have htreeOk : TreeOk (holeOf c'.threads) c'.tree := by
    rw [hT]
    have hTO := hout.tree
    cases hdel : isDelPark th.park with
    | true =>
      have : holeOf c'.threads = parkHole r.1.park :=
        holeOf_eq_of_others_none c'.threads t r.1 S.own fun j b hj hne =>
          others_no_hole hS ht hen hdel ((S.other hne).symm.trans hj) hne
      rw [this, ← hD hdel]; exact hTO
    | false =>
      obtain ⟨h1, h2⟩ := hU hdel
      have : holeOf c'.threads = holeOf c.threads := by
        rw [S.threads]; exact holeOf_set_none c.threads t th r.1 ht (parkHole_of_not_del hdel) h2
      rw [this, ← h1]; exact hTO
  have hsok : ThreadSOk c'.tree r.1 := by rw [hT]; exact hout.sok
  have hextra : ∀ x ∈ parkExtra c'.tree r.1.park, c.tree.nextId ≤ x := by rw [hT]; exact hout.extra
  refine ⟨th, r, S, hinv, ⟨⟨htreeOk, S.all hsok fun j b hne hj => (hother j b hne hj).1, ?_, ?_, hcfg', hown', ?_⟩,
    S.all hout.disc fun j b _ hj => hinv.disc b (List.mem_of_getElem? hj), halive, ?_⟩, hframe⟩
  · rw [horder, S.P]; exact hS.order
  · rw [S.P]; exact hS.pad
  · -- extra: what thread `i` relies on, thread `j ≠ i` neither holds nor waits for
    intro i j a b hi hj hij x hx
    by_cases ei : i = t
    · -- the stepping thread's extras are fresh
      subst ei
      cases Option.some.inj (hi.symm.trans S.own)
      have hjo := (S.other (Ne.symm hij)).symm.trans hj
      have hfresh := hextra x hx
      have hlt := fun h => (thread_present hS.tree.ids hS.tree.chain (hS.cfg b (List.mem_of_getElem? hjo))
        (hS.threads b (List.mem_of_getElem? hjo)) x h).elim fun _ hsh => look_lt_nextId hS.tree.ids hsh
      exact ⟨fun hh => Nat.not_lt.2 hfresh (hlt (Or.inl hh)), fun hh => Nat.not_lt.2 hfresh (hlt (Or.inr (Or.inl hh)))⟩
    · have hio := (S.other ei).symm.trans hi
      have hxo : x ∈ parkExtra c.tree a.park := by rw [← (hother i a ei hio).2]; exact hx
      by_cases ej : j = t
      · -- `b` is the stepping thread
        subst ej
        cases Option.some.inj (hj.symm.trans S.own)
        have hnotheld : ∀ y ∈ parkExtra c.tree a.park, Lk.node y ∉ r.1.held :=
          fun y hy hh => extra_excl hS ht hio hij hy (hnew_held _ hh)
        refine ⟨hnotheld x hxo, fun hw => ?_⟩
        -- the node the stepping thread now waits for is one of `a`'s extras: impossible
        obtain ⟨ka, hka⟩ := Park.kont?_of_extra hx
        obtain ⟨kb, hkb⟩ := Park.kont?_of_want hw
        have hpa := parked_of (hS.cfg a (List.mem_of_getElem? hio)) hka
        have hpb := parked_of (hcfg' r.1 (List.mem_of_getElem? S.own)) hkb
        have hea := parkExtra_kont hka c'.tree
        rw [hea] at hx
        rcases want_extra_conflict htreeOk.ids htreeOk.chain ka kb a.cursor r.1.cursor
            ((parkKontOk_kont hka _).mp (hother i a ei hio).1.1) ((parkKontOk_kont hkb _).mp hsok.1)
            hpa.pre hpb.pre x (hpb.lock.trans hw) hx with ⟨l, hl1, hl2⟩ | ⟨y, hy1, hy2⟩ | h3
        · -- a common mutex
          exact hij (held_excl hown' hi S.own ((hpa.held l).2 (List.mem_append_left _ hl1)) ((hpb.held l).2 hl2))
        · have hyo : y ∈ parkExtra c.tree a.park := by rw [← (hother i a ei hio).2, hea]; exact hy1
          exact hnotheld y hyo ((hpb.held _).2 (List.mem_append_left _ hy2))
        · exact Nat.not_lt.2 (hextra x (by rw [parkExtra_kont hkb]; exact h3))
            (other_outside hS ht hio ei hen (Or.inr hxo)).1
      · exact hS.extra i j a b hio ((S.other ej).symm.trans hj) hij x hxo
  · -- order ≥ 4, or nobody deletes
    rcases hinv.del4 with h4 | hnd
    · left; rw [horder]; exact h4
    · exact Or.inr (S.nodel_all hnd)

theorem step_cinv (B : Blocks K V) (c c' : Config K V) (t : Nat) (hstep : c.step t = some c') (hinv : CInv c) :
    CInv c' ∧ ∃ th, c.threads[t]? = some th ∧ StepFrame c c' th :=
  let ⟨th, _, F⟩ := step_cstep_of B hstep hinv
  ⟨F.inv', th, F.get, F.frame⟩

end Gobptree.Conc
