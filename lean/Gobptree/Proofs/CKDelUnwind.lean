/-
  Delete's unwinding (`delUnwind`, `delRightArrive`) is a chain of `DStep`s that leaves the
  abstract map alone; the descent (`delGo`) erases the key when it reaches the leaf and then
  unwinds.  Both layers read their outcome off the one `DStep`.
-/
import Gobptree.Proofs.CIDelStep
import Gobptree.Proofs.ConcBlocks
import Gobptree.Proofs.CSDelUnwind

namespace Gobptree.Conc
open Gobptree

variable {K V : Type} {lt : K → K → Bool}

/-- the unwinding from a state `s`: one `DStep`, the abstract map as it was, and the flow is past the
    leaf (`postLeaf`: it returns, or goes on to unlock to the right) -/
structure DOut (lt : K → K → Bool) (H : List Lk) (s s' : St K V) (fl : Flow K V) : Prop where
  step : DStep lt (fun x => Lk.node x ∈ H) s.tree s'.tree
  abs : s'.tree.abs = s.tree.abs
  post : postLeaf fl

/-- the descent from a state `s`: one `DStep`; the key is erased exactly if the stretch got past the
    leaf; a park on the way down is on the key's route -/
structure GoOut (lt : K → K → Bool) (H : List Lk) (key : K) (s s' : St K V) (fl : Flow K V) : Prop where
  step : DStep lt (fun x => Lk.node x ∈ H) s.tree s'.tree
  erased : postLeaf fl → s'.tree.abs = Spec.erase lt s.tree.abs key
  same : ¬ postLeaf fl → s'.tree.abs = s.tree.abs
  kpos : ∀ p, fl = .park p → parkKPos lt s'.tree p

theorem kpos_of_postLeaf {fl : Flow K V} (t : Tree K V) (hpl : postLeaf fl) :
    ∀ p, fl = .park p → parkKPos lt t p := by
  intro p hp
  subst hp
  cases p with
  | want l k =>
    cases k with
    | delRight key rest fr right root => trivial
    | _ => exact False.elim hpl
  | _ => exact False.elim hpl

theorem delUnwind_out (h : SWO lt) (P : Params K) (hp : PadOk P) (t : Nat) (key : K) (root : Nat) (H : List Lk)
    (hroot : Lk.node root ∈ H) :
    (∀ (frames : List Frame) (s : St K V) (small : Bool) (top : Nat), UInv P root s frames small top →
      (∀ l ∈ framesHeld frames, l ∈ H) → OrdTree lt s.tree →
      DOut lt H s (delUnwind P t s key frames small root).1 (delUnwind P t s key frames small root).2) ∧
    (∀ (s : St K V) (rest : List Frame) (fr : Frame) (right : Nat), UInv P root s (fr :: rest) true fr.child →
      (∀ l ∈ framesHeld (fr :: rest), l ∈ H) → s.tree.kidAt fr.node (fr.index + 1) = some right →
      Lk.node right ∈ H → OrdTree lt s.tree →
      DOut lt H s (delRightArrive P t s key rest fr right root).1 (delRightArrive P t s key rest fr right root).2) :=
  delUnwind_induct P hp t key root H hroot (I := fun s => OrdTree lt s.tree)
    (Q := fun (s : St K V) r => DOut lt H s r.1 r.2)
    (hfin := fun s small hok hrH hO => by
      obtain ⟨h1, -, h3⟩ := delFinish_tree t s small root
      obtain ⟨st, habs⟩ := finish_dstep h (fun x => Lk.node x ∈ H) hok hO hrH
      rw [← h1] at st habs
      exact ⟨st, habs, by rw [h3]; trivial⟩)
    (hskip := fun s fr hO => ⟨by simpa using hO, fun r this =>
      ⟨by simpa using this.step, by simpa using this.abs, this.post⟩⟩)
    (hpark := fun s rest fr right _ _ hO => ⟨DStep.refl h _ hO, rfl, trivial⟩)
    (hreb := fun s rest fr right _ _ _ _ _ ra hO => by
      obtain ⟨st, habs⟩ := rebalance_dstep h P hp (fun x => Lk.node x ∈ H) ra.inv.ok ra.inv.order ra.find
        ra.inv.frames.2.1.1 (ra.inv.small rfl) hO ra.heldNode ra.heldKids ra.kid ra.eval ra.next.ok.ids.1
      exact ⟨by simpa using st.ord, fun r this =>
        ⟨st.trans h (by simpa using this.step), by rw [this.abs]; simpa using habs, this.post⟩⟩)

theorem delGo_out (h : SWO lt) (P : Params K) (hP : P.lt = lt) (hp : PadOk P) (t : Nat) (key : K) (root : Nat)
    (H : List Lk) (hroot : Lk.node root ∈ H)
    (s : St K V) (frames : List Frame) (n : Nat)
    (hok : TreeOk none s.tree) (h4 : 4 ≤ s.tree.order) (hord : s.tree.order = P.order)
    (hrootEq : root = s.tree.rootId)
    (hfr : FramesOk s.tree root frames n) (hH : ∀ l ∈ framesHeld frames, l ∈ H)
    (hO : OrdTree lt s.tree) (hon : OnRoute lt s.tree key n) :
    GoOut lt H key s (delGo P t s key frames n root).1 (delGo P t s key frames n root).2 :=
  delGo_descend P t key root H hroot (Q := fun r => GoOut lt H key s r.1 r.2) s frames n hok h4 hord hrootEq hfr hH
    (hleaf := fun hf heval _ hinv hnH => by
      obtain ⟨st, habs⟩ := leaf_dstep h P hP (fun x => Lk.node x ∈ H) (hok.prime h4) hf hO key hon hnH
        (P.order >>> 1) heval hinv.ok.ids.1
      have := (delUnwind_out h P hp t key root H hroot).1 frames _ _ n hinv hH st.ord
      exact ⟨st.trans h this.step, fun _ => by rw [this.abs]; exact habs, fun hn => absurd this.post hn,
        kpos_of_postLeaf _ this.post⟩)
    (hleft := fun _ _ hf _ _ _ => ⟨DStep.refl h _ hO, fun hpl => False.elim hpl, fun _ => rfl, fun p hp => by
      cases hp
      exact ⟨hon, by rw [keysOf_find hf, hP]⟩⟩)
    (hchild := fun _ hf _ _ => ⟨DStep.refl h _ hO, fun hpl => False.elim hpl, fun _ => rfl, fun p hp => by
      cases hp
      exact ⟨hon, by rw [keysOf_find hf, hP]⟩⟩)

end Gobptree.Conc
