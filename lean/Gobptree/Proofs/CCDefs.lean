/-
  C04: cursors.  The part of the abstract map that lies AHEAD of an open cursor, and the
  invariant that it is exactly the pairs of the map beyond the cursor's bound.
-/
import Gobptree.Proofs.CKDefs
import Gobptree.Proofs.CSDefs

namespace Gobptree.Conc
open Gobptree

variable {K V : Type}

def shPairs (sh : Shallow K V) : List (K × V) := sh.keys.zip sh.vals

/-- the pairs after position `i` of leaf `leaf`, followed by the pairs of all later leaves -/
def aheadIn (leaf : Nat) (i : Int) : List (Nat × Shallow K V) → List (K × V)
  | [] => []
  | p :: rest =>
    if p.1 = leaf then (shPairs p.2).drop (i + 1).toNat ++ rest.flatMap (fun q => shPairs q.2)
    else aheadIn leaf i rest

/-- what a cursor resting at `(leaf, i)` has still in front of it -/
def _root_.Gobptree.Tree.ahead (t : Tree K V) (leaf : Nat) (i : Int) : List (K × V) :=
  aheadIn leaf i (flatLeaves t.flat)

/-- what a cursor is bound by: the start key of `NewScanner` (inclusive) until the first
    `Scan` has returned a pair, afterwards the last key returned (exclusive) -/
inductive Bound (K : Type) where
  | ge (start : K)
  | gt (cur : K)

def Bound.admits (lt : K → K → Bool) : Bound K → K → Bool
  | .ge s, k => !lt k s
  | .gt c, k => lt c k

/-- position of an open cursor with respect to its bound `b`: the leaf is on the search path
    of the bound's key, and inside the leaf exactly the pairs after index `i` are admitted -/
def CurPos (lt : K → K → Bool) (t : Tree K V) (b : Bound K) (leaf : Nat) (i : Int) : Prop :=
  ∃ sh, t.look leaf = some sh ∧ sh.height = 0 ∧
    (∀ (j : Nat) (k : K), sh.keys[j]? = some k → (b.admits lt k = true ↔ i < (j : Int))) ∧
    match b with
    | .ge s => OnRoute lt t s leaf
    | .gt c => ∃ j : Nat, (j : Int) = i ∧ sh.keys[j]? = some c

/-- cursor invariant of a thread: some bound describes its open cursor -/
def CursorPos (lt : K → K → Bool) (t : Tree K V) (th : Thread K V) : Prop :=
  match th.cursor with
  | some (some leaf, i) => ∃ b, CurPos lt t b leaf i
  | _ => True

/-- what the invariant buys: ahead of the cursor lie exactly the admitted pairs of the map -/
def AheadSpec (lt : K → K → Bool) (t : Tree K V) (b : Bound K) (leaf : Nat) (i : Int) : Prop :=
  t.ahead leaf i = t.abs.filter (fun p => b.admits lt p.1)

end Gobptree.Conc
