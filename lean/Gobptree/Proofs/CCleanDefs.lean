/-
  `FinishedClean` from a static condition on the programs: the per-thread step.

  `endSt st p` is the abstract cursor state (`CSt`, the automaton of `CSDisc`) a program `p`
  ends in when started in `st` (`none`: the automaton rejects `p`).  `Closing progs` asks every
  program to end in `N` (no cursor open): every `NewScanner` is eventually followed by a
  `Close`.  The per-thread invariant `CloseOk` strengthens `DiscOk`: the rest of the program
  leads from the state the current operation ends in to `N`, and a FINISHED thread has no
  cursor leaf (`cursorLocks cursor = []`).
-/
import Gobptree.Proofs.CSFinal

namespace Gobptree.Conc
open Gobptree

variable {K V : Type}

def endSt : CSt → List (COp K V) → Option CSt
  | st, [] => some st
  | st, op :: rest =>
    match discStep st op with
    | none => none
    | some st' => endSt st' rest

def Closing (progs : List (List (COp K V))) : Prop := ∀ p ∈ progs, endSt .N p = some .N

theorem endSt_cons {st st2 : CSt} {op : COp K V} {rest : List (COp K V)}
    (h : endSt st (op :: rest) = some st2) : ∃ st', discStep st op = some st' ∧ endSt st' rest = some st2 := by
  unfold endSt at h
  cases hs : discStep st op with
  | none => rw [hs] at h; cases h
  | some st' => rw [hs] at h; exact ⟨st', rfl, h⟩

theorem disciplined_of_endSt : ∀ (p : List (COp K V)) (st st' : CSt), endSt st p = some st' → disciplined st p = true := by
  intro p
  induction p with
  | nil => intro st st' _; rfl
  | cons op rest ih =>
    intro st st' h
    obtain ⟨st1, hs, h1⟩ := endSt_cons h
    unfold disciplined
    rw [hs]
    exact ih st1 st' h1

theorem Closing.disciplined {progs : List (List (COp K V))} (h : Closing progs) : Disciplined progs :=
  fun p hp => disciplined_of_endSt p .N .N (h p hp)

def CloseOk (th : Thread K V) : Prop :=
  match th.park with
  | .start => endSt .N th.prog = some .N ∧ th.cursor = none
  | .finished => cursorLocks th.cursor = []
  | .want _ k => ∃ st', endSt st' (th.prog.drop (th.pc + 1)) = some .N ∧ kontAbs st' k th.cursor th.exhausted
  | .yielded k => ∃ st', endSt st' (th.prog.drop (th.pc + 1)) = some .N ∧ kontAbs st' k th.cursor th.exhausted

def CurGe (c : Option (Option Nat × Int)) : Prop := ∀ leaf i, c = some (some leaf, i) → -1 ≤ i

theorem CursorOut.curGe {t : Nat} {s : St K V} {op : COp K V} {r : St K V × Flow K V} (h : CursorOut t s op r)
    (hg : CurGe s.cursor) : CurGe r.1.cursor := by
  cases h with
  | scanEnd => intro l' i' e; cases e
  | scanHop hc => intro l' i' e; cases e; exact Int.le_add_one (hg _ _ hc)
  | scanNext hc => intro l' i' e; cases e; exact Int.le_add_one (hg _ _ hc)
  | close => intro l' i' e; cases e
  | _ => exact hg

theorem startOp_curGe (t : Nat) (s : St K V) (op : COp K V) (h : CurGe s.cursor) :
    CurGe (startOp t s op).1.cursor :=
  startOp_cases t s op (Q := fun r => CurGe r.1.cursor) (fun _ _ _ => h) (fun _ _ _ => h) (fun _ _ ho => ho.curGe h) (fun _ => h)

theorem roArrive_curGe (P : Params K) (t : Nat) (s : St K V) (sc : Bool) (key : K) (hold : Lk) (n : Nat)
    (h : CurGe s.cursor) : CurGe (roArrive P t s sc key hold n).1.cursor :=
  roArrive_cases P t s sc key hold n (Q := fun r => CurGe r.1.cursor) h
    (fun _ idx l' i' e => by cases e; omega)
    (fun _ => h) (fun _ => h)

theorem resume_curGe (P : Params K) (t : Nat) (s : St K V) (k : Kont K V) (h : CurGe s.cursor) :
    CurGe (resume P t s k).1.cursor := by
  cases hsc : setsCursor k with
  | false => rw [(resume_cursor_same P t s k hsc).1]; exact h
  | true =>
    cases k with
    | roNode sc key hold want => simp only [resume]; exact roArrive_curGe P t _ sc key hold want h
    | hop cur next =>
      intro l' i' e
      simp only [resume, Option.some.injEq, Prod.mk.injEq] at e
      omega
    | _ => simp [setsCursor] at hsc

theorem closeOk_kont {th : Thread K V} {k : Kont K V} (hk : th.park.kont? = some k) :
    CloseOk th ↔ ∃ st', endSt st' (th.prog.drop (th.pc + 1)) = some .N ∧ kontAbs st' k th.cursor th.exhausted := by
  unfold CloseOk
  cases hp : th.park <;> rw [hp] at hk <;> cases hk <;> exact Iff.rfl

theorem endSt_drop {l : List (COp K V)} {i : Nat} {op : COp K V} (hop : l[i]? = some op) {st : CSt}
    (h : endSt st (l.drop i) = some .N) : ∃ st', discStep st op = some st' ∧ endSt st' (l.drop (i + 1)) = some .N := by
  obtain ⟨hlt, hget⟩ := List.getElem?_eq_some_iff.1 hop
  rw [List.drop_eq_getElem_cons hlt, hget] at h
  exact endSt_cons h

/-- The loop invariant: the discipline automaton, run on the rest of the program from the abstraction of
    the present flow, ends in `N`.  The fuel matters: a thread that stops must have run off its program
    (the `hfin` case of `runThread_induct`), for only then does the end state `N` say that no cursor
    leaf is left. -/
theorem runThread_close (P : Params K) (t : Nat) (th : Thread K V) (s0 : St K V)
    (hc0 : s0.cursor = th.cursor) (he0 : s0.exhausted = th.exhausted)
    (hok : ThreadOk th) (hge : CurGe th.cursor) (hcl : CloseOk th)
    (hd : (runThread P t th s0).2.2 = false) : CloseOk (runThread P t th s0).1 := by
  have hstart : th.park = .start → endSt .N th.prog = some .N ∧ th.cursor = none := fun hs => by
    unfold CloseOk at hcl; rw [hs] at hcl; exact hcl
  refine runThread_induct P t th s0
    (fun s fl pc => (∃ st', endSt st' (th.prog.drop (pc + 1)) = some .N ∧ flowAbs st' fl s.cursor s.exhausted) ∧
      CurGe s.cursor ∧ ∀ p, fl = .park p → parkLive p)
    (fun r => r.2.2 = false → CloseOk r.1) ?_ (fun _ _ _ h => by cases h) ?_ ?_ (fun _ _ => hcl) ?_ ?_ ?_ hd
  · rintro s p pc ⟨hd, _, hl⟩ _
    obtain ⟨k, hk⟩ := parkLive_iff_kont.1 (hl p rfl)
    rw [closeOk_kont (k := k) hk]
    cases p <;> cases hk <;> exact hd
  · rintro s r pc ⟨⟨st', h1, h2⟩, _, _⟩ hlen _
    rw [List.drop_eq_nil_of_le hlen] at h1
    cases h1
    exact h2
  · rintro s r pc op ⟨⟨st', hd1, hd2⟩, hc, _⟩ hop
    obtain ⟨st'', hstep, hrest⟩ := endSt_drop hop hd1
    have habs := startOp_abs t ((s.note t (.ret pc r)).note t (.inv (pc + 1))) op st' st'' hd2 hstep hc
    exact ⟨⟨st'', hrest, habs.2⟩, startOp_curGe t _ op hc, fun p hp => startOp_park_live t _ op p hp⟩
  · intro hs _ _
    show cursorLocks th.cursor = []
    rw [(hstart hs).2]; rfl
  · intro op hs hop
    obtain ⟨st'', hstep, hrest⟩ := endSt_drop hop (hstart hs).1
    have hs1c : (s0.note t (.inv 0)).cursor = none := by show s0.cursor = none; rw [hc0, (hstart hs).2]
    have hge1 : CurGe (s0.note t (.inv 0)).cursor := by
      intro leaf i e; rw [hs1c] at e; cases e
    have habs := startOp_abs t (s0.note t (.inv 0)) op .N st''
      (by show cursorLocks (s0.note t (.inv 0)).cursor = []; rw [hs1c]; rfl) hstep hge1
    exact ⟨⟨st'', hrest, habs.2⟩, startOp_curGe t _ op hge1, fun p hp' => startOp_park_live t _ op p hp'⟩
  · intro k hk
    obtain ⟨st', h1, h2⟩ := (closeOk_kont hk).1 hcl
    have hkp : KontPre s0.cursor k := by rw [hc0, ← parkPre_kont hk]; exact hok.2.1
    exact ⟨⟨st', h1, resume_abs P t s0 k st' (by rw [hc0, he0]; exact h2) hkp⟩,
      resume_curGe P t s0 k (by rw [hc0]; exact hge), fun p hp' => resume_park_live P t s0 k p hp'⟩

end Gobptree.Conc
