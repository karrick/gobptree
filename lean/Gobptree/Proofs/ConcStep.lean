/-
  How one scheduler decision of `Conc.lean` decomposes: `Config.step` runs `runThread` on the
  stepping thread's view of the configuration (`stepSt`), `runThread` resumes the parked
  continuation (or starts the first operation) and hands over to `threadLoop`, which records
  returns and starts the following operations until the thread parks, finishes or panics.
  Every invariant of the small-step model is proved by going through these three layers, so
  their shapes are stated once here.

  Two words used throughout the concurrent proofs.  A STRETCH is the code one call of `resume`
  or `startOp` runs: from a park (or the beginning of an operation) to the next park, or to the
  operation's return; a scheduler step is the resumed stretch followed by the first stretches of
  the following operations, as long as they return without parking.  A BLOCK is one of the
  functions of Conc.lean a stretch is made of (`roArrive`, `upContinue`, `upLeaf`,
  `upChildArrive`, `upRootArrive`, `delGo`, `delUnwind`, `delRightArrive`, `delFinish`):
  `resume` dispatches to them, and they chain (`upChildArrive` goes on with `upContinue`, …).
-/
import Gobptree.Conc

namespace Gobptree.Conc
open Gobptree

variable {K V : Type}

def stepSt (c : Config K V) (t : Nat) (th : Thread K V) : St K V :=
  { tree := c.tree, owner := c.owner, held := th.held, cursor := th.cursor,
    exhausted := th.exhausted, evs := Ev.dec t c.enabledSet :: c.log }

theorem enabled_not_finished {c : Config K V} {th : Thread K V} (h : th.enabled c = true) : th.park ≠ .finished := by
  intro hp
  unfold Thread.enabled at h
  rw [hp] at h
  cases h

theorem step_of_enabled {c : Config K V} {t : Nat} {th : Thread K V} (hth : c.threads[t]? = some th)
    (hen : th.enabled c = true) : ∃ c', c.step t = some c' := by
  unfold Config.step
  simp only [hth, hen, Bool.not_true, Bool.false_eq_true, if_false]
  exact ⟨_, rfl⟩

theorem run_nil (c : Config K V) : c.run [] = (c, none) := rfl

theorem run_cons (c : Config K V) (t : Nat) (ts : List Nat) :
    c.run (t :: ts) = match c.step t with
      | none => (c, some t)
      | some c' => c'.run ts := rfl

theorem run_step {c c' : Config K V} {t : Nat} (h : c.step t = some c') (ts : List Nat) :
    c.run (t :: ts) = c'.run ts := by
  rw [run_cons, h]

theorem run_induct {M : List Nat → Config K V → Config K V → Prop} (nil : ∀ c, M [] c c)
    (cons : ∀ t ts c c1 c', c.step t = some c1 → c1.run ts = (c', none) → M ts c1 c' → M (t :: ts) c c') :
    ∀ ts c c', c.run ts = (c', none) → M ts c c' := by
  intro ts
  induction ts with
  | nil => intro c c' h; cases h; exact nil c
  | cons t ts ih =>
    intro c c' h
    rw [run_cons] at h
    cases hs : c.step t with
    | none => rw [hs] at h; cases h
    | some c1 => rw [hs] at h; exact cons t ts c c1 c' hs h (ih c1 c' h)

theorem runThread_finished (P : Params K) (t : Nat) (th : Thread K V) (s : St K V) (hp : th.park = .finished) :
    runThread P t th s = (th, s, false) := by
  simp only [runThread, hp]

theorem runThread_want (P : Params K) (t : Nat) (th : Thread K V) (s : St K V) {l : Lk} {k : Kont K V}
    (hp : th.park = .want l k) :
    runThread P t th s = threadLoop t th th.prog.length (resume P t s k).1 (resume P t s k).2 th.pc := by
  simp only [runThread, hp]

theorem runThread_yielded (P : Params K) (t : Nat) (th : Thread K V) (s : St K V) {k : Kont K V}
    (hp : th.park = .yielded k) :
    runThread P t th s = threadLoop t th th.prog.length (resume P t s k).1 (resume P t s k).2 th.pc := by
  simp only [runThread, hp]

theorem runThread_start (P : Params K) (t : Nat) (th : Thread K V) (s : St K V) {op : COp K V}
    (hp : th.park = .start) (hop : th.prog[0]? = some op) :
    runThread P t th s = threadLoop t th th.prog.length (startOp t (s.note t (.inv 0)) op).1
      (startOp t (s.note t (.inv 0)) op).2 0 := by
  simp only [runThread, hp, hop]

theorem runThread_start_nil (P : Params K) (t : Nat) (th : Thread K V) (s : St K V)
    (hp : th.park = .start) (hop : th.prog[0]? = none) :
    runThread P t th s = ({ th with park := .finished }, s, false) := by
  simp only [runThread, hp, hop]

def Park.kont? : Park K V → Option (Kont K V)
  | .want _ k => some k
  | .yielded k => some k
  | _ => none

/-- one induction for every fact about the loop of operations of a step: `I` is what holds of
    (state, flow, pc) each time the loop is entered, `Q` what is wanted of its result -/
theorem threadLoop_induct (t : Nat) (th : Thread K V) (I : St K V → Flow K V → Nat → Prop)
    (Q : Thread K V × St K V × Bool → Prop)
    (hpark : ∀ s p pc, I s (.park p) pc →
      Q ({ th with pc := pc, park := p, held := s.held, cursor := s.cursor, exhausted := s.exhausted }, s, false))
    (hpanic : ∀ s pc, I s .panic pc →
      Q ({ th with pc := pc, park := .finished, held := s.held, cursor := s.cursor, exhausted := s.exhausted },
        s.note t (.ret pc .panic), true))
    (hfin : ∀ s r pc, I s (.done r) pc →
      Q ({ th with pc := pc + 1, park := .finished, held := s.held, cursor := s.cursor, exhausted := s.exhausted },
        s.note t (.ret pc r), false))
    (hstep : ∀ s r pc op, I s (.done r) pc → th.prog[pc + 1]? = some op →
      I (startOp t ((s.note t (.ret pc r)).note t (.inv (pc + 1))) op).1
        (startOp t ((s.note t (.ret pc r)).note t (.inv (pc + 1))) op).2 (pc + 1)) :
    ∀ (fuel : Nat) (s : St K V) (fl : Flow K V) (pc : Nat), I s fl pc → Q (threadLoop t th fuel s fl pc) := by
  intro fuel
  induction fuel with
  | zero =>
    intro s fl pc hi
    cases fl with
    | panic => simp only [threadLoop]; exact hpanic s pc hi
    | park p => simp only [threadLoop]; exact hpark s p pc hi
    | done r => simp only [threadLoop]; exact hfin s r pc hi
  | succ fuel ih =>
    intro s fl pc hi
    cases fl with
    | panic => simp only [threadLoop]; exact hpanic s pc hi
    | park p => simp only [threadLoop]; exact hpark s p pc hi
    | done r =>
      unfold threadLoop
      cases hop : th.prog[pc + 1]? with
      | none => simp only; exact hfin s r pc hi
      | some op => simp only; exact ih _ _ _ (hstep s r pc op hi hop)

/-- the same with the fuel in view: a loop that stops after a return has run off the program,
    provided the fuel covers the rest of the program (as it does in `runThread`) -/
theorem threadLoop_induct_len (t : Nat) (th : Thread K V) (I : St K V → Flow K V → Nat → Prop)
    (Q : Thread K V × St K V × Bool → Prop)
    (hpark : ∀ s p pc, I s (.park p) pc →
      Q ({ th with pc := pc, park := p, held := s.held, cursor := s.cursor, exhausted := s.exhausted }, s, false))
    (hpanic : ∀ s pc, I s .panic pc →
      Q ({ th with pc := pc, park := .finished, held := s.held, cursor := s.cursor, exhausted := s.exhausted },
        s.note t (.ret pc .panic), true))
    (hfin : ∀ s r pc, I s (.done r) pc → th.prog.length ≤ pc + 1 →
      Q ({ th with pc := pc + 1, park := .finished, held := s.held, cursor := s.cursor, exhausted := s.exhausted },
        s.note t (.ret pc r), false))
    (hstep : ∀ s r pc op, I s (.done r) pc → th.prog[pc + 1]? = some op →
      I (startOp t ((s.note t (.ret pc r)).note t (.inv (pc + 1))) op).1
        (startOp t ((s.note t (.ret pc r)).note t (.inv (pc + 1))) op).2 (pc + 1)) :
    ∀ (fuel : Nat) (s : St K V) (fl : Flow K V) (pc : Nat), th.prog.length ≤ pc + 1 + fuel → I s fl pc →
      Q (threadLoop t th fuel s fl pc) := by
  intro fuel
  induction fuel with
  | zero =>
    intro s fl pc hlen hi
    cases fl with
    | panic => simp only [threadLoop]; exact hpanic s pc hi
    | park p => simp only [threadLoop]; exact hpark s p pc hi
    | done r => simp only [threadLoop]; exact hfin s r pc hi hlen
  | succ fuel ih =>
    intro s fl pc hlen hi
    cases fl with
    | panic => simp only [threadLoop]; exact hpanic s pc hi
    | park p => simp only [threadLoop]; exact hpark s p pc hi
    | done r =>
      unfold threadLoop
      cases hop : th.prog[pc + 1]? with
      | none => simp only; exact hfin s r pc hi (List.getElem?_eq_none_iff.1 hop)
      | some op =>
        simp only
        exact ih _ _ _ (by rw [Nat.add_right_comm]; exact hlen) (hstep s r pc op hi hop)

/-- the loop run on two states side by side: `I` relates the two states at loop entry (same
    flow, same `pc`), `Q` the two results; an operation started in related states must end in
    related states with the same flow -/
theorem threadLoop_induct₂ (t : Nat) (th : Thread K V) (I : St K V → St K V → Flow K V → Nat → Prop)
    (Q : Thread K V × St K V × Bool → Thread K V × St K V × Bool → Prop)
    (hpark : ∀ s1 s2 p pc, I s1 s2 (.park p) pc →
      Q ({ th with pc := pc, park := p, held := s1.held, cursor := s1.cursor, exhausted := s1.exhausted }, s1, false)
        ({ th with pc := pc, park := p, held := s2.held, cursor := s2.cursor, exhausted := s2.exhausted }, s2, false))
    (hpanic : ∀ s1 s2 pc, I s1 s2 .panic pc →
      Q ({ th with pc := pc, park := .finished, held := s1.held, cursor := s1.cursor, exhausted := s1.exhausted },
          s1.note t (.ret pc .panic), true)
        ({ th with pc := pc, park := .finished, held := s2.held, cursor := s2.cursor, exhausted := s2.exhausted },
          s2.note t (.ret pc .panic), true))
    (hfin : ∀ s1 s2 r pc, I s1 s2 (.done r) pc →
      Q ({ th with pc := pc + 1, park := .finished, held := s1.held, cursor := s1.cursor, exhausted := s1.exhausted },
          s1.note t (.ret pc r), false)
        ({ th with pc := pc + 1, park := .finished, held := s2.held, cursor := s2.cursor, exhausted := s2.exhausted },
          s2.note t (.ret pc r), false))
    (hstep : ∀ s1 s2 r pc op, I s1 s2 (.done r) pc → th.prog[pc + 1]? = some op →
      I (startOp t ((s1.note t (.ret pc r)).note t (.inv (pc + 1))) op).1
        (startOp t ((s2.note t (.ret pc r)).note t (.inv (pc + 1))) op).1
        (startOp t ((s1.note t (.ret pc r)).note t (.inv (pc + 1))) op).2 (pc + 1) ∧
      (startOp t ((s1.note t (.ret pc r)).note t (.inv (pc + 1))) op).2 =
        (startOp t ((s2.note t (.ret pc r)).note t (.inv (pc + 1))) op).2) :
    ∀ (fuel : Nat) (s1 s2 : St K V) (fl : Flow K V) (pc : Nat), I s1 s2 fl pc →
      Q (threadLoop t th fuel s1 fl pc) (threadLoop t th fuel s2 fl pc) := by
  intro fuel
  induction fuel with
  | zero =>
    intro s1 s2 fl pc hi
    cases fl with
    | panic => simp only [threadLoop]; exact hpanic s1 s2 pc hi
    | park p => simp only [threadLoop]; exact hpark s1 s2 p pc hi
    | done r => simp only [threadLoop]; exact hfin s1 s2 r pc hi
  | succ fuel ih =>
    intro s1 s2 fl pc hi
    cases fl with
    | panic => simp only [threadLoop]; exact hpanic s1 s2 pc hi
    | park p => simp only [threadLoop]; exact hpark s1 s2 p pc hi
    | done r =>
      unfold threadLoop
      cases hop : th.prog[pc + 1]? with
      | none => simp only; exact hfin s1 s2 r pc hi
      | some op =>
        simp only
        obtain ⟨hi', hf⟩ := hstep s1 s2 r pc op hi hop
        rw [← hf]
        exact ih _ _ _ _ hi'

theorem threadLoop_at_park (t : Nat) (th : Thread K V) (fuel : Nat) (s : St K V) (p : Park K V) (pc : Nat) :
    threadLoop t th fuel s (.park p) pc =
      ({ th with pc := pc, park := p, held := s.held, cursor := s.cursor, exhausted := s.exhausted }, s, false) := by
  cases fuel <;> rfl

theorem threadLoop_src (t : Nat) (th : Thread K V) (fuel : Nat) (s : St K V) (fl : Flow K V) (pc : Nat) :
    pc ≤ (threadLoop t th fuel s fl pc).1.pc ∧
      ((fl = .park (threadLoop t th fuel s fl pc).1.park ∧ (threadLoop t th fuel s fl pc).1.pc = pc) ∨
       ((∀ p, fl ≠ .park p) ∧ ((threadLoop t th fuel s fl pc).1.park = .finished ∨
         (pc < (threadLoop t th fuel s fl pc).1.pc ∧
          ∃ s1 op, th.prog[(threadLoop t th fuel s fl pc).1.pc]? = some op ∧
            (startOp t s1 op).2 = .park (threadLoop t th fuel s fl pc).1.park)))) := by
  refine threadLoop_induct t th
    (fun _ fl' pc' => (fl' = fl ∧ pc' = pc) ∨
      ((∀ p, fl ≠ .park p) ∧ pc < pc' ∧ ∃ s1 op, th.prog[pc']? = some op ∧ (startOp t s1 op).2 = fl'))
    (fun r => pc ≤ r.1.pc ∧ ((fl = .park r.1.park ∧ r.1.pc = pc) ∨
      ((∀ p, fl ≠ .park p) ∧ (r.1.park = .finished ∨
        (pc < r.1.pc ∧ ∃ s1 op, th.prog[r.1.pc]? = some op ∧ (startOp t s1 op).2 = .park r.1.park)))))
    ?_ ?_ ?_ ?_ fuel s fl pc (Or.inl ⟨rfl, rfl⟩)
  · rintro _ p pc' (⟨hfl, hpc⟩ | ⟨hn, hlt, h⟩)
    · exact ⟨Nat.le_of_eq hpc.symm, Or.inl ⟨hfl.symm, hpc⟩⟩
    · exact ⟨Nat.le_of_lt hlt, Or.inr ⟨hn, Or.inr ⟨hlt, h⟩⟩⟩
  · rintro _ pc' (⟨hfl, hpc⟩ | ⟨hn, hlt, _⟩)
    · exact ⟨Nat.le_of_eq hpc.symm, Or.inr ⟨fun p e => (nomatch hfl.trans e), Or.inl rfl⟩⟩
    · exact ⟨Nat.le_of_lt hlt, Or.inr ⟨hn, Or.inl rfl⟩⟩
  · rintro _ _ pc' (⟨hfl, hpc⟩ | ⟨hn, hlt, _⟩)
    · exact ⟨Nat.le_succ_of_le (Nat.le_of_eq hpc.symm), Or.inr ⟨fun p e => (nomatch hfl.trans e), Or.inl rfl⟩⟩
    · exact ⟨Nat.le_succ_of_le (Nat.le_of_lt hlt), Or.inr ⟨hn, Or.inl rfl⟩⟩
  · rintro _ _ pc' op hi hop
    rcases hi with ⟨hfl, hpc⟩ | ⟨hn, hlt, _⟩
    · exact Or.inr ⟨fun p e => (nomatch hfl.trans e), by rw [hpc]; exact Nat.lt_succ_self _, _, op, hop, rfl⟩
    · exact Or.inr ⟨hn, Nat.lt_succ_of_lt hlt, _, op, hop, rfl⟩

def FreshPark (t : Nat) (p : Park K V) : Prop :=
  p = .finished ∨ ∃ s op, (startOp t s op).2 = .park p

def ParkFrom (t : Nat) : Flow K V → Park K V → Prop
  | .park p, p' => p' = p
  | _, p' => FreshPark t p'

theorem ParkFrom.of_src {t : Nat} {fl : Flow K V} {p' : Park K V}
    (h : fl = .park p' ∨ ((∀ p, fl ≠ .park p) ∧ FreshPark t p')) : ParkFrom t fl p' := by
  rcases h with rfl | ⟨hn, h⟩
  · rfl
  · cases fl with
    | park p => exact absurd rfl (hn p)
    | done r => exact h
    | panic => exact h

def firstKont : COp K V → Option (Kont K V)
  | .ins k v => some (.upTree k (fun _ => v) none)
  | .upd k f y => some (.upTree k f (some y))
  | .del k => some (.delTree k)
  | .get k => some (.roTree false k)
  | .ns k => some (.roTree true k)
  | _ => none

theorem misuse_false_iff (s : St K V) : misuse s = false ↔ cursorLocks s.cursor = [] := by
  simp [misuse]

theorem startOp_point (t : Nat) (s : St K V) {op : COp K V} {k : Kont K V} (h : firstKont op = some k) :
    startOp t s op = if misuse s then (s, .panic) else (s, .park (.want .tree k)) := by
  cases op <;> simp only [firstKont, Option.some.injEq, reduceCtorEq] at h <;> subst h <;> rfl

theorem firstKont_none {op : COp K V} (h : firstKont op = none) :
    op = .scan ∨ op = .pair ∨ op = .close ∨ op = .pause := by
  cases op <;> simp [firstKont] at h ⊢

theorem firstKont_cases {op : COp K V} {k : Kont K V} (h : firstKont op = some k) :
    (∃ key f y, k = .upTree key f y) ∨ (∃ key, op = .del key ∧ k = .delTree key) ∨ (∃ sc key, k = .roTree sc key) := by
  cases op <;> simp only [firstKont, Option.some.injEq, reduceCtorEq] at h <;> subst h
  · exact .inl ⟨_, _, _, rfl⟩
  · exact .inl ⟨_, _, _, rfl⟩
  · exact .inr (.inl ⟨_, rfl, rfl⟩)
  · exact .inr (.inr ⟨_, _, rfl⟩)
  · exact .inr (.inr ⟨_, _, rfl⟩)

/-! `Stepped c c' t th r`: everything `Config.step` says about `c'`, as equations on the fields, so that no
proof above this file has to rewrite with the record `{ c with … }` again. -/

structure Stepped (c c' : Config K V) (t : Nat) (th : Thread K V) (r : Thread K V × St K V × Bool) : Prop where
  get     : c.threads[t]? = some th
  enabled : th.enabled c = true
  run     : r = runThread c.P t th (stepSt c t th)
  P       : c'.P = c.P
  tree    : c'.tree = r.2.1.tree
  owner   : c'.owner = r.2.1.owner
  log     : c'.log = r.2.1.evs
  dead    : c'.dead = (c.dead || r.2.2)
  threads : c'.threads = c.threads.set t r.1

theorem step_stepped {c c' : Config K V} {t : Nat} (hstep : c.step t = some c') : ∃ th r, Stepped c c' t th r := by
  unfold Config.step at hstep
  cases hth : c.threads[t]? with
  | none => simp [hth] at hstep
  | some th =>
    simp only [hth] at hstep
    by_cases hen : th.enabled c = true
    · simp only [hen, Bool.not_true, Bool.false_eq_true, if_false, Option.some.injEq] at hstep
      subst hstep
      exact ⟨th, _, hth, hen, rfl, rfl, rfl, rfl, rfl, rfl, rfl⟩
    · simp [hen] at hstep

namespace Stepped
variable {c c' : Config K V} {t : Nat} {th : Thread K V} {r : Thread K V × St K V × Bool}

theorem nf (S : Stepped c c' t th r) : th.park ≠ .finished := enabled_not_finished S.enabled

theorem mem (S : Stepped c c' t th r) : th ∈ c.threads := List.mem_of_getElem? S.get

theorem own (S : Stepped c c' t th r) : c'.threads[t]? = some r.1 := by
  rw [S.threads, List.getElem?_set_self', S.get]; rfl

theorem other (S : Stepped c c' t th r) {j : Nat} (hne : j ≠ t) : c'.threads[j]? = c.threads[j]? := by
  rw [S.threads, List.getElem?_set_ne (Ne.symm hne)]

theorem the (S : Stepped c c' t th r) {th0 : Thread K V} (h : c.threads[t]? = some th0) : th0 = th :=
  Option.some.inj (h.symm.trans S.get)

theorem the' (S : Stepped c c' t th r) {th' : Thread K V} (h : c'.threads[t]? = some th') : th' = r.1 :=
  Option.some.inj (h.symm.trans S.own)

theorem each (S : Stepped c c' t th r) {Q : Nat → Thread K V → Prop} (hown : Q t r.1)
    (hother : ∀ j b, j ≠ t → c.threads[j]? = some b → Q j b) : ∀ j b, c'.threads[j]? = some b → Q j b := by
  intro j b hj
  by_cases e : j = t
  · subst e; rw [S.own] at hj; cases hj; exact hown
  · rw [S.other e] at hj; exact hother j b e hj

theorem all (S : Stepped c c' t th r) {Q : Thread K V → Prop} (hown : Q r.1)
    (hother : ∀ j b, j ≠ t → c.threads[j]? = some b → Q b) : ∀ b ∈ c'.threads, Q b := by
  intro b hb
  obtain ⟨j, hj⟩ := List.getElem?_of_mem hb
  exact S.each (Q := fun _ b => Q b) hown hother j b hj

end Stepped

theorem step_stepped_at {c c' : Config K V} {t : Nat} {th : Thread K V} (hstep : c.step t = some c')
    (ht : c.threads[t]? = some th) : ∃ r, Stepped c c' t th r := by
  obtain ⟨th0, r, S⟩ := step_stepped hstep
  cases S.the ht
  exact ⟨r, S⟩

/-- the four ways a step of one thread begins; for the layers whose loop invariant speaks of what the
    first stretch returned (they go on with a `threadLoop` lemma of their own) -/
theorem runThread_cases (P : Params K) (t : Nat) (th : Thread K V) (s : St K V) (Q : Thread K V × St K V × Bool → Prop)
    (hidle : th.park = .finished → Q (th, s, false))
    (hnil : th.park = .start → th.prog[0]? = none → Q ({ th with park := .finished }, s, false))
    (hfirst : ∀ op, th.park = .start → th.prog[0]? = some op →
      Q (threadLoop t th th.prog.length (startOp t (s.note t (.inv 0)) op).1 (startOp t (s.note t (.inv 0)) op).2 0))
    (hres : ∀ k, th.park.kont? = some k →
      Q (threadLoop t th th.prog.length (resume P t s k).1 (resume P t s k).2 th.pc)) :
    Q (runThread P t th s) := by
  cases hp : th.park with
  | finished => rw [runThread_finished P t th s hp]; exact hidle hp
  | start =>
    cases hop : th.prog[0]? with
    | none => rw [runThread_start_nil P t th s hp hop]; exact hnil hp hop
    | some op => rw [runThread_start P t th s hp hop]; exact hfirst op hp hop
  | want l k => rw [runThread_want P t th s hp]; exact hres k (by rw [hp]; rfl)
  | yielded k => rw [runThread_yielded P t th s hp]; exact hres k (by rw [hp]; rfl)

/-- THE LOOP RULE for a whole step of one thread: the first stretch (`resume` of the parked continuation,
    or the first `startOp`) establishes the loop invariant `I`; the four cases of `threadLoop_induct_len`
    carry it to the result (a loop that stops after a return has run off the program: `runThread` gives it
    the program's length as fuel).  For a loop invariant that does not speak of what the first stretch
    returned; `runThread_ok`, `runThread_eff`, `runThread_nodel`, `runThread_close` are instances. -/
theorem runThread_induct (P : Params K) (t : Nat) (th : Thread K V) (s : St K V)
    (I : St K V → Flow K V → Nat → Prop) (Q : Thread K V × St K V × Bool → Prop)
    (hpark : ∀ s p pc, I s (.park p) pc →
      Q ({ th with pc := pc, park := p, held := s.held, cursor := s.cursor, exhausted := s.exhausted }, s, false))
    (hpanic : ∀ s pc, I s .panic pc →
      Q ({ th with pc := pc, park := .finished, held := s.held, cursor := s.cursor, exhausted := s.exhausted },
        s.note t (.ret pc .panic), true))
    (hfin : ∀ s r pc, I s (.done r) pc → th.prog.length ≤ pc + 1 →
      Q ({ th with pc := pc + 1, park := .finished, held := s.held, cursor := s.cursor, exhausted := s.exhausted },
        s.note t (.ret pc r), false))
    (hnext : ∀ s r pc op, I s (.done r) pc → th.prog[pc + 1]? = some op →
      I (startOp t ((s.note t (.ret pc r)).note t (.inv (pc + 1))) op).1
        (startOp t ((s.note t (.ret pc r)).note t (.inv (pc + 1))) op).2 (pc + 1))
    (hidle : th.park = .finished → Q (th, s, false))
    (hnil : th.park = .start → th.prog[0]? = none → Q ({ th with park := .finished }, s, false))
    (hfirst : ∀ op, th.park = .start → th.prog[0]? = some op →
      I (startOp t (s.note t (.inv 0)) op).1 (startOp t (s.note t (.inv 0)) op).2 0)
    (hres : ∀ k, th.park.kont? = some k → I (resume P t s k).1 (resume P t s k).2 th.pc) :
    Q (runThread P t th s) := by
  have loop := fun s fl pc =>
    threadLoop_induct_len t th I Q hpark hpanic hfin hnext th.prog.length s fl pc (Nat.le_add_left _ _)
  exact runThread_cases P t th s Q hidle hnil (fun op hp hop => loop _ _ _ (hfirst op hp hop))
    (fun k hk => loop _ _ _ (hres k hk))

theorem runThread_prog (P : Params K) (t : Nat) (th : Thread K V) (s : St K V) :
    (runThread P t th s).1.prog = th.prog :=
  runThread_induct P t th s (fun _ _ _ => True) (fun r => r.1.prog = th.prog)
    (fun _ _ _ _ => rfl) (fun _ _ _ => rfl) (fun _ _ _ _ _ => rfl) (fun _ _ _ _ _ _ => trivial)
    (fun _ => rfl) (fun _ _ => rfl) (fun _ _ _ => trivial) (fun _ _ => trivial)

theorem Stepped.rprog {c c' : Config K V} {t : Nat} {th : Thread K V} {r : Thread K V × St K V × Bool}
    (S : Stepped c c' t th r) : r.1.prog = th.prog := by
  rw [S.run]; exact runThread_prog ..

theorem map_set_eq {α β : Type} {f : α → β} {l : List α} {t : Nat} {a a' : α} (h : l[t]? = some a) (hf : f a' = f a) :
    (l.set t a').map f = l.map f := by
  rw [List.map_set, hf]
  apply List.ext_getElem?
  intro j
  by_cases e : j = t
  · rw [e, List.getElem?_set_self', List.getElem?_map, h]; rfl
  · rw [List.getElem?_set_ne (Ne.symm e)]

theorem Stepped.map_prog {c c' : Config K V} {t : Nat} {th : Thread K V} {r : Thread K V × St K V × Bool}
    (S : Stepped c c' t th r) : c'.threads.map (·.prog) = c.threads.map (·.prog) := by
  rw [S.threads]; exact map_set_eq S.get S.rprog

end Gobptree.Conc
