/-
  The structural invariant holds in every reachable configuration of every family of
  disciplined client programs, from every initial tree satisfying it (in particular a
  fresh tree of any even order ≥ 2), provided the order is at least 4 or no program
  contains a Delete (`hdel`).  Consequences: no thread ever panics, every reachable configuration is
  ranked (hence not deadlocked), every step respects the write frame.
-/
import Gobptree.Proofs.CSStep2
import Gobptree.Proofs.CSUp
import Gobptree.Proofs.CSDel
import Gobptree.Proofs.CSParkKind

namespace Gobptree.Conc
open Gobptree

variable {K V : Type}

theorem blocks_ok : Blocks K V where
  start := fun t s op hole ht hc hf => startOp_post t s op hole ht hc hf
  startLive := fun t s op p h => startOp_park_live t s op p h
  resU := fun P t s k H hole hnd hpre hk hc hkp hcov => resume_post_U P t s k H hole hnd hpre hk hc hkp hcov
  resD := fun P t s k H hd h4 hpre hk hkp hcov => resume_post_D P t s k H hd h4 hpre hk hkp hcov
  resLive := fun P t s k p h => resume_park_live P t s k p h

theorem step_cstep {c c' : Config K V} {t : Nat} (hstep : c.step t = some c') (hinv : CInv c) :
    ∃ th r, CStep c c' t th r := step_cstep_of blocks_ok hstep hinv

def Disciplined (progs : List (List (COp K V))) : Prop := ∀ p ∈ progs, disciplined .N p = true

theorem init_cinv (P : Params K) (tree : Tree K V) (progs : List (List (COp K V)))
    (ht : TreeOk none tree) (ho : tree.order = P.order) (hp : PadOk P) (hd : Disciplined progs)
    (hdel : 4 ≤ tree.order ∨ NoDelete progs) :
    CInv (Config.init P tree progs) := by
  have hths := fun th (hth : th ∈ (Config.init P tree progs).threads) => mem_init_threads hth
  have hhole : holeOf (Config.init P tree progs).threads = none := by
    apply holeOf_all_none
    intro b hb
    obtain ⟨p, _, e⟩ := hths b hb
    rw [e]; rfl
  refine ⟨⟨by rw [hhole]; exact ht, ?_, ho, hp, init_ok P tree progs, init_owner P tree progs, ?_⟩, ?_, rfl, ?_⟩
  · intro th hth
    obtain ⟨p, _, e⟩ := hths th hth
    rw [e]; exact ⟨trivial, trivial⟩
  · intro i j a b hi hj hij x hx
    have ham : a ∈ (Config.init P tree progs).threads := List.mem_of_getElem? hi
    obtain ⟨p, _, e⟩ := hths a ham
    rw [e] at hx; cases hx
  · intro th hth
    obtain ⟨p, hpm, e⟩ := hths th hth
    rw [e]
    exact ⟨hd p hpm, rfl⟩
  · rcases hdel with h4 | hnd
    · exact Or.inl h4
    · right
      intro th hth
      obtain ⟨p, hpm, e⟩ := hths th hth
      rw [e]
      exact ⟨rfl, hnd p hpm⟩

theorem reachable_cinv (P : Params K) (tree : Tree K V) (progs : List (List (COp K V)))
    (ht : TreeOk none tree) (ho : tree.order = P.order) (hp : PadOk P) (hd : Disciplined progs)
    (hdel : 4 ≤ tree.order ∨ NoDelete progs)
    (c : Config K V) (hr : Reachable (Config.init P tree progs) c) : CInv c := by
  induction hr with
  | refl => exact init_cinv P tree progs ht ho hp hd hdel
  | @step c1 c2 t _ hs ih => exact (step_cinv blocks_ok c1 c2 t hs ih).1

theorem new_treeOk (o : Nat) (h2 : 2 ≤ o) (he : o % 2 = 0) : TreeOk none (Tree.new o : Tree K V) := by
  refine ⟨new_idsOk o, ?_, ?_, h2, fun h => absurd rfl h, he⟩
  · intro p hp
    have : p = (0, shallow (d := 0) ({ id := 0, keys := [], vals := [], next := none } : Leaf K V)) := by
      simpa [Tree.flat, Tree.new, flat] using hp
    subst this
    refine ⟨by simp [shallow, Tree.new], ?_, ?_, ?_⟩
    · simp [minOf, Tree.rootId, Tree.new, Node.id, shallow]
    · intro _; simp [shallow]
    · intro h; simp [shallow] at h
  · show Chain (flatLeaves [(0, shallow (d := 0) ({ id := 0, keys := [], vals := [], next := none } : Leaf K V))])
    simp [flatLeaves, shallow, Chain]

end Gobptree.Conc
