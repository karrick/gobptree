/-
  Block reports of Insert/Update: what a block finds (the nodes it reads, decomposed once) and
  what it writes (the new tree as a variable with its equation, structurally sound), proved
  once from `Pre` and `KontOk`; for the tail (`upContinue`, `upLeaf`), which the other blocks
  enter on the tree they have just written, from `TreeOk` and the node being there.  Every layer
  proves its invariant per constructor of the report and never opens `find`, `lowerFirst`,
  `maybeSplit` or `St.rel`.
-/
import Gobptree.Proofs.CSUpSplit

namespace Gobptree.Conc
open Gobptree

variable {K V : Type}

/-- the separator at the routing index after the pre-emptive lowering -/
def lowKey (lt : K → K → Bool) (key : K) (rA : List K) (k : K) : K :=
  if rA = [] ∧ lt key k = true then key else k

theorem lowerFirst_form (P : Params K) (key : K) (rA rB : List K) (k : K) {d : Nat} (c : Node K V d) :
    lowerFirst P key rA.length (rA ++ k :: rB) c = .ok (rA ++ lowKey P.lt key rA k :: rB) := by
  unfold lowerFirst lowKey
  cases rA with
  | nil =>
    simp only [List.length_nil, if_true, List.nil_append, List.getElem?_cons_zero, true_and]
    by_cases c : P.lt key k = true
    · rw [if_pos c, if_pos c]; rfl
    · rw [if_neg c, if_neg c]
  | cons a rA =>
    rw [if_neg (by simp), if_neg (by simp)]

theorem putLeaf_step {H : List Lk} {hole : Option Nat} {t : Tree K V} (hok : TreeOk hole t) {n : Nat}
    {l l' : Leaf K V} (hfind : t.find n = some ⟨0, l⟩) (hid : l'.id = l.id) (hnext : l'.next = l.next)
    (hpar : l'.keys.length = l'.vals.length) (hge : l.keys.length ≤ l'.keys.length)
    (hcap : l'.keys.length ≤ t.order) (hH : Lk.node n ∈ H) :
    Step H hole t (putLeaf t l') ∧ (l'.id, shallow (d := 0) l') ∈ (putLeaf t l').flat := by
  have hmid : l.id = n := (Tree.find_modify hfind).1
  obtain ⟨L, R, hf, hf', hroot, hdepth, hnid, hord⟩ :=
    putLeaf_flat l' (by rw [hid, hmid]; exact hfind) hok.ids.1
  have hmin := (hok.occ _ (mem_flat_of_find hfind (self_mem_flat (d := 0) l))).2.1
  refine ⟨Step.of_mid (M := [(l.id, shallow (d := 0) l)]) (M' := [(l.id, shallow (d := 0) l')]) hok hf
    (hid ▸ hf') hord ?_ (Nat.le_of_eq hnid.symm) (Or.inr ⟨hroot, hdepth⟩) (Or.inl hroot),
    by rw [hf']; exact List.mem_append_left _ (List.mem_append_right _ List.mem_cons_self)⟩
  rw [hroot]
  exact MidOk.leaf (hmid ▸ hH) rfl rfl hnext
    ⟨hcap, Nat.le_trans hmin hge, fun _ => ⟨hpar, rfl⟩, fun h => absurd h (Nat.lt_irrefl 0)⟩

structure UpLeafAt (P : Params K) (hole : Option Nat) (s : St K V) (key : K) (f : Option V → V) (n : Nat)
    (l l' : Leaf K V) (arg : Option V) (T : Tree K V) : Prop where
  find : s.tree.find n = some ⟨0, l⟩
  ups : Leaf.upsert P l key f = .ok (l', arg)
  lid : l'.id = n
  Teq : T = putLeaf s.tree l'
  step : ∀ {H : List Lk}, Lk.node n ∈ H → notFull s.tree n → Step H hole s.tree T

/-- what `upLeaf` does with them: Insert writes; Update without a yield notes the argument and writes;
    Update with a yield notes it and parks, leaving the write to `upCallback` -/
inductive UpLeafOut (t : Nat) (s : St K V) (key : K) (f : Option V → V) (n : Nat) (arg : Option V) (T : Tree K V) :
    Option Bool → St K V × Flow K V → Prop
  | done : UpLeafOut t s key f n arg T none ((s.setTree T).rel t (.node n), .done .ok)
  | noted : UpLeafOut t s key f n arg T (some false) (((s.note t (.cb arg)).setTree T).rel t (.node n), .done .ok)
  | yield : UpLeafOut t s key f n arg T (some true) (s.note t (.cb arg), .park (.yielded (.upCallback key f n arg)))

theorem upLeaf_report (P : Params K) (t : Nat) (s : St K V) (key : K) (f : Option V → V) (y : Option Bool) (n : Nat)
    (l : Leaf K V) (hole : Option Nat) (hok : TreeOk hole s.tree) (hpad : PadOk P)
    (hfind : s.tree.find n = some ⟨0, l⟩) :
    ∃ l' arg T, UpLeafAt P hole s key f n l l' arg T ∧ UpLeafOut t s key f n arg T y (upLeaf P t s key f y n l) := by
  have hl := look_of_find hfind
  obtain ⟨l', arg, hup, hid, hnext, hpar', hge, hle⟩ :=
    Leaf.upsert_spec P hpad l key f ((par_leaf l).1 (occ_of_look hok.occ hl).par)
  refine ⟨l', arg, putLeaf s.tree l', ⟨hfind, hup, hid.trans (Tree.find_modify hfind).1, rfl, ?_⟩, ?_⟩
  · intro H hH ⟨sh, hl', hlt⟩
    rw [hl] at hl'
    cases hl'
    exact (putLeaf_step hok hfind hid hnext hpar' hge (Nat.le_trans hle hlt) hH).1
  · match y with
    | none => rw [upLeaf_none hup]; exact .done
    | some false => rw [upLeaf_false hup]; exact .noted
    | some true => rw [upLeaf_true hup]; exact .yield

inductive UpContinueOut (P : Params K) (t : Nat) (hole : Option Nat) (s : St K V) (key : K) (f : Option V → V)
    (y : Option Bool) (n : Nat) : St K V × Flow K V → Prop
  | leaf {l l' : Leaf K V} {arg : Option V} {T : Tree K V} {res : St K V × Flow K V}
      (at_ : UpLeafAt P hole s key f n l l' arg T) (out : UpLeafOut t s key f n arg T y res) :
      UpContinueOut P t hole s key f y n res
  | inner {d : Nat} {p : Inner K (Node K V d)} {c : Node K V d} (find : s.tree.find n = some ⟨d + 1, p⟩)
      (kid : p.kids[searchLE P.lt key p.runts]? = some c) :
      UpContinueOut P t hole s key f y n
        (s, .park (.want (.node (Node.id c)) (.upChild key f y n (searchLE P.lt key p.runts) (Node.id c))))

theorem upContinue_report (P : Params K) (t : Nat) (s : St K V) (key : K) (f : Option V → V) (y : Option Bool)
    (n : Nat) (hole : Option Nat) (hok : TreeOk hole s.tree) (hpad : PadOk P) {sh : Shallow K V}
    (hl : s.tree.look n = some sh) :
    UpContinueOut P t hole s key f y n (upContinue P t s key f y n) := by
  by_cases h0 : sh.height = 0
  · obtain ⟨l, hfind, -, -⟩ := leaf_of_look hl h0
    obtain ⟨l', arg, T, w, out⟩ := upLeaf_report P t s key f y n l hole hok hpad hfind
    rw [upContinue_leaf hfind]
    exact .leaf w out
  · obtain ⟨d, p, hfind, rfl, -⟩ := inner_of_look hl (Nat.pos_of_ne_zero h0)
    obtain ⟨c, hc⟩ := descend_kid p (occ_of_look hok.occ hl) P.lt key
    rw [upContinue_inner hfind hc]
    exact .inner hfind hc

theorem upCallback_report (P : Params K) (t : Nat) (s : St K V) (key : K) (f : Option V → V) (leaf : Nat)
    (arg : Option V) (hole : Option Nat) (hok : TreeOk hole s.tree) (hpad : PadOk P)
    (hk : KontOk s.tree (.upCallback key f leaf arg)) :
    ∃ l l' arg' T, UpLeafAt P hole s key f leaf l l' arg' T ∧
      resume P t s (.upCallback key f leaf arg) = ((s.setTree T).rel t (.node leaf), .done .ok) := by
  obtain ⟨⟨sh, hl, h0⟩, -⟩ := hk
  obtain ⟨l, hfind, -, -⟩ := leaf_of_look hl h0
  obtain ⟨l', arg', T, w, out⟩ := upLeaf_report P t s key f none leaf l hole hok hpad hfind
  refine ⟨l, l', arg', T, w, ?_⟩
  rw [resume_upCallback_upLeaf arg hfind]
  generalize upLeaf P t s key f none leaf l = res at out
  cases out
  rfl

structure UpChildAt (s : St K V) (parent child : Nat) {d : Nat} (rA rB : List K) (k : K)
    (A B : List (Node K V d)) (c : Node K V d) : Prop where
  find : s.tree.find parent = some ⟨d + 1, (Inner.mk parent (rA ++ k :: rB) (A ++ c :: B) : Inner K (Node K V d))⟩
  cid : Node.id c = child
  lA : rA.length = A.length
  mem : (Node.id c, shallow c) ∈ s.tree.flat

structure UpChildWrote (H : List Lk) (hole : Option Nat) (s : St K V) (parent : Nat) {d : Nat}
    (p' : Inner K (Node K V d)) (T : Tree K V) : Prop where
  step : Step H hole s.tree T
  par : (parent, shallow (d := d + 1) p') ∈ T.flat

structure UpChildSplit (P : Params K) (H : List Lk) (hole : Option Nat) (s : St K V) (parent : Nat) {d : Nat}
    (rA rB : List K) (k1 : K) (A B : List (Node K V d)) (c l r : Node K V d) (rs : K)
    (p2 : Inner K (Node K V d)) (T2 : Tree K V) : Prop where
  out : SplitOut s.tree.order s.tree.nextId c l r
  smr : Node.smallest r = .ok rs
  lenl : (shallow l).keys.length = s.tree.order / 2
  lenr : (shallow r).keys.length = s.tree.order / 2
  half : s.tree.order / 2 < s.tree.order
  p2eq : p2 = ⟨parent, rA ++ k1 :: rs :: rB, A ++ l :: r :: B⟩
  T2eq : T2 = allocId (putInner s.tree p2)
  wrote : UpChildWrote H hole s parent p2 T2
  meml : (Node.id l, shallow l) ∈ T2.flat
  memr : (Node.id r, shallow r) ∈ T2.flat

/-- the two ways through the block, each with the result of `upChildArrive` as a term over named
    variables: no split (`p1`, `T1`); split (`p2`, `T2`), after which the key goes right (park for
    the new sibling) or stays left -/
inductive UpChildOut (P : Params K) (t : Nat) (H : List Lk) (hole : Option Nat) (s : St K V) (key : K)
    (f : Option V → V) (y : Option Bool) (parent child : Nat) {d : Nat} (rA rB : List K) (k1 : K)
    (A B : List (Node K V d)) (c : Node K V d) : St K V × Flow K V → Prop
  | stay {p1 : Inner K (Node K V d)} {T1 : Tree K V} (p1eq : p1 = ⟨parent, rA ++ k1 :: rB, A ++ c :: B⟩)
      (T1eq : T1 = putInner s.tree p1) (wrote : UpChildWrote H hole s parent p1 T1)
      (ms : Node.maybeSplit P.order s.tree.nextId c = .ok (c, none))
      (lt : (shallow c).keys.length < s.tree.order) (memc : (Node.id c, shallow c) ∈ T1.flat) :
      UpChildOut P t H hole s key f y parent child rA rB k1 A B c
        (upContinue P t ((s.setTree T1).rel t (.node parent)) key f y child)
  | split {l r : Node K V d} {rs : K} {p2 : Inner K (Node K V d)} {T2 : Tree K V}
      (sp : UpChildSplit P H hole s parent rA rB k1 A B c l r rs p2 T2) :
      UpChildOut P t H hole s key f y parent child rA rB k1 A B c
        (if (!P.lt key rs) = true then
          (s.setTree T2, .park (.want (.node (Node.id r)) (.upSib key f y parent child (Node.id r))))
        else upContinue P t ((s.setTree T2).rel t (.node parent)) key f y child)

theorem upChildArrive_report (P : Params K) (t : Nat) (s : St K V) (key : K) (f : Option V → V) (y : Option Bool)
    (parent index child : Nat) (H : List Lk) (hole : Option Nat) (hpre : Pre P hole s)
    (hk : KontOk s.tree (.upChild key f y parent index child)) (hHp : Lk.node parent ∈ H)
    (hHc : Lk.node child ∈ H) :
    ∃ (d : Nat) (rA rB : List K) (k k1 : K) (A B : List (Node K V d)) (c : Node K V d),
      index = A.length ∧ lowKey P.lt key rA k = k1 ∧ UpChildAt s parent child rA rB k A B c ∧
      UpChildOut P t H hole s key f y parent child rA rB k1 A B c
        (upChildArrive P t s key f y parent index child) := by
  obtain ⟨hkid, shp, hlp0, hcapp⟩ := hk
  have hok := hpre.tree
  obtain ⟨d, p, c, hfind, hlp, hpid, hpk, hcid⟩ := kidAt_inner hkid
  rw [hlp] at hlp0
  cases hlp0
  have hcapp' : p.runts.length < s.tree.order := hcapp
  have hlenp' : p.runts.length = p.kids.length := ((par_inner p).1 (occ_of_look hok.occ hlp).par).1
  obtain ⟨k, hrk⟩ : ∃ k, p.runts[index]? = some k :=
    ⟨_, List.getElem?_eq_getElem (by rw [hlenp']; exact (List.getElem?_eq_some_iff.1 hpk).1)⟩
  obtain ⟨A, B, hkids, hA⟩ := getElem?_split p.kids index c hpk
  obtain ⟨rA, rB, hrunts, hrA⟩ := getElem?_split p.runts index k hrk
  obtain ⟨pid, pr, pk⟩ := p
  simp only at hpid hkids hrunts hcapp' hlenp' hpk
  subst hpid hkids hrunts hA
  have hlA : rA.length = A.length := hrA
  have hcmem : ∀ q ∈ flat c, q ∈ s.tree.flat := fun q hq => mem_flat_of_find hfind
    (List.mem_cons_of_mem _ (List.mem_flatMap.2 ⟨c, List.mem_of_getElem? hpk, hq⟩))
  have hoccC := hok.occ _ (hcmem _ (self_mem_flat c))
  have hlow : lowerFirst P key A.length (rA ++ k :: rB) c = .ok (rA ++ lowKey P.lt key rA k :: rB) := by
    rw [← hlA]; exact lowerFirst_form P key rA rB k c
  generalize hk1 : lowKey P.lt key rA k = k1 at hlow
  refine ⟨d, rA, rB, k, k1, A, B, c, rfl, hk1, ⟨hfind, hcid, hlA, hcmem _ (self_mem_flat c)⟩, ?_⟩
  have hlen1 : (rA ++ k1 :: rB).length = (rA ++ k :: rB).length := by
    rw [List.length_append, List.length_append]; rfl
  rcases maybeSplit_cases s.tree.order s.tree.nextId hok.even c hoccC with ⟨hlt, hms⟩ | ⟨l, r, hms, hso⟩
  · -- no split: the parent is written back with the lowered separator and the same kids (`mid = mid' = []`)
    rw [hpre.order] at hms
    rw [upChildArrive_eq_nosplit hfind hpk hlow hms, set_pivot rfl]
    obtain ⟨hstep, hpmem, hkmem⟩ := putInner_step (H := H) (p := Inner.mk pid (rA ++ k :: rB) (A ++ c :: B)) (A := A ++ [c]) (mid := []) (mid' := []) (B := B)
      (ru := rA ++ k1 :: rB) hok hfind hHp (by rw [List.append_nil, List.append_assoc]; rfl)
      (by rw [hlen1, hlenp', List.append_nil, List.append_assoc]; rfl) (Nat.le_of_eq hlen1.symm)
      (by rw [hlen1]; exact Nat.le_of_lt hcapp') (MidOk.nil _ _ _ _ _) (Nat.le_refl _)
    have e : A ++ [c] ++ [] ++ B = A ++ c :: B := by rw [List.append_nil, List.append_assoc]; rfl
    rw [e] at hstep hpmem hkmem
    exact .stay rfl rfl ⟨hstep, hpmem⟩ hms hlt (hkmem c (List.mem_append_right _ List.mem_cons_self))
  · -- split: the same write with `[c]` replaced by the halves `[l, r]` (`split_mid`: they hold the child's
    -- entries, `r` under the fresh identity); the parent has room for one more: `KontOk` promised it (`hcapp`)
    rw [hpre.order] at hms
    obtain ⟨pad, hp⟩ := Option.ne_none_iff_exists'.1 (hpre.pad key)
    obtain ⟨hoccl, hoccr, hlenl, hlenr⟩ := hso.occ (m' := s.tree.order / 2) hoccC (Nat.le_refl _)
    have hhalf : s.tree.order / 2 < s.tree.order :=
      Nat.div_lt_self (Nat.lt_of_lt_of_le Nat.zero_lt_two hok.order2) (Nat.le_refl 2)
    obtain ⟨rs, hrs⟩ := smallest_ok r (by rw [hlenr]; exact hok.half_pos)
    have hsp : splitParent (Inner.mk pid (rA ++ k :: rB) (A ++ c :: B)) A.length pad rs (rA ++ k1 :: rB) l r =
        ⟨pid, rA ++ k1 :: rs :: rB, A ++ l :: r :: B⟩ := by
      unfold splitParent
      rw [insertIdiom_next rfl, set_pivot rfl, insertIdiom_next hlA]
    have hrlen : (rA ++ k1 :: rs :: rB).length = (rA ++ k :: rB).length + 1 := by
      rw [List.length_append, List.length_append]; rfl
    have hfresh : s.tree.nextId ≠ s.tree.rootId :=
      Nat.ne_of_gt (hok.ids.2 _ (List.mem_map.2 ⟨_, self_mem_flat s.tree.root, rfl⟩))
    obtain ⟨hstep, hpmem, hkmem⟩ := putInner_step (H := H) (p := Inner.mk pid (rA ++ k :: rB) (A ++ c :: B)) (A := A) (mid := [c]) (mid' := [l, r]) (B := B)
      (ru := rA ++ k1 :: rs :: rB) (nid' := s.tree.nextId + 1) hok hfind hHp (by rw [List.append_assoc]; rfl)
      (by rw [hrlen, hlenp', List.append_assoc, List.length_append, List.length_append]; rfl)
      (by rw [hrlen]; exact Nat.le_succ _) (by rw [hrlen]; exact hcapp')
      (by
        simp only [List.flatMap_cons, List.flatMap_nil, List.append_nil]
        exact split_mid hso s.tree.rootId (hcid ▸ hHc) (hoccl.mono (minOf_le _ _ _ _ _ (hcid ▸ kid_ne_root hok.ids hkid)))
          (hoccr.mono (minOf_le _ _ _ _ _ hfresh))
          (fun q hq => hok.occ _ (hcmem _ (by rw [flat_eq_cons c]; exact List.mem_cons_of_mem _ hq))))
      (Nat.le_succ _)
    have e : A ++ [l, r] ++ B = A ++ l :: r :: B := by rw [List.append_assoc]; rfl
    rw [e] at hstep hpmem hkmem
    have sp : UpChildSplit P H hole s pid rA rB k1 A B c l r rs _ _ :=
      ⟨hso, hrs, hlenl, hlenr, hhalf, rfl, rfl, ⟨hstep, hpmem⟩,
        hkmem l (List.mem_append_right _ List.mem_cons_self),
        hkmem r (List.mem_append_right _ (List.mem_cons_of_mem _ List.mem_cons_self))⟩
    rw [upChildArrive_eq_split hfind hpk hlow hms hp hrs, hsp]
    exact .split sp

structure UpRootSplit (P : Params K) (H : List Lk) (hole : Option Nat) (s : St K V) (key : K)
    (l r : Node K V s.tree.depth) (ls rs ls' : K) (T2 : Tree K V) : Prop where
  out : SplitOut s.tree.order s.tree.nextId s.tree.root l r
  sml : Node.smallest l = .ok ls
  smr : Node.smallest r = .ok rs
  low : ls' = if P.lt key ls then key else ls
  lenl : (shallow l).keys.length = s.tree.order / 2
  lenr : (shallow r).keys.length = s.tree.order / 2
  half : s.tree.order / 2 < s.tree.order
  T2eq : T2 = splitRoot s.tree ls' rs l r
  step : Step H hole s.tree T2
  flat : T2.flat = (s.tree.nextId + 1, ⟨s.tree.depth + 1, [ls', rs], [], none, [s.tree.rootId, s.tree.nextId]⟩) ::
    (flat l ++ flat r)
  root : T2.rootId = s.tree.nextId + 1
  meml : (Node.id l, shallow l) ∈ T2.flat
  memr : (Node.id r, shallow r) ∈ T2.flat

inductive UpRootOut (P : Params K) (t : Nat) (H : List Lk) (hole : Option Nat) (s : St K V) (key : K)
    (f : Option V → V) (y : Option Bool) (root : Nat) : St K V × Flow K V → Prop
  | stay (ms : Node.maybeSplit s.tree.order s.tree.nextId s.tree.root = .ok (s.tree.root, none))
      (lt : (shallow s.tree.root).keys.length < s.tree.order) :
      UpRootOut P t H hole s key f y root (upContinue P t (s.rel t .tree) key f y root)
  | split {l r : Node K V s.tree.depth} {ls rs ls' : K} {T2 : Tree K V}
      (sp : UpRootSplit P H hole s key l r ls rs ls' T2) :
      UpRootOut P t H hole s key f y root
        (if (!P.lt key rs) = true then
          (s.setTree T2, .park (.want (.node (Node.id r)) (.upRootSib key f y root (Node.id r))))
        else upContinue P t ((s.setTree T2).rel t .tree) key f y root)

theorem upRootArrive_report (P : Params K) (t : Nat) (s : St K V) (key : K) (f : Option V → V) (y : Option Bool)
    (root : Nat) (H : List Lk) (hole : Option Nat) (hpre : Pre P hole s)
    (hk : KontOk s.tree (.upRoot key f y root)) (hHt : Lk.tree ∈ H) (hHr : Lk.node root ∈ H) :
    root = s.tree.rootId ∧ UpRootOut P t H hole s key f y root (upRootArrive P t s key f y root) := by
  have hroot : root = s.tree.rootId := hk
  subst hroot
  refine ⟨rfl, ?_⟩
  have hok := hpre.tree
  have hoccR := hok.occ _ (self_mem_flat s.tree.root)
  rcases maybeSplit_cases s.tree.order s.tree.nextId hok.even s.tree.root hoccR with ⟨hlt, hms⟩ | ⟨l, r, hms, hso⟩
  · rw [upRootArrive_eq_nosplit hms]
    exact .stay hms hlt
  · obtain ⟨-, -, hlenl, hlenr⟩ := hso.occ (m' := s.tree.order / 2) hoccR (Nat.le_refl _)
    have hhalf : s.tree.order / 2 < s.tree.order :=
      Nat.div_lt_self (Nat.lt_of_lt_of_le Nat.zero_lt_two hok.order2) (Nat.le_refl 2)
    obtain ⟨ls, hls⟩ := smallest_ok l (by rw [hlenl]; exact hok.half_pos)
    obtain ⟨rs, hrs⟩ := smallest_ok r (by rw [hlenr]; exact hok.half_pos)
    rw [upRootArrive_eq_split hms hls hrs]
    generalize hls' : (if P.lt key ls then key else ls) = ls'
    obtain ⟨hstep, hflat', hroot'⟩ := rootSplit_step (H := H) hok hso ls' rs hHt hHr (splitRoot s.tree ls' rs l r) rfl
    exact .split ⟨hso, hls, hrs, hls'.symm, hlenl, hlenr, hhalf, rfl, hstep, hflat', hroot',
      by rw [hflat']; exact List.mem_cons_of_mem _ (List.mem_append_left _ (self_mem_flat l)),
      by rw [hflat']; exact List.mem_cons_of_mem _ (List.mem_append_right _ (self_mem_flat r))⟩

end Gobptree.Conc
