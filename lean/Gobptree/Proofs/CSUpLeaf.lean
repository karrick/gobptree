/-
  The blocks that end an Insert/Update descent step: continuing the descent at a node the
  thread holds (`upContinue`, with `upLeaf` at a leaf) and the return of the update callback.
-/
import Gobptree.Proofs.CBlockUp

namespace Gobptree.Conc
open Gobptree

variable {K V : Type}

theorem upContinue_post (P : Params K) (t : Nat) (s : St K V) (key : K) (f : Option V → V) (y : Option Bool)
    (n : Nat) (H : List Lk) (hole : Option Nat) (hpre : Pre P hole s) (hnf : notFull s.tree n)
    (hH : Lk.node n ∈ H) (hcur : cursorLocks s.cursor = []) :
    Post H hole s (upContinue P t s key f y n).1 (upContinue P t s key f y n).2 := by
  have hcok : ∀ tr : Tree K V, CursorOk tr false s.cursor := fun tr => cursorOk_of_noLocks tr false _ hcur
  have ⟨_, hl, _⟩ := hnf
  have out := upContinue_report P t s key f y n hole hpre.tree hpre.pad hl
  generalize upContinue P t s key f y n = res at out
  cases out with
  | leaf w out =>
    have hstep := w.step hH hnf
    cases out with
    | done => exact hstep.post (s' := (s.setTree _).rel t _) (by simp) (by intro p hp; cases hp) (hcok _)
    | noted => exact hstep.post (s' := ((s.note t _).setTree _).rel t _) (by simp) (by intro p hp; cases hp) (hcok _)
    | yield =>
      refine Post.of_unchanged hpre.tree rfl (by simp) ?_ (hcok _)
      intro p hp
      cases hp
      exact ⟨⟨⟨_, look_of_find w.find, rfl⟩, hnf⟩, hcur, rfl⟩
  | inner hfind hc =>
    refine Post.of_unchanged hpre.tree rfl (by simp) ?_ (hcok _)
    intro q hq
    cases hq
    exact ⟨⟨by rw [kidAt_shallow (look_of_find hfind), hc]; rfl, hnf⟩, hcur, rfl⟩

theorem upCallback_post (P : Params K) (t : Nat) (s : St K V) (key : K) (f : Option V → V) (leaf : Nat)
    (arg : Option V) (H : List Lk) (hole : Option Nat) (hpre : Pre P hole s)
    (hk : KontOk s.tree (.upCallback key f leaf arg)) (hH : Lk.node leaf ∈ H)
    (hcur : cursorLocks s.cursor = []) :
    Post H hole s (resume P t s (.upCallback key f leaf arg)).1 (resume P t s (.upCallback key f leaf arg)).2 := by
  obtain ⟨l, l', arg', T, w, e⟩ := upCallback_report P t s key f leaf arg hole hpre.tree hpre.pad hk
  rw [e]
  exact (w.step hH hk.2).post (s' := (s.setTree T).rel t _) (by simp) (by intro p hp; cases hp)
    (cursorOk_of_noLocks _ false _ hcur)

end Gobptree.Conc
