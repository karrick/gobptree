/-
  C04 at the level of scheduler steps.  One step of a thread is a first stretch (a `resume`, or
  the first `startOp`) followed by the operations it starts until it parks.  `StepExec c t s1 op n`
  says that the step of thread `t` in `c` starts operation `op` (number `n` of its program) in
  state `s1`.  In a reachable configuration every such `s1` carries the tree of the configuration
  the step ends in, and the cursor invariant — so `scan_rest` / `pair_rest` (`CCurCall`) apply to every
  `Scan` / `Pair` call that is ever executed.  Likewise `resume_newScanner` / `resume_hop` (`CCurStep`) for
  the two resumed stretches that belong to cursor calls (`NewScanner`'s arrival at the leaf, the hop).
-/
import Gobptree.Proofs.CCurInv

namespace Gobptree.Conc
open Gobptree

variable {K V : Type} {lt : K → K → Bool}

/-- `threadLoop t th fuel s fl pc` starts operation `op` (number `n`) in state `s1` -/
inductive LoopExec (t : Nat) (th : Thread K V) : Nat → St K V → Flow K V → Nat → St K V → COp K V → Nat → Prop
  | here (fuel : Nat) (s : St K V) (r : Res K V) (pc : Nat) (op : COp K V) (h : th.prog[pc + 1]? = some op) :
      LoopExec t th (fuel + 1) s (.done r) pc ((s.note t (.ret pc r)).note t (.inv (pc + 1))) op (pc + 1)
  | later (fuel : Nat) (s : St K V) (r : Res K V) (pc : Nat) (op : COp K V) (s1 : St K V) (op1 : COp K V) (n : Nat)
      (h : th.prog[pc + 1]? = some op)
      (hl : LoopExec t th fuel (startOp t ((s.note t (.ret pc r)).note t (.inv (pc + 1))) op).1
              (startOp t ((s.note t (.ret pc r)).note t (.inv (pc + 1))) op).2 (pc + 1) s1 op1 n) :
      LoopExec t th (fuel + 1) s (.done r) pc s1 op1 n

def StepExec (c : Config K V) (t : Nat) (s1 : St K V) (op : COp K V) (n : Nat) : Prop :=
  ∃ th, c.threads[t]? = some th ∧
    match th.park with
    | .start =>
      ∃ op0, th.prog[0]? = some op0 ∧
        ((op = op0 ∧ s1 = (stepSt c t th).note t (.inv 0) ∧ n = 0) ∨
          LoopExec t th th.prog.length (startOp t ((stepSt c t th).note t (.inv 0)) op0).1
            (startOp t ((stepSt c t th).note t (.inv 0)) op0).2 0 s1 op n)
    | .want _ k =>
      LoopExec t th th.prog.length (resume c.P t (stepSt c t th) k).1 (resume c.P t (stepSt c t th) k).2 th.pc s1 op n
    | .yielded k =>
      LoopExec t th th.prog.length (resume c.P t (stepSt c t th) k).1 (resume c.P t (stepSt c t th) k).2 th.pc s1 op n
    | .finished => False

theorem loopExec_inv (h : SWO lt) (t : Nat) (th : Thread K V) {T : Tree K V} {hole : Option Nat}
    (hok : TreeOk hole T) (hord : OrdTree lt T)
    {fuel : Nat} {s : St K V} {fl : Flow K V} {pc : Nat} {s1 : St K V} {op : COp K V} {n : Nat}
    (hx : LoopExec t th fuel s fl pc s1 op n) (hi : CurI lt T s fl) : CurI lt T s1 (.done .ok) := by
  induction hx with
  | here fuel s r pc op hop => exact ⟨hi.tree, hi.cok, hi.pos⟩
  | later fuel s r pc op s1 op1 n hop _ ih =>
    exact ih (startOp_curI h t hok hord (s := (s.note t (.ret pc r)).note t (.inv (pc + 1))) (r := r)
      ⟨hi.tree, hi.cok, hi.pos⟩ op)

theorem stepExec_inv (B : KBlocks K V) (lt : K → K → Bool) (c c' : Config K V) (t : Nat)
    (hstep : c.step t = some c') (h : KFInv lt c) (hw : ∀ th ∈ c.threads, CursorPosW lt c.tree th)
    {s1 : St K V} {op : COp K V} {n : Nat} (hx : StepExec c t s1 op n) :
    KFInv lt c' ∧ s1.tree = c'.tree ∧ CursorOk c'.tree false s1.cursor ∧ CurW lt c'.tree s1.cursor := by
  obtain ⟨th, r, F, h'⟩ := step_kfinv_routes B hstep h
  suffices CurI lt c'.tree s1 (.done .ok) from ⟨h', this.tree, this.cok, this.pos⟩
  obtain ⟨th0, ht, hx⟩ := hx
  cases F.the ht
  have hswo := h.kp.swo
  cases hp : th.park with
  | finished => rw [hp] at hx; exact absurd hx id
  | start =>
    rw [hp] at hx
    obtain ⟨op0, hop0, hx⟩ := hx
    have hi0 := started_state F.toCStep hw hp
    rcases hx with ⟨_, e2, _⟩ | hx
    · rw [e2]; exact hi0
    · exact loopExec_inv hswo t th h'.cinv.s.tree h'.kinv.ord hx
        (startOp_curI hswo t h'.cinv.s.tree h'.kinv.ord hi0 op0)
  | want l k =>
    rw [hp] at hx
    exact loopExec_inv hswo t th h'.cinv.s.tree h'.kinv.ord hx
      (resumed_state F.toCStep h hw (by rw [hp]; rfl))
  | yielded k =>
    rw [hp] at hx
    exact loopExec_inv hswo t th h'.cinv.s.tree h'.kinv.ord hx
      (resumed_state F.toCStep h hw (by rw [hp]; rfl))

section reach

variable (B : KBlocks K V) (lt : K → K → Bool) (P : Params K) (tree : Tree K V) (progs : List (List (COp K V)))
  (hkp : KParams lt P) (ht : TreeOk none tree) (hord : OrdTree lt tree) (hsep : SepTree lt tree)
  (ho : tree.order = P.order) (hp : PadOk P) (hd : Disciplined progs)
  (hdel : 4 ≤ tree.order ∨ NoDelete progs)
include B hkp ht hord hsep ho hp hd hdel

theorem exec_scan (c c' : Config K V) (hr : Reachable (Config.init P tree progs) c) (t : Nat)
    (hstep : c.step t = some c') {s1 : St K V} {n : Nat} (hx : StepExec c t s1 .scan n)
    {leaf : Nat} {i : Int} (hcur : s1.cursor = some (some leaf, i)) (hex : s1.exhausted = false) :
    ∃ sh, c'.tree.look leaf = some sh ∧ sh.height = 0 ∧ (∃ b, CurPos lt c'.tree b leaf i) ∧
      ((startOp t s1 .scan = ({ s1 with cursor := some (some leaf, i + 1) }, .done (.bool true)) ∧
          ∃ k v, sh.keys[(i + 1).toNat]? = some k ∧ sh.vals[(i + 1).toNat]? = some v ∧
            c'.tree.ahead leaf i = (k, v) :: c'.tree.ahead leaf (i + 1) ∧
            CurPos lt c'.tree (.gt k) leaf (i + 1)) ∨
        (startOp t s1 .scan =
            ({ (s1.rel t (.node leaf)) with cursor := some (none, i + 1), exhausted := true }, .done (.bool false)) ∧
          c'.tree.ahead leaf i = []) ∨
        (∃ nx, startOp t s1 .scan =
            ({ s1 with cursor := some (some leaf, i + 1) }, .park (.want (.node nx) (.hop leaf nx))) ∧
          c'.tree.ahead leaf (i + 1) = c'.tree.ahead leaf i)) := by
  obtain ⟨hinv, hw⟩ := reachable_cursorPosW B lt P tree progs hkp ht hord hsep ho hp hd hdel c hr
  obtain ⟨h', hT, hc, hcw⟩ := stepExec_inv B lt c c' t hstep hinv hw hx
  rw [hcur] at hc hcw
  obtain ⟨b, hb⟩ := hcw
  obtain ⟨sh, hl, h0, hs, hcase⟩ := scan_rest h'.kp.swo t h'.cinv.s.tree h'.kinv.ord ⟨hT, hcur, hex, hc, hb⟩
  refine ⟨sh, hl, h0, ⟨b, hs⟩, ?_⟩
  rcases hcase with h1 | h1 | ⟨nx, e, ha, _⟩
  · exact .inl h1
  · exact .inr (.inl h1)
  · exact .inr (.inr ⟨nx, e, ha⟩)

theorem exec_pair (c c' : Config K V) (hr : Reachable (Config.init P tree progs) c) (t : Nat)
    (hstep : c.step t = some c') {s1 : St K V} {n : Nat} (hx : StepExec c t s1 .pair n)
    {leaf : Nat} {i : Int} (hcur : s1.cursor = some (some leaf, i)) (hex : s1.exhausted = false) (hi : 0 ≤ i) :
    ∃ sh k v, c'.tree.look leaf = some sh ∧ startOp t s1 .pair = (s1, .done (.pair k v)) ∧
      sh.keys[i.toNat]? = some k ∧ sh.vals[i.toNat]? = some v ∧ (k, v) ∈ c'.tree.abs ∧
      Spec.lookup lt c'.tree.abs k = some v := by
  obtain ⟨hinv, hw⟩ := reachable_cursorPosW B lt P tree progs hkp ht hord hsep ho hp hd hdel c hr
  obtain ⟨h', hT, hc, hcw⟩ := stepExec_inv B lt c c' t hstep hinv hw hx
  have hok' := h'.cinv.s.tree
  rw [hcur] at hc hcw
  obtain ⟨b, hb⟩ := hcw
  obtain ⟨sh, k, v, hl, e, hk, hv, hm⟩ := pair_rest t hok' ⟨hT, hcur, hex, hc, hb⟩ hi
  exact ⟨sh, k, v, hl, e, hk, hv, hm, Tree.lookup_of_mem h'.kp.swo hok' h'.kinv.ord hm⟩

theorem step_newScanner (c c' : Config K V) (hr : Reachable (Config.init P tree progs) c) (t : Nat)
    (hstep : c.step t = some c') {th : Thread K V} (hth : c.threads[t]? = some th)
    {l : Lk} {start : K} {hold : Lk} {want : Nat} (hpk : th.park = .want l (.roNode true start hold want))
    {sh : Shallow K V} (hl : c.tree.look want = some sh) (h0 : sh.height = 0) :
    c'.tree = c.tree ∧
    ∃ lf : Leaf K V, c.tree.find want = some ⟨0, lf⟩ ∧
      (resume c.P t (stepSt c t th) (.roNode true start hold want)).2 = .done .ok ∧
      (resume c.P t (stepSt c t th) (.roNode true start hold want)).1.cursor =
        some (some want, (startIndex c.P {} start lf : Int) - 1) ∧
      CurPos lt c'.tree (.ge start) want ((startIndex c.P {} start lf : Int) - 1) ∧
      c'.tree.ahead want ((startIndex c.P {} start lf : Int) - 1) = Spec.from lt c'.tree.abs start := by
  have hinv := reachable_kfinv B lt P tree progs hkp ht hord hsep ho hp hd hdel c hr
  have hS := hinv.cinv.s
  have hk : th.park.kont? = some (.roNode true start hold want) := by rw [hpk]; rfl
  obtain ⟨r, S⟩ := step_stepped_at hstep hth
  obtain ⟨lf, hf, h2, h3, h4, h5, h6⟩ := resume_newScanner c.P hinv.kp t (stepSt c t th) start hold want
    (hole := holeOf c.threads) hS.tree hinv.kinv.ord (stepper_pre hS hth hk).2.kok (kpos_of_park hinv.kinv hth hk) hl h0
  have hT : c'.tree = c.tree := by rw [S.tree_resume hk, h3]; rfl
  rw [hT]
  exact ⟨rfl, lf, hf, h2, h4, h5, h6⟩

theorem step_hop (c c' : Config K V) (hr : Reachable (Config.init P tree progs) c) (t : Nat)
    (hstep : c.step t = some c') {th : Thread K V} (hth : c.threads[t]? = some th)
    {l : Lk} {cur next : Nat} (hpk : th.park = .want l (.hop cur next)) :
    c'.tree = c.tree ∧
    (resume c.P t (stepSt c t th) (.hop cur next)).2 = .done (.bool true) ∧
    (resume c.P t (stepSt c t th) (.hop cur next)).1.cursor = some (some next, 0) ∧
    ∃ i shn k v, th.cursor = some (some cur, i) ∧ (∃ b, CurPosW lt c.tree b cur i) ∧
      c'.tree.look next = some shn ∧ shn.height = 0 ∧ shn.keys[0]? = some k ∧ shn.vals[0]? = some v ∧
      c.tree.ahead cur i = (k, v) :: c'.tree.ahead next 0 ∧ CurPos lt c'.tree (.gt k) next 0 := by
  obtain ⟨hinv, hw⟩ := reachable_cursorPosW B lt P tree progs hkp ht hord hsep ho hp hd hdel c hr
  have htm : th ∈ c.threads := List.mem_of_getElem? hth
  have hS := hinv.cinv.s
  have hk : th.park.kont? = some (.hop cur next) := by rw [hpk]; rfl
  have R := (stepper_pre hS hth hk).2
  have hko := R.kok
  have hkpre : cursorLocks th.cursor = [.node cur] := R.pre
  have hcok : CursorOk c.tree true th.cursor := R.cur
  obtain ⟨r, S⟩ := step_stepped_at hstep hth
  have hT : c'.tree = c.tree := by rw [S.tree_resume hk]; rfl
  obtain ⟨h1, _, h3, shn, k, v, hln, hn0, hk0, hv0, hcp, hah⟩ :=
    resume_hop hinv.kp.swo c.P t (stepSt c t th) cur next (hole := holeOf c.threads) hS.tree hinv.kinv.ord hko
  refine ⟨hT, h1, h3, ?_⟩
  match hc : th.cursor, hkpre with
  | none, hk' => simp [cursorLocks] at hk'
  | some (none, _), hk' => simp [cursorLocks] at hk'
  | some (some cur', i), hk' =>
    have e : cur' = cur := by simpa [cursorLocks] using hk'
    subst e
    rw [hc] at hcok
    rw [hT]
    exact ⟨i, shn, k, v, rfl, cursorPosW_iff_forall.1 (hw th htm) _ i hc, hln, hn0, hk0, hv0, hah i hcok, hcp⟩

end reach

end Gobptree.Conc
