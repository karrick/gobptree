/-
  A thread whose program contains no `Delete` never reaches a Delete continuation:
  the blocks of Search/NewScanner, Insert/Update, the cursor hop and the pause only park
  with continuations of their own kind, and `startOp` parks with a Delete continuation
  only for `.del`.
-/
import Gobptree.Proofs.CSPark

namespace Gobptree.Conc
open Gobptree

variable {K V : Type}

def COp.isDel : COp K V → Bool
  | .del _ => true
  | _ => false

theorem resume_nodel (P : Params K) (t : Nat) (s : St K V) (k : Kont K V) (h : isDelK k = false) (p : Park K V)
    (hp : (resume P t s k).2 = .park p) : isDelPark p = false := by
  cases resume_succ hp <;> first | rfl | cases h

theorem startOp_nodel (t : Nat) (s : St K V) (op : COp K V) (h : op.isDel = false) (p : Park K V)
    (hp : (startOp t s op).2 = .park p) : isDelPark p = false := by
  cases startOp_start hp with
  | @point _ k hk =>
    rcases firstKont_cases hk with ⟨_, _, _, rfl⟩ | ⟨_, rfl, rfl⟩ | ⟨_, _, rfl⟩
    · rfl
    · cases h
    · rfl
  | pause => rfl
  | hop leaf n => rfl

theorem runThread_nodel (P : Params K) (t : Nat) (th : Thread K V) (s0 : St K V)
    (hprog : ∀ op ∈ th.prog, op.isDel = false) (hpark : isDelPark th.park = false) :
    isDelPark (runThread P t th s0).1.park = false :=
  runThread_induct P t th s0 (fun _ fl _ => ∀ p, fl = .park p → isDelPark p = false)
    (fun r => isDelPark r.1.park = false)
    (fun _ p _ h => h p rfl) (fun _ _ _ => rfl) (fun _ _ _ _ _ => rfl)
    (fun _ _ _ op _ hop => startOp_nodel t _ op (hprog op (List.mem_of_getElem? hop)))
    (fun _ => hpark) (fun _ _ => rfl)
    (fun op _ hop => startOp_nodel t _ op (hprog op (List.mem_of_getElem? hop)))
    (fun k hk => resume_nodel P t s0 k ((isDelPark_kont hk).symm.trans hpark))

theorem Stepped.nodel {c c' : Config K V} {t : Nat} {th : Thread K V} {r : Thread K V × St K V × Bool}
    (S : Stepped c c' t th r) (hpark : isDelPark th.park = false) (hprog : ∀ op ∈ th.prog, op.isDel = false) :
    isDelPark r.1.park = false ∧ ∀ op ∈ r.1.prog, op.isDel = false := by
  rw [S.rprog, S.run]; exact ⟨runThread_nodel c.P t th _ hprog hpark, hprog⟩

theorem Stepped.nodel_all {c c' : Config K V} {t : Nat} {th : Thread K V} {r : Thread K V × St K V × Bool}
    (S : Stepped c c' t th r) (hn : ∀ th ∈ c.threads, isDelPark th.park = false ∧ ∀ op ∈ th.prog, op.isDel = false) :
    ∀ th ∈ c'.threads, isDelPark th.park = false ∧ ∀ op ∈ th.prog, op.isDel = false :=
  S.all (S.nodel (hn th S.mem).1 (hn th S.mem).2) fun _ b _ hj => hn b (List.mem_of_getElem? hj)

end Gobptree.Conc
