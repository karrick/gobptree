/-
  The rebalancing of one activation of Delete on the tree (find the node, `rebalance`, write
  it back) as a local rewrite of the flat view, with the tree invariant re-established for
  the new hole.
-/
import Gobptree.Proofs.CSDelReb
import Gobptree.Proofs.CSDelTree

namespace Gobptree.Conc
open Gobptree

variable {K V : Type}

theorem find_facts {t : Tree K V} {n d' : Nat} {m : Node K V d'} (hf : t.find n = some ⟨d', m⟩) :
    Node.id m = n ∧ t.look n = some (shallow m) ∧ ∃ L R, t.flat = L ++ flat m ++ R := by
  obtain ⟨hid, L, R, hflat, _⟩ := Tree.find_modify hf
  exact ⟨hid, look_of_find hf, L, R, hflat⟩

theorem kid_mem_flat {d : Nat} (i : Inner K (Node K V d)) (k : Node K V d) (hk : k ∈ i.kids) :
    (Node.id k, shallow k) ∈ flat (d := d + 1) i := by
  rw [flat_inner]
  exact List.mem_cons_of_mem _ (List.mem_flatMap.2 ⟨k, hk, self_mem_flat k⟩)

theorem kidAt_of_find {t : Tree K V} {n d : Nat} {i : Inner K (Node K V d)} (hf : t.find n = some ⟨d + 1, i⟩)
    (j : Nat) : t.kidAt n j = (i.kids[j]?).map Node.id :=
  kidAt_shallow (find_facts hf).2.1 j

theorem kidAt_of_kid {t : Tree K V} {n d j : Nat} {i : Inner K (Node K V d)} {k : Node K V d}
    (hf : t.find n = some ⟨d + 1, i⟩) (hk : i.kids[j]? = some k) : t.kidAt n j = some (Node.id k) := by
  rw [kidAt_of_find hf, hk]; rfl

theorem inner_of_kidAt {t : Tree K V} {n j c : Nat} (h : t.kidAt n j = some c) :
    ∃ (d : Nat) (i : Inner K (Node K V d)), t.find n = some ⟨d + 1, i⟩ ∧
      t.look n = some (shallow (d := d + 1) i) ∧ ∃ k, i.kids[j]? = some k ∧ Node.id k = c := by
  obtain ⟨d, p, k, hf, hl, _, hk, hc⟩ := kidAt_inner h
  exact ⟨d, p, hf, hl, k, hk, hc⟩

theorem kids_id_ne {d : Nat} (i : Inner K (Node K V d)) (hn : ((flat (d := d + 1) i).map Prod.fst).Nodup)
    {j j' : Nat} {k k' : Node K V d} (hk : i.kids[j]? = some k) (hk' : i.kids[j']? = some k') (hne : j ≠ j') :
    Node.id k ≠ Node.id k' := by
  have key : ∀ (a b : Nat) (x y : Node K V d), i.kids[a]? = some x → i.kids[b]? = some y → a < b →
      Node.id x ≠ Node.id y := by
    intro a b x y hx hy hlt
    obtain ⟨s1, s2, hs, _, _⟩ := flat_siblings (d := d + 1) i i.id (shallow (d := d + 1) i) a b (Node.id x) (Node.id y)
      (self_mem_flat (d := d + 1) i) ((shallow_kids_getElem i a _).2 ⟨x, hx, rfl⟩)
      ((shallow_kids_getElem i b _).2 ⟨y, hy, rfl⟩) hlt
    have h2 := hn.sublist (hs.map Prod.fst)
    simp only [List.map_cons, List.map_nil, List.nodup_cons, List.mem_singleton] at h2
    exact h2.1
  rcases Nat.lt_or_gt_of_ne hne with h | h
  · exact key j j' k k' hk hk' h
  · exact (key j' j k' k hk' hk h).symm

theorem ne_root_of_height {t : Tree K V} (hi : IdsOk t) {x y : Nat} {sx sy : Shallow K V}
    (hx : t.look x = some sx) (hy : t.look y = some sy) (hlt : sx.height < sy.height) : x ≠ t.rootId := by
  intro e
  rw [e, look_root hi] at hx
  cases hx
  have := look_height_le hy
  rw [shallow_height] at hlt
  omega

theorem ne_of_height {t : Tree K V} {x y : Nat} {sx sy : Shallow K V}
    (hx : t.look x = some sx) (hy : t.look y = some sy) (hlt : sx.height < sy.height) : x ≠ y := by
  intro e
  rw [e, hy] at hx
  cases hx
  omega

theorem minOf_none_root_ge {o r id h : Nat} (ho : 4 ≤ o) (hh : 0 < h) : 2 ≤ minOf o r none id h := by
  unfold minOf
  by_cases h1 : id = r
  · have : h ≠ 0 := by omega
    simp [h1, this]
  · simp [h1]; omega

theorem minOf_root_le_two {o r h : Nat} : minOf o r none r h ≤ 2 := by
  unfold minOf
  rw [if_pos rfl]
  split <;> omega

theorem minOf_none_nonroot {o r id h : Nat} (h1 : id ≠ r) : minOf o r none id h = o / 2 := by
  simp [minOf, h1]

theorem shrink_occ {o r n : Nat} {sh sh' : Shallow K V} {small : Bool} (ho : 4 ≤ o)
    (hocc : NodeOcc o (minOf o r none n sh.height) sh) (hpar : Par sh') (hh : sh'.height = sh.height)
    (hcnt : (small = false ∧ sh'.keys.length = sh.keys.length) ∨
      (sh'.keys.length + 1 = sh.keys.length ∧ small = decide (sh'.keys.length < o / 2))) :
    NodeOcc o (minOf' o r (if small then some n else none) n sh'.height) sh' ∧
      (small = true → sh'.keys.length < o / 2) := by
  have h1 := hocc.1
  refine ⟨NodeOcc.of_par hpar (by rcases hcnt with ⟨_, h⟩ | ⟨h, _⟩ <;> omega)
    (hh ▸ minOf'_shrink ho hocc.2.1 hcnt), fun hs => ?_⟩
  rcases hcnt with ⟨h, _⟩ | ⟨_, h⟩ <;> rw [hs] at h
  · cases h
  · simpa using h.symm

theorem rebIn_of_tree {t : Tree K V} {n c index d : Nat} {i : Inner K (Node K V d)}
    (hok : TreeOk' (some c) t) (hf : t.find n = some ⟨d + 1, i⟩)
    (hkid : t.kidAt n index = some c) (hsmall : isSmall t c) :
    ∃ child, i.kids[index]? = some child ∧ Node.id child = c ∧ RebIn t.order i index child ∧
      NodeOcc t.order (minOf t.order t.rootId none n (d + 1)) (shallow (d := d + 1) i) := by
  obtain ⟨hid, hlook, L, R, hflat⟩ := find_facts hf
  rw [kidAt_of_find hf] at hkid
  obtain ⟨child, hc, hcid⟩ := Option.map_eq_some_iff.1 hkid
  have hsub : ∀ e ∈ flat (d := d + 1) i, e ∈ t.flat := fun _ he => mem_flat_of_find hf he
  have hnd : ((flat (d := d + 1) i).map Prod.fst).Nodup := by
    have h1 : t.ids.Nodup := hok.ids.1
    unfold Tree.ids at h1
    rw [hflat] at h1
    refine h1.sublist (List.Sublist.map _ ?_)
    exact (List.sublist_append_right _ _).trans (List.sublist_append_left _ _)
  have hklook : ∀ k ∈ i.kids, t.look (Node.id k) = some (shallow k) := fun k hk =>
    mem_look hok.ids (hsub _ (kid_mem_flat i k hk))
  have hih : (shallow (d := d + 1) i).height = d + 1 := rfl
  have hkroot : ∀ k ∈ i.kids, Node.id k ≠ t.rootId := fun k hk =>
    ne_root_of_height hok.ids (hklook k hk) hlook (by rw [shallow_height, hih]; exact Nat.lt_succ_self d)
  have hcm : child ∈ i.kids := List.mem_of_getElem? hc
  have hlc : t.look c = some (shallow child) := by rw [← hcid]; exact hklook child hcm
  have hnc : c ≠ n := ne_of_height hlc hlook (by rw [shallow_height, hih]; exact Nat.lt_succ_self d)
  have occI : NodeOcc t.order (minOf t.order t.rootId none n (d + 1)) (shallow (d := d + 1) i) := by
    have := hok.occ (n, shallow (d := d + 1) i) (look_mem hlook)
    rw [minOf'_of_ne _ (fun e => hnc (Option.some.inj e))] at this
    exact this
  refine ⟨child, hc, hcid, ⟨hok.order4, hok.even, occI.par, ?_, hc, ?_, ?_, ?_, hnd, ?_⟩, occI⟩
  · have h1 := occI.2.1
    have h2 := minOf_none_root_ge (o := t.order) (r := t.rootId) (id := n) (h := d + 1) hok.order4 (Nat.succ_pos d)
    exact Nat.le_trans h2 h1
  · have := hok.occ (c, shallow child) (look_mem hlc)
    have hcr : c ≠ t.rootId := by rw [← hcid]; exact hkroot child hcm
    rw [minOf'_hole _ hcr] at this
    exact this
  · obtain ⟨sh, hl, hlt⟩ := hsmall
    rw [hlc] at hl
    cases hl
    rw [count_eq]; exact hlt
  · intro j k hk hne
    have hkm : k ∈ i.kids := List.mem_of_getElem? hk
    have := hok.occ (Node.id k, shallow k) (look_mem (hklook k hkm))
    have hkc : Node.id k ≠ c := by rw [← hcid]; exact kids_id_ne i hnd hk hc hne
    rw [minOf'_of_ne _ (fun e => hkc (Option.some.inj e).symm), minOf_none_nonroot (hkroot k hkm)] at this
    exact this
  · refine ⟨flatLeaves L, flatLeaves R, ?_⟩
    have h1 : Chain (flatLeaves t.flat) := hok.chain
    rw [hflat, flatLeaves_append, flatLeaves_append] at h1
    exact h1

structure StepOut (t : Tree K V) (n index : Nat) (t' : Tree K V) (small' : Bool) : Prop where
  ok : TreeOk' (if small' then some n else none) t'
  root : t'.rootId = t.rootId
  order : t'.order = t.order
  nextId : t'.nextId = t.nextId
  small : small' = true → isSmall t' n
  frame : ∀ keep : Nat → Bool, keep n = false →
    (∀ j x, t.kidAt n j = some x → index ≤ j + 1 → j ≤ index + 1 → keep x = false) →
    FrameEq keep t.flat t'.flat
  look : ∀ x, x ≠ n → (∀ j, t.kidAt n j ≠ some x) → t'.look x = t.look x

theorem rebalance_step (P : Params K) (hp : PadOk P) {t : Tree K V} {n c index d : Nat}
    {i : Inner K (Node K V d)}
    (hok : TreeOk' (some c) t) (hord : t.order = P.order) (hf : t.find n = some ⟨d + 1, i⟩)
    (hkid : t.kidAt n index = some c) (hsmall : isSmall t c) :
    ∃ child i' small', i.kids[index]? = some child ∧ RebIn t.order i index child ∧
      rebalance P {} (P.order >>> 1) i index child = .ok (i', small') ∧
      StepOut t n index (putInner t i') small' ∧
      ∀ x sh j, t.kidAt n j = some x → (putInner t i').look x = some sh →
        x = n ∨ ∃ j', (putInner t i').kidAt n j' = some x := by
  obtain ⟨child, hc, hcid, hin, occI⟩ := rebIn_of_tree hok hf hkid hsmall
  obtain ⟨i', small', wr, new, heval, out⟩ := rebalance_rw P hp t.order i index child hin
  obtain ⟨hid, hlook, _⟩ := find_facts hf
  have hidn : i.id = n := hid
  rw [shiftRight_one_eq, ← hord]
  refine ⟨child, i', small', hc, hin, heval, ?_⟩
  have hf' : t.find i'.id = some ⟨d + 1, i⟩ := by rw [out.id, hidn]; exact hf
  obtain ⟨L, R, hfl, hfl', hroot, _, hnid, hord'⟩ := putInner_flat i' hf' hok.ids.1
  have hrw := rw_tree hok.ids hfl hfl' out.rw
  have hkidAt : ∀ j (k : Node K V d), i.kids[j]? = some k → t.kidAt n j = some (Node.id k) :=
    fun _ _ => kidAt_of_kid hf
  have hkh : ∀ j x, t.kidAt n j = some x → x ≠ n ∧ x ≠ t.rootId := by
    intro j x hx
    obtain ⟨shx, hlx, hh⟩ := kid_look hok.ids hx hlook
    exact ⟨ne_of_height hlx hlook (hh ▸ Nat.lt_succ_self _), ne_root_of_height hok.ids hlx hlook (hh ▸ Nat.lt_succ_self _)⟩
  have wrK : ∀ x ∈ wr, x = n ∨ ∃ j, t.kidAt n j = some x ∧ index ≤ j + 1 ∧ j ≤ index + 1 := by
    intro x hx
    rcases out.wr_sub x hx with h | ⟨j, k, hk, hkx, h1, h2⟩
    · exact Or.inl (h.trans hidn)
    · exact Or.inr ⟨j, hkx ▸ hkidAt j k hk, h1, h2⟩
  obtain ⟨hocc', hsm⟩ := shrink_occ (n := n) (sh := shallow (d := d + 1) i) (sh' := shallow (d := d + 1) i')
    hok.order4 occI out.par rfl out.cnt
  have hok' : TreeOk' (if small' then some n else none) (putInner t i') := by
    refine treeOk_of_rw hok hrw hroot hord' hnid ?_ ?_
    · intro e he
      rcases out.new_occ e he with rfl | ⟨⟨j, k, hk, hke⟩, hocc⟩
      · rw [hidn]; exact hocc'
      · have hx := hkidAt j k hk
        rw [hke] at hx
        obtain ⟨h1, h2⟩ := hkh j _ hx
        have hne : (if small' = true then some n else none) ≠ some e.1 := by
          intro h'
          split at h'
          · exact h1 (Option.some.inj h').symm
          · cases h'
        rw [minOf'_of_ne _ hne, minOf_none_nonroot h2]
        exact hocc
    · intro h hh
      simp only [Option.some.injEq] at hh
      subst hh
      right
      rw [← hcid]; exact out.child_wr
  have hn' : (putInner t i').look n = some (shallow (d := d + 1) i') := by
    have hm : (i'.id, shallow (d := d + 1) i') ∈ (putInner t i').flat := by
      rw [hfl']; exact List.mem_append_left _ (List.mem_append_right _ (self_mem_flat (d := d + 1) i'))
    rw [out.id, hidn] at hm
    exact mem_look hok'.ids hm
  refine ⟨⟨hok', hroot, hord', hnid, ?_, ?_, ?_⟩, ?_⟩
  · intro hs
    refine ⟨_, hn', ?_⟩
    rw [hord']
    exact hsm hs
  · intro keep hkn hkk
    apply hrw.frameEq
    intro x hx
    rcases wrK x hx with rfl | ⟨j, hj, h1, h2⟩
    · exact hkn
    · exact hkk j x hj h1 h2
  · intro x hxn hxk
    apply look_of_rw hrw
    intro hx
    rcases wrK x hx with h | ⟨j, hj, _, _⟩
    · exact hxn h
    · exact hxk j hj
  · intro x sh j hj hl
    have hkid : ∀ k ∈ i'.kids, Node.id k = x → ∃ j', (putInner t i').kidAt n j' = some x := by
      intro k hk hkx
      obtain ⟨j', hj'⟩ := List.getElem?_of_mem hk
      exact ⟨j', by rw [kidAt_shallow hn' j', hj', ← hkx]; rfl⟩
    rcases hrw.mem _ (look_mem hl) with h | ⟨_, hw⟩
    · rcases out.new_kid _ h with h | ⟨k, hk, he⟩
      · exact Or.inl (h.trans hidn)
      · exact Or.inr (hkid k hk (congrArg Prod.fst he).symm)
    · rw [kidAt_of_find hf] at hj
      obtain ⟨k, hk, hkx⟩ := Option.map_eq_some_iff.1 hj
      exact Or.inr (hkid k (out.wr_kid k (List.mem_of_getElem? hk) (hkx ▸ hw)) hkx)

end Gobptree.Conc
