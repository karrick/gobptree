/-
  Solo runs.  `SoloFin P (s, fl) s' r`: a thread that runs alone and whose current piece of code
  ended in state `s` with flow `fl` completes its operation in state `s'` with result `r` (every
  lock it asks for on the way is free).  `fin_run` turns this into a `Config.run` of
  the one-thread configuration.
-/
import Gobptree.Proofs.ConcBlocks
import Gobptree.Proofs.ConcOwner

namespace Gobptree.Conc
open Gobptree

variable {K V : Type}

def St.tick (s : St K V) : St K V := { s with evs := Ev.dec 0 [0] :: s.evs }

def OwnOk (s : St K V) : Prop := s.owner.Perm (s.held.map (fun l => (l, 0)))

theorem map_erase_pair (h : List Lk) (l : Lk) :
    (h.map (fun l => (l, 0))).erase (l, 0) = (h.erase l).map (fun l => ((l, 0) : Lk × Nat)) := by
  induction h with
  | nil => rfl
  | cons a rest ih =>
    by_cases e : a = l
    · subst e; simp
    · have : ((a, 0) : Lk × Nat) ≠ (l, 0) := by intro h; apply e; injection h
      rw [List.map_cons, List.erase_cons_tail (by simpa using this), List.erase_cons_tail (by simpa using e),
        List.map_cons, ih]

theorem OwnOk.acq {s : St K V} (h : OwnOk s) (l : Lk) : OwnOk (s.acq 0 l) := by
  unfold OwnOk St.acq
  simp only [List.map_append, List.map_cons, List.map_nil]
  exact (List.Perm.cons _ h).trans (List.perm_append_singleton _ _).symm

theorem OwnOk.rel {s : St K V} (h : OwnOk s) (l : Lk) : OwnOk (s.rel 0 l) := by
  unfold OwnOk St.rel
  simp only
  rw [← map_erase_pair]
  exact h.erase _

theorem OwnOk.tick {s : St K V} (h : OwnOk s) : OwnOk s.tick := h

theorem OwnOk.relOnly {s s' : St K V} (h : OwnOk s) (hr : RelOnly 0 s s') : OwnOk s' := by
  obtain ⟨ls, ho, hh⟩ := hr
  unfold OwnOk at h ⊢
  rw [ho, hh]
  clear ho hh
  generalize s.owner = o at h
  generalize s.held = hd at h
  induction ls generalizing o hd with
  | nil => exact h
  | cons l ls ih => exact ih _ _ (by rw [← map_erase_pair]; exact h.erase _)

theorem OwnOk.resume (P : Params K) {s : St K V} (h : OwnOk s) (k : Kont K V) : OwnOk (resume P 0 s k).1 := by
  have hr := (resume_block P 0 s k).1.relOnly
  unfold St.enter at hr
  cases hk : kontLock k with
  | none => rw [hk] at hr; exact h.relOnly hr
  | some l => rw [hk] at hr; exact (h.acq l).relOnly hr

theorem OwnOk.free {s : St K V} (h : OwnOk s) {l : Lk} (hl : l ∉ s.held) :
    s.owner.find? (fun p => p.1 = l) = none := by
  rw [List.find?_eq_none]
  intro p hp
  have := h.subset hp
  rw [List.mem_map] at this
  obtain ⟨l', hl', e⟩ := this
  subst e
  simp only [decide_eq_true_eq]
  intro e; subst e; exact hl hl'

theorem OwnOk.nil {s : St K V} (h : OwnOk s) (hh : s.held = []) : s.owner = [] := by
  unfold OwnOk at h
  rw [hh] at h
  exact List.Perm.eq_nil h

/-- a map operation's continuation: a thread parked there has no cursor leaf locked -/
def Kont.Plain (k : Kont K V) : Prop := ∀ cur, KontPre cur k → cursorLocks cur = []

/-- the parks a lone thread passes through until its operation returns.  What the thread holds is
    not tracked: it is a function of where it is parked (`FlowOk`, ConcHeld.lean), so the lock it
    asks for is free as soon as it is not among the locks of its continuation (`FlowOk.free`). -/
inductive SoloFin (P : Params K) : St K V × Flow K V → St K V → Res K V → Prop where
  | done (s : St K V) (r : Res K V) : SoloFin P (s, .done r) s r
  | park {s : St K V} {l : Lk} {k : Kont K V} {s' : St K V} {r : Res K V} :
      k.Plain → l ∉ kontHeld k → SoloFin P (resume P 0 s.tick k) s' r → SoloFin P (s, .park (.want l k)) s' r

theorem FlowOk.free {s : St K V} {l : Lk} {k : Kont K V} (hf : FlowOk s (.park (.want l k))) (hk : k.Plain)
    (hl : l ∉ kontHeld k) : l ∉ s.held := by
  intro hm
  have := hf.1.subset hm
  rw [hk _ hf.2.1] at this
  exact hl this

theorem SoloFin.held {P : Params K} {x : St K V × Flow K V} {s' : St K V} {r : Res K V} (h : SoloFin P x s' r) :
    FlowOk x.1 x.2 → s'.held.Perm (cursorLocks s'.cursor) := by
  induction h with
  | done s r => exact id
  | @park s l k _ _ _ _ _ ih => exact fun hf => ih (resume_ok P 0 s.tick k hf.1 hf.2.1)

theorem SoloFin.own {P : Params K} {x : St K V × Flow K V} {s' : St K V} {r : Res K V} (h : SoloFin P x s' r) :
    OwnOk x.1 → OwnOk s' := by
  induction h with
  | done s r => exact id
  | park _ _ _ ih => exact fun ho => ih (ho.tick.resume P _)

def sOf (c : Config K V) (th : Thread K V) : St K V :=
  { tree := c.tree, owner := c.owner, held := th.held, cursor := th.cursor, exhausted := th.exhausted, evs := c.log }

def cfgOf (c : Config K V) (r : Thread K V × St K V × Bool) : Config K V :=
  { c with tree := r.2.1.tree, owner := r.2.1.owner, threads := [r.1], log := r.2.1.evs, dead := c.dead || r.2.2 }

theorem threadLoop_congr (t : Nat) (th th' : Thread K V) (h : th'.prog = th.prog) :
    ∀ (fuel : Nat) (s : St K V) (fl : Flow K V) (pc : Nat),
      threadLoop t th' fuel s fl pc = threadLoop t th fuel s fl pc := by
  intro fuel
  induction fuel with
  | zero =>
    intro s fl pc
    cases fl <;> simp [threadLoop, h]
  | succ fuel ih =>
    intro s fl pc
    cases fl with
    | panic => simp [threadLoop, h]
    | park p => simp [threadLoop, h]
    | done r =>
      unfold threadLoop
      rw [h]
      cases hop : th.prog[pc + 1]? with
      | none => simp
      | some op => exact ih _ _ _

/-- the step of a configuration whose only thread is enabled -/
theorem step_lone (c : Config K V) (th : Thread K V) (hth : c.threads = [th]) (hen : th.enabled c = true) :
    c.step 0 = some (cfgOf c (runThread c.P 0 th (sOf c th).tick)) := by
  have hes : c.enabledSet = [0] := by
    unfold Config.enabledSet
    rw [hth]
    simp [List.range_succ, hen]
  unfold Config.step
  rw [hth]
  simp only [List.getElem?_cons_zero, hen, Bool.not_true, Bool.false_eq_true, if_false, hes]
  rfl

theorem step_solo (c : Config K V) (th : Thread K V) (l : Lk) (k : Kont K V)
    (hth : c.threads = [th]) (hp : th.park = .want l k) (ho : OwnOk (sOf c th)) (hl : l ∉ th.held) :
    c.step 0 = some (cfgOf c (threadLoop 0 th th.prog.length
      (resume c.P 0 (sOf c th).tick k).1 (resume c.P 0 (sOf c th).tick k).2 th.pc)) := by
  have hfree : c.holder l = none := by
    unfold Config.holder
    rw [show c.owner = (sOf c th).owner from rfl, ho.free (show l ∉ (sOf c th).held from hl)]
    rfl
  have hen : th.enabled c = true := by
    unfold Thread.enabled
    rw [hp]
    simp [hfree]
  rw [step_lone c th hth hen, runThread_want c.P 0 th _ hp]

theorem fin_loop (P : Params K) (x : St K V × Flow K V) (s' : St K V) (r : Res K V) (h : SoloFin P x s' r) :
    ∀ (c : Config K V) (th : Thread K V), c.P = P → OwnOk x.1 → FlowOk x.1 x.2 →
      ∃ n, (cfgOf c (threadLoop 0 th th.prog.length x.1 x.2 th.pc)).run (List.replicate n 0) =
        (cfgOf c (threadLoop 0 th th.prog.length s' (.done r) th.pc), none) := by
  induction h with
  | done s r => intro c th _ _ _; exact ⟨0, rfl⟩
  | @park s l k s' r hk hl _ ih =>
    intro c th hP ho hf
    simp only [threadLoop_at_park]
    let th1 : Thread K V := { th with pc := th.pc, park := .want l k, held := s.held, cursor := s.cursor, exhausted := s.exhausted }
    let c1 : Config K V := cfgOf c (th1, s, false)
    have hs1 : sOf c1 th1 = s := rfl
    have hstep := step_solo c1 th1 l k rfl rfl (by rw [hs1]; exact ho) (hf.free hk hl)
    rw [hs1] at hstep
    have hP1 : c1.P = P := hP
    rw [hP1] at hstep
    obtain ⟨n, hn⟩ := ih c th hP (ho.tick.resume P k) (resume_ok P 0 s.tick k hf.1 hf.2.1)
    refine ⟨n + 1, ?_⟩
    rw [List.replicate_succ]
    show Config.run c1 (0 :: List.replicate n 0) = _
    rw [run_step hstep]
    have hcong := threadLoop_congr 0 th th1 rfl
    have hc1 : ∀ r, cfgOf c1 r = cfgOf c r := by
      intro r
      show ({ c1 with tree := _, owner := _, threads := _, log := _, dead := c1.dead || r.2.2 } : Config K V) = _
      simp [c1, cfgOf]
    rw [hc1, show th1.prog.length = th.prog.length from rfl, show th1.pc = th.pc from rfl, hcong]
    exact hn

theorem fin_run (c : Config K V) (th : Thread K V) (l : Lk) (k : Kont K V) (s' : St K V) (r : Res K V)
    (hth : c.threads = [th]) (hp : th.park = .want l k)
    (h : SoloFin c.P (sOf c th, .park (.want l k)) s' r) (ho : OwnOk (sOf c th))
    (hf : FlowOk (sOf c th) (.park (.want l k))) :
    ∃ n, c.run (List.replicate (n + 1) 0) =
      (cfgOf c (threadLoop 0 th th.prog.length s' (.done r) th.pc), none) := by
  cases h with
  | park hk hl h =>
    obtain ⟨n, hn⟩ := fin_loop c.P _ s' r h c th rfl (ho.tick.resume c.P k) (resume_ok c.P 0 (sOf c th).tick k hf.1 hf.2.1)
    refine ⟨n, ?_⟩
    rw [List.replicate_succ, run_step (step_solo c th l k hth hp ho (hf.free hk hl))]
    exact hn

def cbNotes : List (Ev K V) → List (Option V)
  | [] => []
  | .note _ (.cb a) :: rest => a :: cbNotes rest
  | _ :: rest => cbNotes rest

def retNotes : List (Ev K V) → List (Nat × Res K V)
  | [] => []
  | .note _ (.ret i r) :: rest => (i, r) :: retNotes rest
  | _ :: rest => retNotes rest

theorem cbNotes_append (a b : List (Ev K V)) : cbNotes (a ++ b) = cbNotes a ++ cbNotes b := by
  induction a with
  | nil => rfl
  | cons e rest ih =>
    cases e with
    | note t n => cases n <;> simp [cbNotes, ih]
    | acq t l => simpa [cbNotes] using ih
    | rel t l => simpa [cbNotes] using ih
    | dec t l => simpa [cbNotes] using ih

theorem retNotes_append (a b : List (Ev K V)) : retNotes (a ++ b) = retNotes a ++ retNotes b := by
  induction a with
  | nil => rfl
  | cons e rest ih =>
    cases e with
    | note t n => cases n <;> simp [retNotes, ih]
    | acq t l => simpa [retNotes] using ih
    | rel t l => simpa [retNotes] using ih
    | dec t l => simpa [retNotes] using ih

def Grows (s s' : St K V) (cbs : List (Option V)) : Prop :=
  ∃ pre, s'.evs = pre ++ s.evs ∧ cbNotes pre = cbs ∧ retNotes pre = []

theorem Grows.refl (s : St K V) : Grows s s [] := ⟨[], rfl, rfl, rfl⟩

theorem Grows.trans {s s1 s2 : St K V} {a b : List (Option V)} (h1 : Grows s s1 a) (h2 : Grows s1 s2 b) :
    Grows s s2 (b ++ a) := by
  obtain ⟨p1, e1, c1, r1⟩ := h1
  obtain ⟨p2, e2, c2, r2⟩ := h2
  refine ⟨p2 ++ p1, by rw [e2, e1, List.append_assoc], by rw [cbNotes_append, c1, c2], by rw [retNotes_append, r1, r2]; rfl⟩

theorem Grows.of_evs {s s' : St K V} (pre : List (Ev K V)) (cbs : List (Option V))
    (h : s'.evs = pre ++ s.evs) (hc : cbNotes pre = cbs) (hr : retNotes pre = []) : Grows s s' cbs :=
  ⟨pre, h, hc, hr⟩

structure SoloPost (s s' : St K V) (T' : Tree K V) (cbs : List (Option V)) : Prop where
  tree : s'.tree = T'
  held : s'.held = []
  own : OwnOk s'
  cursor : s'.cursor = s.cursor
  exhausted : s'.exhausted = s.exhausted
  evs : Grows s s' cbs

structure Ext (s s1 : St K V) (cbs : List (Option V)) : Prop where
  cursor : s1.cursor = s.cursor
  exhausted : s1.exhausted = s.exhausted
  evs : Grows s s1 cbs

theorem Ext.refl (s : St K V) : Ext s s [] := ⟨rfl, rfl, Grows.refl s⟩

theorem Ext.trans {s s1 s2 : St K V} {a b : List (Option V)} (h1 : Ext s s1 a) (h2 : Ext s1 s2 b) : Ext s s2 (b ++ a) :=
  ⟨h2.cursor.trans h1.cursor, h2.exhausted.trans h1.exhausted, h1.evs.trans h2.evs⟩

theorem Ext.trans_nil {s s1 s2 : St K V} {b : List (Option V)} (h1 : Ext s s1 []) (h2 : Ext s1 s2 b) : Ext s s2 b := by
  have := h1.trans h2
  rwa [List.append_nil] at this

theorem Ext.event {s s1 s2 : St K V} {b : List (Option V)} (h : Ext s s1 b) (e : Ev K V) (a : List (Option V))
    (hc : s2.cursor = s1.cursor) (he : s2.exhausted = s1.exhausted) (hev : s2.evs = e :: s1.evs)
    (hcb : cbNotes [e] = a) (hret : retNotes [e] = []) : Ext s s2 (a ++ b) :=
  h.trans ⟨hc, he, [e], hev, hcb, hret⟩

theorem Ext.tick {s s1 : St K V} {b : List (Option V)} (h : Ext s s1 b) : Ext s s1.tick b :=
  h.event (.dec 0 [0]) [] rfl rfl rfl rfl rfl

theorem Ext.acq {s s1 : St K V} {b : List (Option V)} (h : Ext s s1 b) (l : Lk) : Ext s (s1.acq 0 l) b :=
  h.event (.acq 0 l) [] rfl rfl rfl rfl rfl

theorem Ext.rel {s s1 : St K V} {b : List (Option V)} (h : Ext s s1 b) (l : Lk) : Ext s (s1.rel 0 l) b :=
  h.event (.rel 0 l) [] rfl rfl rfl rfl rfl

theorem Ext.cb {s s1 : St K V} {b : List (Option V)} (h : Ext s s1 b) (a : Option V) : Ext s (s1.note 0 (.cb a)) (a :: b) :=
  h.event (.note 0 (.cb a)) [a] rfl rfl rfl rfl rfl

theorem Ext.setTree {s s1 : St K V} {b : List (Option V)} (h : Ext s s1 b) (tr : Tree K V) : Ext s (s1.setTree tr) b :=
  ⟨h.cursor, h.exhausted, h.evs⟩

theorem Ext.relOpt {s s1 : St K V} {b : List (Option V)} (h : Ext s s1 b) (o : Option Nat) : Ext s (relOpt 0 s1 o) b := by
  cases o with
  | none => exact h
  | some r => exact h.rel _

theorem Ext.frameUnlock {s s1 : St K V} {b : List (Option V)} (h : Ext s s1 b) (fr : Frame) (ro : Option Nat) :
    Ext s (frameUnlock 0 s1 fr ro) b :=
  ((h.relOpt _).rel _).relOpt _

/-- a lone thread whose piece of code ended in `x` completes its operation with result `r`,
    leaving the tree `T`; `s0` is the state from which cursor and log are accounted for -/
def Solo (P : Params K) (s0 : St K V) (x : St K V × Flow K V) (T : Tree K V) (r : Res K V) (cbs : List (Option V)) : Prop :=
  ∃ s', SoloFin P x s' r ∧ s'.tree = T ∧ Ext s0 s' cbs

theorem Solo.done {P : Params K} {s0 s : St K V} {T : Tree K V} {r : Res K V} {b : List (Option V)}
    (ht : s.tree = T) (e : Ext s0 s b) : Solo P s0 (s, .done r) T r b :=
  ⟨s, .done s r, ht, e⟩

theorem Solo.park {P : Params K} {s0 s : St K V} {l : Lk} {k : Kont K V} {T : Tree K V} {r : Res K V} {b : List (Option V)}
    (hk : k.Plain) (hl : l ∉ kontHeld k) (h : Solo P s0 (resume P 0 s.tick k) T r b) :
    Solo P s0 (s, .park (.want l k)) T r b := by
  obtain ⟨s', hf, h⟩ := h
  exact ⟨s', .park hk hl hf, h⟩

theorem Solo.rebase {P : Params K} {s0 s1 : St K V} {x : St K V × Flow K V} {T : Tree K V} {r : Res K V}
    {b : List (Option V)} (h : Solo P s1 x T r b) (e : Ext s0 s1 []) : Solo P s0 x T r b := by
  obtain ⟨s', hf, ht, he⟩ := h
  exact ⟨s', hf, ht, e.trans_nil he⟩

@[reducible] def St.entered (s : St K V) : St K V := (s.tick.acq 0 .tree).tick.acq 0 (.node (Node.id s.tree.root))

/-- every map operation starts alike: it takes `rootMutex`, then the root; `k0`, `k1` are the
    continuations it parks with on the way -/
theorem Solo.enter {P : Params K} {s : St K V} {k0 k1 : Kont K V} {T : Tree K V} {r : Res K V} {b : List (Option V)}
    (hp0 : k0.Plain) (hp1 : k1.Plain) (hk0 : kontHeld k0 = []) (hk1 : kontHeld k1 = [.tree])
    (h0 : resume P 0 s.tick k0 = (s.tick.acq 0 .tree, .park (.want (.node (Node.id s.tree.root)) k1)))
    (h : Solo P s.entered (resume P 0 (s.tick.acq 0 .tree).tick k1) T r b) :
    Solo P s (s, .park (.want .tree k0)) T r b := by
  refine Solo.park hp0 (by rw [hk0]; exact List.not_mem_nil) ?_
  rw [h0]
  refine Solo.park hp1 (by rw [hk1]; simp) (h.rebase ((((Ext.refl s).tick.acq _).tick.acq _)))

theorem Solo.post {P : Params K} {s : St K V} {fl : Flow K V} {T : Tree K V} {r : Res K V} {b : List (Option V)}
    (h : Solo P s (s, fl) T r b) (hf : FlowOk s fl) (hc : s.cursor = none) (ho : OwnOk s) :
    ∃ s', SoloFin P (s, fl) s' r ∧ SoloPost s s' T b := by
  obtain ⟨s', hfin, ht, he⟩ := h
  have hh := hfin.held hf
  rw [he.cursor, hc] at hh
  exact ⟨s', hfin, ht, List.Perm.eq_nil hh, hfin.own ho, he.cursor, he.exhausted, he.evs⟩

end Gobptree.Conc
