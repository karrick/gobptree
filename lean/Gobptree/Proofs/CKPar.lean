/-
  Where the structural layer meets the routes: its invariant gives the parallel-array hypothesis
  of the key-order lemmas, and the child a descent picks (`kidAt` at `searchLE`) is on the route.
-/
import Gobptree.Proofs.CKZoom
import Gobptree.Proofs.CSDelStep

namespace Gobptree.Conc
open Gobptree

variable {K V : Type} {lt : K → K → Bool}

theorem parN_of_flat : ∀ (d : Nat) (n : Node K V d),
    (∀ p ∈ flat n, 0 < p.2.height → p.2.keys.length = p.2.kids.length ∧ 1 ≤ p.2.keys.length) → ParN d n := by
  intro d
  induction d with
  | zero => intro n _; trivial
  | succ d ih =>
    intro n h
    have hself := h ((n : Inner K (Node K V d)).id, shallow n) (by rw [flat_succ]; simp) (by
      show 0 < (shallow n).height
      rw [shallow_height]; omega)
    have hk : (shallow n).kids.length = (n : Inner K (Node K V d)).kids.length := by
      show ((n : Inner K (Node K V d)).kids.map (Node.id (d := d))).length = _
      simp
    refine ⟨?_, hself.2, ?_⟩
    · have := hself.1
      rw [hk] at this
      exact this
    · intro c hc
      apply ih
      intro p hp
      apply h
      rw [flat_succ]
      exact List.mem_cons_of_mem _ (List.mem_flatMap.2 ⟨c, hc, hp⟩)

theorem parTree_of_occ {t : Tree K V} {o : Nat} {m : Nat × Shallow K V → Nat}
    (h : ∀ p ∈ t.flat, NodeOcc o (m p) p.2) : ParTree t := by
  apply parN_of_flat
  intro p hp hpos
  have := (h p hp).2.2.2 hpos
  exact ⟨this.1, this.2.1⟩

theorem parTree_of_treeOk {hole : Option Nat} {t : Tree K V} (h : TreeOk hole t) : ParTree t :=
  parTree_of_occ h.occ

theorem parTree_of_treeOk' {hole : Option Nat} {t : Tree K V} (h : TreeOk' hole t) : ParTree t :=
  parTree_of_occ h.occ

theorem onRoute_kid {t : Tree K V} (hids : t.ids.Nodup) (hpar : ParTree t) (key : K) {node index child : Nat}
    (hon : OnRoute lt t key node) (hidx : index = searchLE lt key (keysOf t node))
    (hkid : t.kidAt node index = some child) : OnRoute lt t key child := by
  obtain ⟨d, i, hf, _, kc, hkc, hkcid⟩ := inner_of_kidAt hkid
  obtain ⟨a, b, hab⟩ := hon
  obtain ⟨s0, c0, _, hc0, hmem⟩ := Tree.route_kid hf hids hpar key a b hab
  rw [keysOf_find hf] at hidx
  rw [← hidx, hkc] at hc0
  injection hc0 with hc0
  subst hc0
  rw [hkcid] at hmem
  exact ⟨_, _, hmem⟩

end Gobptree.Conc
