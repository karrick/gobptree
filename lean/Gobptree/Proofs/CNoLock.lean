/-
  Quiescent instant = no mutex held.

  The implementation-side shape oracle runs at every scheduler state in which NO task holds a
  mutex.  This file proves that criterion sound in the small-step model: in every configuration
  that satisfies the invariants (`KFInv`, hence in every reachable configuration) and in which
  no thread holds a mutex, the tree satisfies the FULL quiescent shape invariant
  (`TreeOk none`, `OrdTree`, `SepTree`), hence the sequential `TreeInv ∧ IdsInv`.

  Why: the two relaxations of the in-flight invariant are each tied to a thread that holds a
  mutex —
    * the hole (`parkHole`): a Delete parked at `delRight`, which holds `rootMutex`;
    * the separator-lowering witness (`parkWit`): an Insert/Update parked at `upChild … r 0 …`,
      which holds node `r`.
  A thread that holds nothing is parked at `.start`, `.finished`, at the very first acquisition
  of an operation (`want .tree (roTree/upTree/delTree …)`) or at a client pause — and has no
  open cursor leaf (`idle_of_held_nil`); for such threads `idle_tree_ok` (CQuiescent) applies.
-/
import Gobptree.Proofs.CBridge
import Gobptree.Proofs.CClean

namespace Gobptree.Conc
open Gobptree

variable {K V : Type}

def NoLockHeld (c : Config K V) : Prop := ∀ th ∈ c.threads, th.held = []

theorem idleKont_of_kontHeld_nil (k : Kont K V) (h : kontHeld k = []) :
    IdleKont k ∨ ∃ c n, k = .hop c n := by
  cases k with
  | roTree _ _ => exact Or.inl trivial
  | upTree _ _ _ => exact Or.inl trivial
  | delTree _ => exact Or.inl trivial
  | paused => exact Or.inl trivial
  | hop c n => exact Or.inr ⟨c, n, rfl⟩
  | _ => simp [kontHeld] at h

theorem idle_of_held_nil {th : Thread K V} (hok : ThreadOk th) (hn : th.held = []) :
    IdlePark th.park ∧ cursorLocks th.cursor = [] := by
  obtain ⟨hc, hh⟩ := hok.held_nil_iff.1 hn
  refine ⟨?_, hc⟩
  obtain ⟨_, hpre, hlock⟩ := hok
  cases hp : th.park with
  | start => trivial
  | finished => trivial
  | want l k =>
    rw [hp] at hh hpre hlock
    rcases idleKont_of_kontHeld_nil k hh with hi | ⟨c, n, rfl⟩
    · cases k with
      | roTree _ _ => exact ⟨(Option.some.inj hlock).symm, trivial, by intro e; cases e⟩
      | upTree _ _ _ => exact ⟨(Option.some.inj hlock).symm, trivial, by intro e; cases e⟩
      | delTree _ => exact ⟨(Option.some.inj hlock).symm, trivial, by intro e; cases e⟩
      | paused => cases hlock
      | _ => exact absurd hi id
    · have : cursorLocks th.cursor = [.node c] := hpre
      rw [hc] at this
      cases this
  | yielded k =>
    rw [hp] at hh hpre hlock
    rcases idleKont_of_kontHeld_nil k hh with hi | ⟨c, n, rfl⟩
    · cases k with
      | roTree _ _ => cases hlock
      | upTree _ _ _ => cases hlock
      | delTree _ => cases hlock
      | paused => rfl
      | _ => exact absurd hi id
    · cases hlock

theorem parkHole_held {b : Thread K V} (hok : ThreadOk b) {x : Nat} (h : parkHole b.park = some x) :
    Lk.tree ∈ b.held :=
  hole_holds_tree hok h

theorem nolock_tree_ok (lt : K → K → Bool) (c : Config K V) (h : KFInv lt c) (hq : NoLockHeld c) :
    TreeOk none c.tree ∧ OrdTree lt c.tree ∧ SepTree lt c.tree :=
  idle_tree_ok lt c h fun th hth => (idle_of_held_nil (h.cinv.s.cfg th hth) (hq th hth)).1

theorem reachable_nolock_tree_ok (lt : K → K → Bool) (P : Params K) (tree : Tree K V)
    (progs : List (List (COp K V)))
    (hkp : KParams lt P) (ht : TreeOk none tree) (hord : OrdTree lt tree) (hsep : SepTree lt tree)
    (ho : tree.order = P.order) (hp : PadOk P) (hd : Disciplined progs) (hdel : 4 ≤ tree.order ∨ NoDelete progs)
    (c : Config K V) (hr : Reachable (Config.init P tree progs) c) (hq : NoLockHeld c) :
    TreeOk none c.tree ∧ OrdTree lt c.tree ∧ SepTree lt c.tree ∧ c.tree.order = P.order :=
  let h := reachable_kfinv' lt P tree progs hkp ht hord hsep ho hp hd hdel c hr
  let r := nolock_tree_ok lt c h hq
  ⟨r.1, r.2.1, r.2.2, by rw [h.cinv.s.order, reachable_P P tree progs c hr]⟩

theorem reachable_nolock_treeInv (lt : K → K → Bool) (P : Params K) (tree : Tree K V)
    (progs : List (List (COp K V)))
    (hkp : KParams lt P) (ht : TreeOk none tree) (hord : OrdTree lt tree) (hsep : SepTree lt tree)
    (ho : tree.order = P.order) (hp : PadOk P) (hd : Disciplined progs) (hdel : 4 ≤ tree.order ∨ NoDelete progs)
    (c : Config K V) (hr : Reachable (Config.init P tree progs) c) (hq : NoLockHeld c) :
    TreeInv lt c.tree ∧ IdsInv c.tree ∧ c.tree.order = P.order :=
  let r := reachable_nolock_tree_ok lt P tree progs hkp ht hord hsep ho hp hd hdel c hr hq
  let b := treeInv_of_concurrent lt hkp.swo c.tree r.1 r.2.1
  ⟨b.1, b.2, r.2.2.2⟩

/-! ### the same criterion on the owner table (what the scheduler of the checker sees) -/

theorem noLockHeld_iff_owner_nil (c : Config K V) (ho : OwnerOk c) : NoLockHeld c ↔ c.owner = [] := by
  constructor
  · exact owner_nil_of_held_nil c ho
  · intro hn th hth
    obtain ⟨t, hget'⟩ := List.getElem?_of_mem hth
    apply List.eq_nil_iff_forall_not_mem.2
    intro l hl
    have hm := (ho.mem_iff l t).2 (by rw [heldOf_eq hget']; exact hl)
    rw [hn] at hm
    cases hm

theorem owner_nil_tree_ok (lt : K → K → Bool) (c : Config K V) (h : KFInv lt c) (hq : c.owner = []) :
    TreeOk none c.tree ∧ OrdTree lt c.tree ∧ SepTree lt c.tree :=
  nolock_tree_ok lt c h ((noLockHeld_iff_owner_nil c h.cinv.s.owner).2 hq)

/-- `AtRest` alone does NOT give `NoLockHeld`: a finished thread may still hold the leaf of a
    cursor it never closed.  With `FinishedClean` (a theorem for programs that close their
    cursors, `CClean`) it does. -/
theorem noLockHeld_of_atRest (c : Config K V) (h : CInv c) (hq : AtRest c) (hf : FinishedClean c) :
    NoLockHeld c := by
  intro th hth
  rcases hq th hth with e | e
  · have hd := h.disc th hth
    unfold DiscOk at hd
    rw [e] at hd
    exact (h.s.cfg th hth).held_nil_iff.2 ⟨by rw [hd.2]; rfl, by rw [e]; rfl⟩
  · exact hf th hth e

theorem idle_of_noLockHeld (c : Config K V) (h : ConfigOk c) (hq : NoLockHeld c) :
    ∀ th ∈ c.threads, IdlePark th.park ∧ cursorLocks th.cursor = [] :=
  fun th hth => idle_of_held_nil (h th hth) (hq th hth)

theorem atRest_of_unfinished_false (c : Config K V) (hu : c.unfinished = false) : AtRest c :=
  fun th hm => Or.inr (finished_of_unfinished_false c hu th hm)

def exP : Params Nat := { lt := fun a b => decide (a < b), pad := fun _ => some 0, order := 4 }

def exProgs : List (List (COp Nat Nat)) := [[COp.ns 0]]

def exC : Config Nat Nat := ((Config.init exP (Tree.new 4) exProgs).run [0, 0, 0]).1

theorem exP_kparams : KParams exP.lt exP :=
  ⟨SWO.natLt, rfl⟩

/-- `Prod.ext rfl h` in its place has `(c.run ts).1 = exC` checked by running `c.run ts` once more -/
theorem pair_of_snd {α β : Type} {p : α × β} {b : β} (h : p.2 = b) : p = (p.1, b) := by
  cases p; cases h; rfl

/-- **counterexample**: a disciplined (C06-conforming) program, a reachable configuration in
    which every thread has finished — so `AtRest` holds — and yet a mutex is held: the leaf the
    never-closed cursor rests on.  (`rest_tree_ok` still applies to it; the no-lock criterion of
    the checker simply never fires there.) -/
theorem atRest_not_noLockHeld :
    Disciplined exProgs ∧ Reachable (Config.init exP (Tree.new 4) exProgs) exC ∧ AtRest exC ∧
      ¬ NoLockHeld exC ∧ ¬ FinishedClean exC := by
  -- the three steps are run once, by the kernel (`decide` alone has the elaborator run them first, slowly)
  obtain ⟨hnone, hheld, hun⟩ : ((Config.init exP (Tree.new 4) exProgs).run [0, 0, 0]).2 = none ∧
      exC.threads.map (fun th => th.held) = [[Lk.node 0]] ∧ exC.unfinished = false := by decide +kernel
  have hrun : (Config.init exP (Tree.new 4) exProgs).run [0, 0, 0] = (exC, none) := pair_of_snd hnone
  have hrest := atRest_of_unfinished_false exC hun
  have hnl : ¬ NoLockHeld exC := by
    intro hq
    have : exC.threads.map (fun th => th.held) = exC.threads.map (fun _ => ([] : List Lk)) :=
      List.map_congr_left fun th hth => hq th hth
    rw [hheld] at this
    cases hthr : exC.threads with
    | nil => rw [hthr] at this; cases this
    | cons a rest => rw [hthr] at this; cases this
  refine ⟨(disciplined_not_closing 0).1,
    reachable_of_run _ _ _ _ Reachable.refl hrun, hrest, hnl, ?_⟩
  intro hf
  exact hnl fun th hth => hf th hth (finished_of_unfinished_false exC hun th hth)

end Gobptree.Conc

#print axioms Gobptree.Conc.nolock_tree_ok
#print axioms Gobptree.Conc.reachable_nolock_tree_ok
#print axioms Gobptree.Conc.reachable_nolock_treeInv
#print axioms Gobptree.Conc.noLockHeld_iff_owner_nil
#print axioms Gobptree.Conc.owner_nil_tree_ok
#print axioms Gobptree.Conc.noLockHeld_of_atRest
#print axioms Gobptree.Conc.idle_of_noLockHeld
#print axioms Gobptree.Conc.atRest_not_noLockHeld
