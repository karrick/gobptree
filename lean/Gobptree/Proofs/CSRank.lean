/-
  Every configuration satisfying the structural invariant `SInv` is ranked by `posRank`
  (rootMutex, then the nodes level by level from the root, each level in pre-order):
  a thread parked at a `Lock()` call waits for a mutex ranked strictly above all it holds.
  With `ranked_not_deadlocked` this is deadlock freedom of lock coupling.
  The reason is stated once: the mutexes of a continuation, in the order they were acquired and
  followed by the one it waits for, form a `LockChain` — each is reached from the one before by
  the root pointer, to a child, to a sibling on the right, or along a leaf's `next`
  (`kont_lockChain`, the one table over the continuations) — and every such link climbs in rank
  (`link_rank`) and stays inside the tree (`link_present`).
  The file starts with the basic lemmas about `look` and `kidAt` that the whole structural
  layer uses.
-/
import Gobptree.Proofs.CSFlatFacts
import Gobptree.Proofs.ConcRank

namespace Gobptree.Conc
open Gobptree

variable {K V : Type}

theorem look_mem {t : Tree K V} {id : Nat} {sh : Shallow K V} (h : t.look id = some sh) :
    (id, sh) ∈ t.flat := mem_of_lookup _ _ _ h

theorem mem_look {t : Tree K V} (hi : IdsOk t) {id : Nat} {sh : Shallow K V} (h : (id, sh) ∈ t.flat) :
    t.look id = some sh := lookup_of_mem _ _ _ hi.1 h

theorem look_height_le {t : Tree K V} {id : Nat} {sh : Shallow K V} (h : t.look id = some sh) :
    sh.height ≤ t.depth := flat_height_le t.root _ (look_mem h)

theorem look_root {t : Tree K V} (hi : IdsOk t) : t.look t.rootId = some (shallow t.root) :=
  mem_look hi (self_mem_flat t.root)

theorem kidAt_look {t : Tree K V} {p j c : Nat} (h : t.kidAt p j = some c) :
    ∃ sh, t.look p = some sh ∧ sh.kids[j]? = some c := by
  unfold Tree.kidAt at h
  cases hl : t.look p with
  | none => rw [hl] at h; cases h
  | some sh => rw [hl] at h; exact ⟨sh, rfl, h⟩

theorem kids_pair {t : Tree K V} {p a b : Nat} {sh : Shallow K V} (h : t.look p = some sh) (hk : sh.kids = [a, b]) :
    t.kidAt p 0 = some a ∧ t.kidAt p 1 = some b := by
  simp [Tree.kidAt, h, hk]

theorem kid_look {t : Tree K V} (hi : IdsOk t) {p j c : Nat} {sh : Shallow K V}
    (h : t.kidAt p j = some c) (hp : t.look p = some sh) :
    ∃ shc, t.look c = some shc ∧ shc.height + 1 = sh.height := by
  obtain ⟨sh', hp', hj⟩ := kidAt_look h
  rw [hp] at hp'
  cases hp'
  obtain ⟨shc, hc, hh⟩ := flat_kid t.root p sh j c (look_mem hp) hj
  exact ⟨shc, mem_look hi hc, hh⟩

theorem root_not_kid {t : Tree K V} (hi : IdsOk t) {p i : Nat} : t.kidAt p i ≠ some t.rootId := by
  intro h
  obtain ⟨sh, hp, _⟩ := kidAt_look h
  obtain ⟨shc, hc, hh⟩ := kid_look hi h hp
  rw [look_root hi] at hc
  have e := Option.some.inj hc
  have hd : (shallow t.root).height = t.depth := shallow_height t.root
  have hle := look_height_le hp
  rw [← e] at hh
  omega

theorem sib_look {t : Tree K V} (hi : IdsOk t) {p j j' a b : Nat}
    (ha : t.kidAt p j = some a) (hb : t.kidAt p j' = some b) (hlt : j < j') :
    ∃ sha shb, t.look a = some sha ∧ t.look b = some shb ∧ sha.height = shb.height ∧
      t.ids.idxOf a < t.ids.idxOf b := by
  obtain ⟨sh, hp, hj⟩ := kidAt_look ha
  obtain ⟨sh', hp', hj'⟩ := kidAt_look hb
  rw [hp] at hp'
  cases hp'
  obtain ⟨sha, shb, hs, h1, h2⟩ := flat_siblings t.root p sh j j' a b (look_mem hp) hj hj' hlt
  refine ⟨sha, shb, mem_look hi (hs.subset (by simp)), mem_look hi (hs.subset (by simp)), by omega, ?_⟩
  have hm : [a, b].Sublist t.ids := by
    have := hs.map Prod.fst
    simpa [Tree.ids, Tree.flat] using this
  exact idxOf_lt_of_pair_sublist hm hi.1

theorem posRank_node {t : Tree K V} {id : Nat} {sh : Shallow K V} (h : t.look id = some sh) :
    posRank t (.node id) = 1 + (t.depth - sh.height) * (t.ids.length + 1) + t.ids.idxOf id := by
  simp only [posRank, h]

theorem posRank_tree (t : Tree K V) : posRank t .tree = 0 := rfl

theorem rank_pos {t : Tree K V} {id : Nat} {sh : Shallow K V} (h : t.look id = some sh) :
    posRank t .tree < posRank t (.node id) := by
  rw [posRank_node h, posRank_tree]
  omega

theorem rank_lt_of_height {t : Tree K V} {a b : Nat} {sa sb : Shallow K V}
    (ha : t.look a = some sa) (hb : t.look b = some sb) (hlt : sb.height < sa.height) :
    posRank t (.node a) < posRank t (.node b) := by
  rw [posRank_node ha, posRank_node hb]
  have hle := look_height_le ha
  have hidx : t.ids.idxOf a ≤ t.ids.length := List.idxOf_le_length
  have hmul : (t.depth - sa.height + 1) * (t.ids.length + 1) ≤ (t.depth - sb.height) * (t.ids.length + 1) :=
    Nat.mul_le_mul_right _ (by omega)
  rw [Nat.add_mul, Nat.one_mul] at hmul
  omega

theorem rank_lt_of_idx {t : Tree K V} {a b : Nat} {sa sb : Shallow K V}
    (ha : t.look a = some sa) (hb : t.look b = some sb) (hh : sa.height = sb.height)
    (hlt : t.ids.idxOf a < t.ids.idxOf b) :
    posRank t (.node a) < posRank t (.node b) := by
  rw [posRank_node ha, posRank_node hb, hh]
  omega

theorem kid_rank {t : Tree K V} (hi : IdsOk t) {p j c : Nat} (h : t.kidAt p j = some c) :
    posRank t (.node p) < posRank t (.node c) := by
  obtain ⟨sh, hp, _⟩ := kidAt_look h
  obtain ⟨shc, hc, hh⟩ := kid_look hi h hp
  exact rank_lt_of_height hp hc (by omega)

theorem sib_rank {t : Tree K V} (hi : IdsOk t) {p j j' a b : Nat}
    (ha : t.kidAt p j = some a) (hb : t.kidAt p j' = some b) (hlt : j < j') :
    posRank t (.node a) < posRank t (.node b) := by
  obtain ⟨sha, shb, h1, h2, hh, hidx⟩ := sib_look hi ha hb hlt
  exact rank_lt_of_idx h1 h2 hh hidx

theorem leaf_mem_flatLeaves {t : Tree K V} {a : Nat} {sha : Shallow K V}
    (ha : t.look a = some sha) (h0 : sha.height = 0) : (a, sha) ∈ flatLeaves t.flat := by
  unfold flatLeaves
  exact List.mem_filter.mpr ⟨look_mem ha, by simp [h0]⟩

theorem next_look {t : Tree K V} (hi : IdsOk t) (hc : ChainOk t) {cur nx : Nat} {sh : Shallow K V}
    (hl : t.look cur = some sh) (h0 : sh.height = 0) (hn : sh.next = some nx) :
    ∃ shn, t.look nx = some shn ∧ shn.height = 0 ∧ t.ids.idxOf cur < t.ids.idxOf nx := by
  obtain ⟨⟨qi, qs⟩, hq, hs⟩ := chain_next _ (cur, sh) nx hc (leaf_mem_flatLeaves hl h0) hn
  have hqm : (qi, qs) ∈ flatLeaves t.flat := hs.subset (by simp)
  unfold flatLeaves at hqm
  obtain ⟨hqf, hq0⟩ := List.mem_filter.mp hqm
  simp only at hq
  subst hq
  have hm : [cur, qi].Sublist t.ids := by
    have := (hs.trans List.filter_sublist).map Prod.fst
    simpa [Tree.ids] using this
  exact ⟨qs, mem_look hi hqf, by simpa using hq0, idxOf_lt_of_pair_sublist hm hi.1⟩

theorem next_rank {t : Tree K V} (hi : IdsOk t) (hc : ChainOk t) {cur nx : Nat} {sh : Shallow K V}
    (hl : t.look cur = some sh) (h0 : sh.height = 0) (hn : sh.next = some nx) :
    posRank t (.node cur) < posRank t (.node nx) := by
  obtain ⟨shn, hln, hn0, hidx⟩ := next_look hi hc hl h0 hn
  exact rank_lt_of_idx hl hln (by omega) hidx

def present (t : Tree K V) (id : Nat) : Prop := ∃ sh, t.look id = some sh

theorem kid_present {t : Tree K V} (hi : IdsOk t) {p j c : Nat} (h : t.kidAt p j = some c) :
    present t p ∧ present t c := by
  obtain ⟨sh, hp, _⟩ := kidAt_look h
  obtain ⟨shc, hc, _⟩ := kid_look hi h hp
  exact ⟨⟨sh, hp⟩, ⟨shc, hc⟩⟩

theorem root_present {t : Tree K V} (hi : IdsOk t) : present t t.rootId := ⟨_, look_root hi⟩

theorem next_is_leaf {t : Tree K V} (hi : IdsOk t) (hc : ChainOk t) {a w : Nat} {sha : Shallow K V}
    (ha : t.look a = some sha) (h0 : sha.height = 0) (hn : sha.next = some w) :
    ∃ shw, t.look w = some shw ∧ shw.height = 0 := by
  obtain ⟨shw, h1, h2, _⟩ := next_look hi hc ha h0 hn
  exact ⟨shw, h1, h2⟩

/-- `b` is acquired while `a` is held: the four ways lock coupling moves on -/
def Link (t : Tree K V) : Lk → Lk → Prop
  | .tree, .node b => present t b
  | .node a, .node b =>
    (∃ i, t.kidAt a i = some b) ∨ (∃ p i j, t.kidAt p i = some a ∧ t.kidAt p j = some b ∧ i < j) ∨
    (∃ sh, t.look a = some sh ∧ sh.height = 0 ∧ sh.next = some b)
  | _, .tree => False

def LkPresent (t : Tree K V) : Lk → Prop
  | .tree => True
  | .node id => present t id

/-- newest first -/
def LockChain (t : Tree K V) : List Lk → Prop
  | [] => True
  | [a] => LkPresent t a
  | b :: a :: rest => Link t a b ∧ LockChain t (a :: rest)

theorem link_rank {t : Tree K V} (hi : IdsOk t) (hc : ChainOk t) {a b : Lk} (h : Link t a b) :
    posRank t a < posRank t b := by
  cases a <;> cases b <;> try exact h.elim
  · exact h.elim fun _ h => rank_pos h
  · rcases h with ⟨i, h⟩ | ⟨p, i, j, ha, hb, hlt⟩ | ⟨sh, hl, h0, hn⟩
    · exact kid_rank hi h
    · exact sib_rank hi ha hb hlt
    · exact next_rank hi hc hl h0 hn

theorem link_present {t : Tree K V} (hi : IdsOk t) (hc : ChainOk t) {a b : Lk} (h : Link t a b) :
    LkPresent t b := by
  cases a <;> cases b <;> try exact h.elim
  · exact h
  · rcases h with ⟨i, h⟩ | ⟨p, i, j, _, hb, _⟩ | ⟨sh, hl, h0, hn⟩
    · exact (kid_present hi h).2
    · exact (kid_present hi hb).2
    · exact next_is_leaf hi hc hl h0 hn |>.imp fun _ h => h.1

theorem lockChain_present {t : Tree K V} (hi : IdsOk t) (hc : ChainOk t) :
    ∀ L : List Lk, LockChain t L → ∀ a ∈ L, LkPresent t a
  | [], _, _, ha => nomatch ha
  | [a], h, x, hx => by cases List.mem_singleton.1 hx; exact h
  | b :: a :: rest, h, x, hx => by
    rcases List.mem_cons.1 hx with rfl | hx
    · exact link_present hi hc h.1
    · exact lockChain_present hi hc (a :: rest) h.2 x hx

theorem lockChain_sorted {t : Tree K V} (hi : IdsOk t) (hc : ChainOk t) :
    ∀ L : List Lk, LockChain t L → L.Pairwise (fun b a => posRank t a < posRank t b)
  | [], _ => .nil
  | [_], _ => List.pairwise_singleton _ _
  | b :: a :: rest, h => by
    have ih := lockChain_sorted hi hc (a :: rest) h.2
    have hab := link_rank hi hc h.1
    refine List.pairwise_cons.2 ⟨fun x hx => ?_, ih⟩
    rcases List.mem_cons.1 hx with rfl | hx
    · exact hab
    · exact Nat.lt_trans ((List.pairwise_cons.1 ih).1 x hx) hab

theorem framesHeld_rev (fr : Frame) (rest : List Frame) :
    (framesHeld (fr :: rest)).reverse = .node fr.child :: (optLock fr.left ++ (framesHeld rest).reverse) := by
  rw [framesHeld, List.reverse_append, List.reverse_append]
  cases fr.left <;> rfl

theorem frame_lockChain {t : Tree K V} {fr : Frame} {L : List Lk} (hfr : FrameOk t fr)
    (h : LockChain t (.node fr.node :: L)) : LockChain t (.node fr.child :: (optLock fr.left ++ .node fr.node :: L)) := by
  obtain ⟨hkid, hleft⟩ := hfr
  cases hl : fr.left with
  | none => exact ⟨.inl ⟨_, hkid⟩, h⟩
  | some l =>
    rw [hl] at hleft
    exact ⟨.inr (.inl ⟨_, _, _, hleft.2, hkid, Nat.sub_lt hleft.1 Nat.zero_lt_one⟩), .inl ⟨_, hleft.2⟩, h⟩

theorem frames_lockChain {t : Tree K V} (hi : IdsOk t) : ∀ (frames : List Frame) (top : Nat),
    FramesOk t t.rootId frames top →
    ∃ tl, (Lk.tree :: .node t.rootId :: framesHeld frames).reverse = .node top :: tl ∧ LockChain t (.node top :: tl)
  | [], top, h => by cases (show top = t.rootId from h); exact ⟨_, rfl, root_present hi, trivial⟩
  | fr :: rest, top, h => by
    obtain ⟨rfl, hfr, hrest⟩ := h
    obtain ⟨tl, e, hl⟩ := frames_lockChain hi rest fr.node hrest
    refine ⟨_, ?_, frame_lockChain hfr hl⟩
    rw [← e, List.reverse_cons, List.reverse_cons, framesHeld_rev, List.reverse_cons, List.reverse_cons]
    simp only [List.cons_append, List.append_assoc]

theorem frames_top_present {t : Tree K V} (hi : IdsOk t) (hc : ChainOk t) {frames : List Frame} {top : Nat}
    (h : FramesOk t t.rootId frames top) : present t top :=
  have ⟨_, _, hl⟩ := frames_lockChain hi frames top h
  lockChain_present hi hc _ hl (.node top) (List.mem_cons_self ..)

theorem kont_lockChain {t : Tree K V} (hi : IdsOk t) {k : Kont K V} {cur : Option (Option Nat × Int)}
    (hk : KontOk t k) (hpre : KontPre cur k) (hw : kontLock k ≠ none ∨ cursorLocks cur = []) :
    LockChain t ((kontLock k).toList ++ (cursorLocks cur ++ kontHeld k).reverse) := by
  cases k
  case paused => rw [hw.resolve_left (fun h => h rfl)]; trivial
  all_goals rw [show cursorLocks cur = _ from hpre]
  case roTree | upTree | delTree => trivial
  case hop c next =>
    obtain ⟨sh, hsh, h0, hn⟩ := hk
    show LockChain t [.node next, .node c]
    exact ⟨.inr (.inr ⟨sh, hsh, h0, hn⟩), sh, hsh⟩
  case roNode sc key hold want =>
    cases hold with
    | tree => show LockChain t [.node want, .tree]; exact ⟨hk ▸ root_present hi, trivial⟩
    | node p =>
      obtain ⟨i, hk'⟩ : ∃ i, t.kidAt p i = some want := hk
      show LockChain t [.node want, .node p]
      exact ⟨.inl ⟨i, hk'⟩, (kid_present hi hk').1⟩
  case upRoot r => show LockChain t [.node r, .tree]; exact ⟨hk ▸ root_present hi, trivial⟩
  case delRoot r => show LockChain t [.node r, .tree]; exact ⟨hk ▸ root_present hi, trivial⟩
  case upRootSib key f y root sib =>
    obtain ⟨⟨sh, hsh, hkids⟩, _⟩ := hk
    obtain ⟨h0, h1⟩ := kids_pair hsh hkids
    show LockChain t [.node sib, .node root, .tree]
    exact ⟨.inr (.inl ⟨_, 0, 1, h0, h1, Nat.zero_lt_one⟩), (kid_present hi h0).2, trivial⟩
  case upChild key f y parent index child =>
    show LockChain t [.node child, .node parent]
    exact ⟨.inl ⟨index, hk.1⟩, (kid_present hi hk.1).1⟩
  case upSib key f y parent child sib =>
    obtain ⟨⟨i, hci, hsi⟩, _⟩ := hk
    show LockChain t [.node sib, .node child, .node parent]
    exact ⟨.inr (.inl ⟨_, i, i + 1, hci, hsi, Nat.lt_succ_self i⟩), .inl ⟨i, hci⟩, (kid_present hi hci).1⟩
  case upCallback key f leaf arg => show LockChain t [.node leaf]; exact hk.1.imp fun _ h => h.1
  case delLeft key frames node index left root =>
    obtain ⟨rfl, hfr, _, hleft, _⟩ := hk
    obtain ⟨tl, e, hl⟩ := frames_lockChain hi frames node hfr
    show LockChain t (.node left :: (Lk.tree :: .node t.rootId :: framesHeld frames).reverse)
    rw [e]
    exact ⟨.inl ⟨_, hleft⟩, hl⟩
  case delChild key frames node index left child root =>
    obtain ⟨rfl, hfr, hfo⟩ := hk
    -- waiting for the child, the activation is as good as pending
    obtain ⟨tl, e, hl⟩ := frames_lockChain hi (⟨node, index, left, child⟩ :: frames) child ⟨rfl, hfo, hfr⟩
    rw [← e] at hl
    show LockChain t ([Lk.node child].reverse ++ _)
    rw [← List.reverse_append]
    simpa only [List.cons_append, List.append_assoc, List.nil_append, kontHeld, framesHeld] using hl
  case delRight key rest fr right root =>
    obtain ⟨rfl, hfr, hright, _⟩ := hk
    obtain ⟨tl, e, hl⟩ := frames_lockChain hi (fr :: rest) fr.child hfr
    show LockChain t (.node right :: (Lk.tree :: .node t.rootId :: framesHeld (fr :: rest)).reverse)
    rw [e]
    exact ⟨.inr (.inl ⟨_, _, _, hfr.2.1.1, hright, Nat.lt_succ_self _⟩), hl⟩

theorem kont_ranked (t : Tree K V) (hi : IdsOk t) (hch : ChainOk t) (cur : Option (Option Nat × Int)) :
    ∀ (k : Kont K V) (l : Lk), KontOk t k → kontLock k = some l → KontPre cur k →
      ∀ hd ∈ cursorLocks cur ++ kontHeld k, posRank t hd < posRank t l := by
  intro k l hk hl hpre hd hhd
  have h := lockChain_sorted hi hch _ (kont_lockChain hi hk hpre (.inl (hl ▸ Option.some_ne_none l)))
  rw [hl] at h
  exact (List.pairwise_cons.1 h).1 hd (List.mem_reverse.2 hhd)

theorem sinv_ranked (c : Config K V) (h : SInv c) : Ranked (posRank c.tree) c := by
  intro th hmem l k hp hd hhd
  obtain ⟨hperm, hpre, hlock⟩ := h.cfg th hmem
  have hs := (h.threads th hmem).1
  rw [hp] at hperm hpre hlock hs
  exact kont_ranked c.tree h.tree.ids h.tree.chain th.cursor k l hs hlock hpre hd (hperm.mem_iff.mp hhd)

end Gobptree.Conc

#print axioms Gobptree.Conc.sinv_ranked
