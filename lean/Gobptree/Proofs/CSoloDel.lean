/-
  Delete, sequential side.  The concurrent model rewrites the leaf in place and rebalances a
  parent that already contains the rewritten child; the sequential `deleteNode` hands the
  rewritten child to `rebalance` next to the OLD parent.  `rebalance_set` shows that `rebalance`
  never reads the old child, so the two agree.
-/
import Gobptree.Proofs.CSoloCtx
import Gobptree.Proofs.RebalanceEq

namespace Gobptree.Conc
open Gobptree

variable {K V : Type}

theorem deleteIdiom_set_same {α : Type} (l : List α) (i : Nat) (a : α) :
    deleteIdiom (l.set i a) i = deleteIdiom l i := by
  by_cases h : i < l.length
  · rw [deleteIdiom_eq _ _ (by simpa using h), deleteIdiom_eq _ _ h, List.take_set_of_le (Nat.le_refl _),
      List.drop_set_of_lt (by omega)]
  · rw [List.set_eq_of_length_le (by omega)]

theorem set_set_swap {α : Type} (l : List α) (i : Nat) (a b c : α) :
    ((l.set i a).set (i - 1) b).set i c = (l.set (i - 1) b).set i c := by
  by_cases h : i = 0
  · subst h; simp
  · rw [List.set_comm _ _ (by omega), List.set_set, List.set_comm _ _ (by omega)]

theorem deleteIdiom_set_prev {α : Type} (l : List α) (i : Nat) (a b : α) :
    deleteIdiom ((l.set i a).set (i - 1) b) i = deleteIdiom (l.set (i - 1) b) i := by
  by_cases h : i = 0
  · subst h; simp
  · rw [List.set_comm _ _ (by omega), deleteIdiom_set_same]

theorem rebalance_set (P : Params K) (vr : Variant) (m : Nat) {d : Nat} (i : Inner K (Node K V d)) (index : Nat)
    (c child : Node K V d) :
    rebalance P vr m ({ i with kids := i.kids.set index c } : Inner K (Node K V d)) index child =
      rebalance P vr m i index child := by
  have h1 : (i.kids.set index c)[index + 1]? = i.kids[index + 1]? := by
    rw [List.getElem?_set_ne (by omega)]
  have h2 : (if index > 0 then (i.kids.set index c)[index - 1]? else none) =
      (if index > 0 then i.kids[index - 1]? else none) := by
    split
    · rw [List.getElem?_set_ne (by omega)]
    · rfl
  unfold rebalance
  simp only [h1, h2, List.set_set, List.length_set, set_set_swap, deleteIdiom_set_prev]

theorem rebalance_right_exists (P : Params K) (vr : Variant) (m : Nat) {d : Nat} (i : Inner K (Node K V d)) (index : Nat)
    (child : Node K V d) (w : Inner K (Node K V d) × Bool) (h : rebalance P vr m i index child = .ok w)
    (hr : index + 1 < i.runts.length) : ∃ r, i.kids[index + 1]? = some r := by
  obtain ⟨i', s⟩ := w
  cases rebalance_cases P vr m i i' index child s h with
  | borrowRight right _ _ _ _ hright => exact ⟨right, hright⟩
  | borrowLeft _ _ _ _ hno => exact (hno hr).imp fun _ hx => hx.1
  | mergeLeft _ _ hno => exact (hno hr).imp fun _ hx => hx.1
  | mergeRight right _ _ hright => exact ⟨right, hright⟩

namespace Ctx

def leftOf {d : Nat} (pre : List (Node K V d)) : Option Nat := pre.getLast?.map Node.id

/-- the frames the descent has pushed when it stands at the hole (`h` = identity of the node in the hole) -/
def frames {D : Nat} : {d : Nat} → Ctx K V D d → Nat → List Frame
  | _, .top, _ => []
  | _, .kid c id _ pre _, h => ⟨id, pre.length, leftOf pre, h⟩ :: c.frames id

def rootId {D : Nat} : {d : Nat} → Ctx K V D d → Nat → Nat
  | _, .top, h => h
  | _, .kid c id _ _ _, _ => c.rootId id

end Ctx

/-- one activation of the internal `deleteKey` returning: the child (already written back)
    reported `small` -/
def unwind1 (P : Params K) (m : Nat) {d : Nat} (id : Nat) (r : List K) (pre post : List (Node K V d))
    (v : Node K V d × Bool) : R (Node K V (d + 1) × Bool) :=
  if !v.2 then pure (((⟨id, r, pre ++ v.1 :: post⟩ : Inner K (Node K V d)) : Node K V (d + 1)), false)
  else rebalance P {} m (⟨id, r, pre ++ v.1 :: post⟩ : Inner K (Node K V d)) pre.length v.1

def unwindCtx (P : Params K) (m : Nat) {D : Nat} : {d : Nat} → Ctx K V D d → Node K V d × Bool → R (Node K V D × Bool)
  | _, .top, v => pure v
  | _, .kid c id r pre post, v => do
    let w ← unwind1 P m id r pre post v
    unwindCtx P m c w

theorem deleteNode_succ (P : Params K) (m : Nat) (key : K) {d : Nat} (id : Nat) (r : List K) (A B : List (Node K V d))
    (child : Node K V d) (hA : A.length = searchLE P.lt key r) :
    deleteNode P {} m key (d + 1) ((⟨id, r, A ++ child :: B⟩ : Inner K (Node K V d)) : Node K V (d + 1)) =
      (deleteNode P {} m key d child >>= unwind1 P m id r A B) := by
  rw [deleteNode_inner P {} m key ⟨id, r, A ++ child :: B⟩ (getElem?_pivot hA child)]
  congr 1
  funext v
  show _ = unwind1 P m id r A B v
  unfold unwind1
  rw [← hA, set_pivot rfl]
  -- `unwind1` rebalances the parent that already holds the rewritten child
  have := rebalance_set P {} m (⟨id, r, A ++ child :: B⟩ : Inner K (Node K V d)) A.length v.1 v.1
  simp only [set_pivot rfl] at this
  rw [this]
  rfl

end Gobptree.Conc
