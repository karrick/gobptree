/-
  Specification of the two hand-written binary searches on strictly ascending
  input, for any strict weak order.  The loop is read through `searchGELoop_step`,
  the inversion of one round.
-/
import Gobptree.Search
import Gobptree.Proofs.Order

namespace Gobptree

variable {K : Type} {lt : K → K → Bool}

theorem shiftRight_one_eq (n : Nat) : n >>> 1 = n / 2 := by
  simp [Nat.shiftRight_eq_div_pow]

theorem mid_bounds {lo hi : Nat} (h : lo < hi) :
    lo ≤ (lo + hi) >>> 1 ∧ (lo + hi) >>> 1 < hi := by
  rw [shiftRight_one_eq, Nat.le_div_iff_mul_le Nat.zero_lt_two,
    Nat.div_lt_iff_lt_mul Nat.zero_lt_two, Nat.mul_two, Nat.mul_two]
  exact ⟨Nat.add_le_add_left (Nat.le_of_lt h) lo, Nat.add_lt_add_right h hi⟩

theorem Sorted.getElem_lt {vs : List K} (hs : Sorted lt vs) {i j : Nat} (hij : i < j)
    (hj : j < vs.length) : lt (vs[i]'(by omega)) vs[j] = true :=
  (List.pairwise_iff_getElem.mp hs) i j (by omega) hj hij

theorem searchGELoop_step (key : K) (vs : List K) (fuel lo hi : Nat) (hlh : lo < hi) (hhi : hi < vs.length)
    (r : Nat) (hr : searchGELoop lt key vs (fuel + 1) lo hi = r) :
    ∃ (m : Nat) (hm : m < vs.length), lo ≤ m ∧ m < hi ∧
      ((lt key vs[m] = true ∧
          ((lo < m ∧ searchGELoop lt key vs fuel lo m = r) ∨ (m = lo ∧ lo = r))) ∨
       (lt key vs[m] = false ∧ lt vs[m] key = true ∧
          ((m + 1 < hi ∧ searchGELoop lt key vs fuel (m + 1) hi = r) ∨ (m + 1 = hi ∧ hi = r))) ∨
       (lt key vs[m] = false ∧ lt vs[m] key = false ∧ m = r)) := by
  have hm := mid_bounds hlh
  rw [searchGELoop] at hr
  generalize (lo + hi) >>> 1 = m at hm hr
  have hml : m < vs.length := Nat.lt_trans hm.2 hhi
  refine ⟨m, hml, hm.1, hm.2, ?_⟩
  rw [List.getElem?_eq_getElem hml] at hr
  dsimp only at hr
  cases h1 : lt key vs[m] with
  | true =>
    rw [h1, if_pos rfl] at hr
    by_cases h2 : lo < m
    · rw [if_pos h2] at hr; exact .inl ⟨rfl, .inl ⟨h2, hr⟩⟩
    · rw [if_neg h2] at hr; exact .inl ⟨rfl, .inr ⟨Nat.le_antisymm (Nat.le_of_not_lt h2) hm.1, hr⟩⟩
  | false =>
    rw [h1, if_neg Bool.false_ne_true] at hr
    cases h2 : lt vs[m] key with
    | true =>
      rw [h2, if_pos rfl] at hr
      by_cases h3 : m + 1 < hi
      · rw [if_pos h3] at hr; exact .inr (.inl ⟨rfl, rfl, .inl ⟨h3, hr⟩⟩)
      · rw [if_neg h3] at hr
        have e : m + 1 = hi := Nat.le_antisymm hm.2 (Nat.le_of_not_lt h3)
        exact .inr (.inl ⟨rfl, rfl, .inr ⟨e, e ▸ hr⟩⟩)
    | false =>
      rw [h2, if_neg Bool.false_ne_true] at hr
      exact .inr (.inr ⟨rfl, rfl, hr⟩)

theorem searchGELoop_bounds (key : K) (vs : List K) :
    ∀ fuel lo hi, lo < hi → hi < vs.length →
      lo ≤ searchGELoop lt key vs fuel lo hi ∧ searchGELoop lt key vs fuel lo hi ≤ hi := by
  intro fuel
  induction fuel with
  | zero => intro lo hi hlh _; exact ⟨Nat.le_refl _, Nat.le_of_lt hlh⟩
  | succ fuel ih =>
    intro lo hi hlh hhi
    obtain ⟨m, hml, hlm, hmh, hc⟩ := searchGELoop_step (lt := lt) key vs fuel lo hi hlh hhi _ rfl
    rcases hc with ⟨-, ⟨h2, e⟩ | ⟨-, e⟩⟩ | ⟨-, -, ⟨h3, e⟩ | ⟨-, e⟩⟩ | ⟨-, -, e⟩ <;> rw [← e]
    · have := ih lo m h2 hml; exact ⟨this.1, Nat.le_trans this.2 (Nat.le_of_lt hmh)⟩
    · exact ⟨Nat.le_refl _, Nat.le_of_lt hlh⟩
    · have := ih (m + 1) hi h3 hhi; exact ⟨Nat.le_trans (Nat.le_succ_of_le hlm) this.1, this.2⟩
    · exact ⟨Nat.le_of_lt hlh, Nat.le_refl _⟩
    · exact ⟨hlm, Nat.le_of_lt hmh⟩

/-- The loop invariant: everything before `lo` is below the key, and `vs[hi]` is not below it
    unless `hi` is the last index (the clamp).  The result `r` inherits both. -/
theorem searchGELoop_spec (h : SWO lt) (key : K) (vs : List K) (hs : Sorted lt vs) :
    ∀ fuel lo hi r, lo < hi → (hhi : hi < vs.length) → hi - lo ≤ fuel →
      (∀ i (hi' : i < vs.length), i < lo → lt vs[i] key = true) →
      (∀ (_ : hi + 1 < vs.length), lt vs[hi] key = false) →
      searchGELoop lt key vs fuel lo hi = r →
      (∀ i (hi' : i < vs.length), i < r → lt vs[i] key = true) ∧
      (∀ (hr : r + 1 < vs.length), lt (vs[r]'(by omega)) key = false) := by
  intro fuel
  induction fuel with
  | zero => intro lo hi r hlh _ hf; exact absurd (Nat.sub_pos_of_lt hlh) (Nat.not_lt.2 hf)
  | succ fuel ih =>
    intro lo hi r hlh hhi hf hlo hhiP hr
    obtain ⟨m, hml, hlm, hmh, hc⟩ := searchGELoop_step key vs fuel lo hi hlh hhi r hr
    rcases hc with ⟨h1, hc⟩ | ⟨h1, h2, hc⟩ | ⟨h1, h2, rfl⟩
    · have h1' : lt vs[m] key = false := h.asymm h1
      rcases hc with ⟨h2, e⟩ | ⟨rfl, rfl⟩
      · exact ih lo m r h2 hml (Nat.le_of_lt_succ (Nat.lt_of_lt_of_le (Nat.sub_lt_sub_right hlm hmh) hf)) hlo (fun _ => h1') e
      · exact ⟨hlo, fun _ => h1'⟩
    · have hlo' : ∀ i (hi' : i < vs.length), i < m + 1 → lt vs[i] key = true := by
        intro i hi' him
        by_cases hE : i = m
        · subst hE; exact h2
        · exact h.trans _ _ _ (hs.getElem_lt (Nat.lt_of_le_of_ne (Nat.le_of_lt_succ him) hE) hml) h2
      rcases hc with ⟨h3, e⟩ | ⟨rfl, rfl⟩
      · exact ih (m + 1) hi r h3 hhi
          (Nat.le_trans (Nat.sub_le_sub_left (Nat.succ_le_succ hlm) hi) (Nat.pred_le_pred hf : hi - (lo + 1) ≤ fuel)) hlo' hhiP e
      · exact ⟨hlo', hhiP⟩
    · exact ⟨fun i hi' him => h.lt_of_lt_of_le (hs.getElem_lt him hml) h1, fun _ => h2⟩

theorem searchGE_nil (key : K) : searchGE lt key [] = 0 := by
  simp [searchGE]

theorem searchGE_lt_length (key : K) (vs : List K) (hne : vs ≠ []) :
    searchGE lt key vs < vs.length := by
  have hpos : 0 < vs.length := List.length_pos_iff.mpr hne
  unfold searchGE
  split
  · exact hpos
  · have := (searchGELoop_bounds (lt := lt) key vs vs.length 0 (vs.length - 1) (by omega) (by omega)).2
    omega

theorem searchGE_le_length (key : K) (vs : List K) : searchGE lt key vs ≤ vs.length := by
  cases vs with
  | nil => exact Nat.le_of_eq (searchGE_nil key)
  | cons v vs => exact Nat.le_of_lt (searchGE_lt_length key _ (List.cons_ne_nil _ _))

theorem searchGE_spec (h : SWO lt) (key : K) (vs : List K) (hs : Sorted lt vs) :
    (∀ i (hi' : i < vs.length), i < searchGE lt key vs → lt vs[i] key = true) ∧
    (∀ (hr : searchGE lt key vs + 1 < vs.length),
      lt (vs[searchGE lt key vs]'(by omega)) key = false) := by
  unfold searchGE
  split
  · refine ⟨fun i _ hi => by omega, fun hr => by omega⟩
  · exact searchGELoop_spec h key vs hs vs.length 0 (vs.length - 1) _ (by omega) (by omega)
      (by omega) (fun i _ hi => by omega) (fun hr => by omega) rfl

theorem searchGE_before (h : SWO lt) (key : K) (vs : List K) (hs : Sorted lt vs)
    (i : Nat) (hi : i < searchGE lt key vs) (hlen : i < vs.length) : lt vs[i] key = true :=
  (searchGE_spec h key vs hs).1 i hlen hi

/-- unless the result is the last index (the clamp), the element there is ≥ key -/
theorem searchGE_at (h : SWO lt) (key : K) (vs : List K) (hs : Sorted lt vs)
    (hlt : searchGE lt key vs + 1 < vs.length) :
    lt (vs[searchGE lt key vs]'(by omega)) key = false :=
  (searchGE_spec h key vs hs).2 hlt

theorem searchLE_nil (key : K) : searchLE lt key [] = 0 := by
  simp [searchLE, searchGE]

theorem searchLE_cases (key : K) (vs : List K) (hpos : 0 < vs.length) :
    ∃ hg : searchGE lt key vs < vs.length,
      (lt key vs[searchGE lt key vs] = true ∧ searchLE lt key vs = searchGE lt key vs - 1) ∨
      (lt key vs[searchGE lt key vs] = false ∧ searchLE lt key vs = searchGE lt key vs) := by
  have hg := searchGE_lt_length (lt := lt) key vs (List.ne_nil_of_length_pos hpos)
  refine ⟨hg, ?_⟩
  unfold searchLE
  simp only [List.getElem?_eq_getElem hg]
  cases hc : lt key vs[searchGE lt key vs]
  · right; simp
  · left; simp; omega

theorem searchLE_lt_length (key : K) (vs : List K) (hne : vs ≠ []) :
    searchLE lt key vs < vs.length := by
  obtain ⟨hg, ⟨_, e⟩ | ⟨_, e⟩⟩ := searchLE_cases (lt := lt) key vs (List.length_pos_iff.mpr hne) <;> omega

theorem searchLE_after (h : SWO lt) (key : K) (vs : List K) (hs : Sorted lt vs)
    (i : Nat) (hi : searchLE lt key vs < i) (hlen : i < vs.length) : lt key vs[i] = true := by
  obtain ⟨hg, ⟨hc, e⟩ | ⟨hc, e⟩⟩ := searchLE_cases (lt := lt) key vs (Nat.zero_lt_of_lt hlen)
  · by_cases hE : i = searchGE lt key vs
    · subst hE; exact hc
    · exact h.trans _ _ _ hc (hs.getElem_lt (by omega) hlen)
  · have hat := searchGE_at h key vs hs (by omega)
    exact h.lt_of_le_of_lt hat (hs.getElem_lt (by omega) hlen)

/-- unless the result is index 0 (the clamp), the element there is ≤ key -/
theorem searchLE_at (h : SWO lt) (key : K) (vs : List K) (hs : Sorted lt vs)
    (h0 : 0 < searchLE lt key vs) (hlen : searchLE lt key vs < vs.length) :
    lt key vs[searchLE lt key vs] = false := by
  obtain ⟨hg, ⟨hc, e⟩ | ⟨hc, e⟩⟩ := searchLE_cases (lt := lt) key vs (Nat.zero_lt_of_lt hlen)
  · generalize searchLE lt key vs = r at *
    subst e
    exact h.asymm (searchGE_before h key vs hs _ (by omega) hlen)
  · generalize searchLE lt key vs = r at *
    subst e
    exact hc

end Gobptree
