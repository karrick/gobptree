/-
  Delete of a lone thread, the locks it asks for.  The identities of the context and of the
  node in the hole are pairwise distinct (`LockInv`); hence the hole, its left and its right sibling
  are not among the locks of the Delete continuations (`Ctx.held`, which is their `kontHeld`):
  `hole_free`, `left_free`, `right_free`.
-/
import Gobptree.Proofs.CSoloDel

namespace Gobptree.Conc
open Gobptree

variable {K V : Type}

def LockInv {D d : Nat} (c : Ctx K V D d) (h : Nat) : Prop :=
  ∀ a, c.ids.count a + (if h = a then 1 else 0) ≤ 1

theorem IdInv.lockInv {D d : Nat} {c : Ctx K V D d} {x : Node K V d} {nid : Nat} (h : IdInv c x nid) :
    LockInv c (Node.id x) := by
  intro a
  have h1 := (h a).1
  by_cases e : Node.id x = a
  · subst e
    have := count_id_idsOf x
    rw [if_pos rfl]; omega
  · rw [if_neg e]; omega

theorem LockInv.not_mem {D d : Nat} {c : Ctx K V D d} {h : Nat} (hl : LockInv c h) : h ∉ c.ids := by
  intro hm
  have h1 := hl h
  rw [if_pos rfl] at h1
  have : 0 < c.ids.count h := List.count_pos_iff.2 hm
  omega

theorem leftOf_count {d : Nat} (pre : List (Node K V d)) (l : Nat) (h : Ctx.leftOf pre = some l) :
    1 ≤ (pre.flatMap idsOf).count l := by
  obtain ⟨x, hg, rfl⟩ := Option.map_eq_some_iff.1 h
  exact List.count_pos_iff.2 (List.mem_flatMap.2 ⟨x, List.mem_of_getLast? hg, id_mem_idsOf x⟩)

def Ctx.held {D d : Nat} (c : Ctx K V D d) (h : Nat) : List Lk :=
  .tree :: .node (c.rootId h) :: framesHeld (c.frames h)

theorem Ctx.held_kid {D d : Nat} (c : Ctx K V D (d + 1)) (id : Nat) (r : List K) (pre post : List (Node K V d)) (h : Nat) :
    (Ctx.kid c id r pre post).held h = c.held id ++ (optLock (Ctx.leftOf pre) ++ [.node h]) := rfl

theorem mem_optLock {a : Nat} {o : Option Nat} (h : Lk.node a ∈ optLock o) : o = some a := by
  cases o with
  | none => cases h
  | some l => rw [Lk.node.inj (List.mem_singleton.1 h)]

theorem mem_held {D : Nat} (a : Nat) : ∀ {d : Nat} (c : Ctx K V D d) (h : Nat),
    Lk.node a ∈ c.held h → a = h ∨ 0 < c.ids.count a := by
  intro d c
  induction c with
  | top =>
    intro h hm
    simp only [Ctx.held, Ctx.rootId, Ctx.frames, framesHeld, List.mem_cons, List.not_mem_nil, or_false, Lk.node.injEq,
      reduceCtorEq, false_or] at hm
    exact Or.inl hm
  | @kid d c id r pre post ih =>
    intro h hm
    rw [Ctx.held_kid] at hm
    simp only [List.mem_append, List.mem_singleton, Lk.node.injEq] at hm
    rw [count_ids_kid]
    rcases hm with hm | hm | hm
    · rcases ih id hm with e | e
      · subst e; right; rw [if_pos rfl]; omega
      · right; omega
    · have := leftOf_count pre a (mem_optLock hm)
      right; omega
    · exact Or.inl hm

/-- an identity at or below the hole, or below one of its siblings, is not among the locks held above -/
theorem LockInv.free {D d : Nat} {c : Ctx K V D (d + 1)} {id : Nat} {r : List K} {pre post : List (Node K V d)} {h a : Nat}
    (hl : LockInv (Ctx.kid c id r pre post) h)
    (ha : 0 < (pre.flatMap idsOf).count a + (post.flatMap idsOf).count a + (if h = a then 1 else 0)) :
    Lk.node a ∉ c.held id := by
  intro hm
  have h2 := hl a
  rw [count_ids_kid] at h2
  rcases mem_held a c id hm with e | e
  · rw [if_pos e.symm] at h2; omega
  · omega

theorem LockInv.hole_free {D d : Nat} {c : Ctx K V D (d + 1)} {id : Nat} {r : List K} {pre post : List (Node K V d)} {h : Nat}
    (hl : LockInv (Ctx.kid c id r pre post) h) : Lk.node h ∉ c.held id :=
  hl.free (by rw [if_pos rfl]; omega)

theorem LockInv.left_free {D d : Nat} {c : Ctx K V D (d + 1)} {id : Nat} {r : List K} {pre post : List (Node K V d)} {h l : Nat}
    (hl : LockInv (Ctx.kid c id r pre post) h) (hlo : Ctx.leftOf pre = some l) : Lk.node l ∉ c.held id ∧ h ≠ l := by
  have hc := leftOf_count pre l hlo
  refine ⟨hl.free (by omega), fun e => ?_⟩
  have h2 := hl l
  rw [count_ids_kid, if_pos e] at h2; omega

theorem mem_post_of_next {α : Type} (pre post : List α) (x r : α) (h : (pre ++ x :: post)[pre.length + 1]? = some r) :
    r ∈ post := by
  rw [List.getElem?_append_right (Nat.le_add_right _ _), Nat.add_sub_cancel_left] at h
  exact List.mem_of_getElem? (i := 0) h

theorem right_free {D d : Nat} (c : Ctx K V D (d + 1)) (id : Nat) (r : List K) (pre post : List (Node K V d)) (h : Nat)
    (hl : LockInv (Ctx.kid c id r pre post) h) (right : Node K V d) (hr : right ∈ post) :
    Lk.node (Node.id right) ∉ (Ctx.kid c id r pre post).held h := by
  intro hm
  have hrc : 1 ≤ (post.flatMap idsOf).count (Node.id right) := by
    apply List.count_pos_iff.2
    rw [List.mem_flatMap]
    exact ⟨right, hr, id_mem_idsOf right⟩
  have h2 := hl (Node.id right)
  rw [count_ids_kid] at h2
  rw [Ctx.held_kid] at hm
  simp only [List.mem_append, List.mem_singleton, Lk.node.injEq] at hm
  rcases hm with hm | hm | hm
  · exact hl.free (by omega) hm
  · have := leftOf_count pre _ (mem_optLock hm)
    omega
  · rw [if_pos hm.symm] at h2; omega

theorem LockInv.up {D d : Nat} {c : Ctx K V D (d + 1)} {id : Nat} {r : List K} {pre post : List (Node K V d)} {h : Nat}
    (hl : LockInv (Ctx.kid c id r pre post) h) : LockInv c id := by
  intro a
  have h2 := hl a
  rw [count_ids_kid] at h2
  omega

end Gobptree.Conc
