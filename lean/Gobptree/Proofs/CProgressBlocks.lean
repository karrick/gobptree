/-
  Per-block lemmas of the variant argument: whenever a stretch of code (the code between
  two parks) ends in a park, the measure of that park — in the tree the stretch leaves
  behind — is strictly below the measure of the continuation the stretch was resumed with.
  Read off the blocks of Conc.lean through the case rules of ConcCases.lean; the two blocks that
  may split, through their reports (CBlockUp).
-/
import Gobptree.Proofs.CProgressDefs
import Gobptree.Proofs.CBlockUp

namespace Gobptree.Conc
open Gobptree

variable {K V : Type}

theorem m3_lt4 {a d : Nat} (h : a ≤ d) : 3 * a + 4 < 3 * d + 5 := by omega
theorem m3_le1 {a d : Nat} (h : a ≤ d) : 3 * a + 1 ≤ 3 * d + 5 := by omega
theorem m3_le1' {a d : Nat} (h : a ≤ d) : 3 * a + 1 ≤ 3 * (d + 1) := by omega
theorem m3_lt2' {a d : Nat} (h : a ≤ d) : 3 * a + 2 < 3 * (d + 1) := by omega

theorem roArrive_meas (P : Params K) (t : Nat) (s : St K V) (sc : Bool) (key : K) (hold : Lk) (n : Nat) :
    OutLt (3 * hgt s.tree n + 1) (roArrive P t s sc key hold n) :=
  roArrive_cases P t s sc key hold n (Q := OutLt (3 * hgt s.tree n + 1)) trivial (fun _ _ => trivial)
    (fun _ => trivial) (fun _ => Nat.lt_succ_self _)

theorem upLeaf_meas (P : Params K) (t : Nat) (s : St K V) (key : K) (f : Option V → V) (y : Option Bool) (n : Nat)
    (l : Leaf K V) : OutLt 1 (upLeaf P t s key f y n l) :=
  upLeaf_cases P t s key f y n l (Q := OutLt 1) trivial (fun _ _ => Nat.zero_lt_one) (fun _ _ _ => trivial)
    (fun _ _ => trivial)

theorem upContinue_meas (P : Params K) (t : Nat) (s : St K V) (key : K) (f : Option V → V) (y : Option Bool) (n : Nat) :
    OutLt (3 * hgt s.tree n + 1) (upContinue P t s key f y n) :=
  upContinue_cases P t s key f y n (Q := OutLt (3 * hgt s.tree n + 1)) trivial
    (fun l => (upLeaf_meas P t s key f y n l).mono (Nat.le_add_left 1 _)) (fun _ _ => Nat.lt_succ_self _)

theorem upChildArrive_meas (P : Params K) (t : Nat) (s : St K V) (key : K) (f : Option V → V) (y : Option Bool)
    (parent index child : Nat) (hole : Option Nat) (hpre : Pre P hole s)
    (hk : KontOk s.tree (.upChild key f y parent index child)) :
    OutLt (3 * hgt s.tree parent) (upChildArrive P t s key f y parent index child) := by
  obtain ⟨d, rA, rB, k, k1, A, B, c, -, -, at_, out⟩ := upChildArrive_report P t s key f y parent index child
    [.node parent, .node child] hole hpre hk List.mem_cons_self (List.mem_cons_of_mem _ List.mem_cons_self)
  rw [hgt_find at_.find]
  generalize upChildArrive P t s key f y parent index child = res at out ⊢
  cases out with
  | stay _ _ wrote _ _ memc =>
    refine (upContinue_meas P t _ key f y child).mono (m3_le1' (Nat.le_of_eq ?_))
    rw [← at_.cid]
    exact hgt_mem wrote.step.tree.ids memc
  | @split l r rs p2 T2 sp =>
    have hc : hgt T2 child = d := by
      rw [← at_.cid, ← sp.out.idl]
      exact hgt_mem sp.wrote.step.tree.ids sp.meml
    by_cases hb : (!P.lt key rs) = true
    · rw [if_pos hb]
      exact m3_lt2' (Nat.le_of_eq hc)
    · rw [if_neg hb]
      exact (upContinue_meas P t _ key f y child).mono (m3_le1' (Nat.le_of_eq hc))

theorem upRootArrive_meas (P : Params K) (t : Nat) (s : St K V) (key : K) (f : Option V → V) (y : Option Bool)
    (root : Nat) (hole : Option Nat) (hpre : Pre P hole s) (hk : KontOk s.tree (.upRoot key f y root)) :
    OutLt (3 * s.tree.depth + 5) (upRootArrive P t s key f y root) := by
  obtain ⟨rfl, out⟩ := upRootArrive_report P t s key f y root [.tree, .node root] hole hpre hk List.mem_cons_self
    (List.mem_cons_of_mem _ List.mem_cons_self)
  generalize upRootArrive P t s key f y s.tree.rootId = res at out ⊢
  cases out with
  | stay _ _ =>
    exact (upContinue_meas P t _ key f y s.tree.rootId).mono (m3_le1 (Nat.le_of_eq (hgt_root hpre.tree.ids)))
  | @split l r ls rs ls' T2 sp =>
    have hc : hgt T2 s.tree.rootId = s.tree.depth := by
      have := hgt_mem sp.step.tree.ids sp.meml
      rwa [sp.out.idl] at this
    by_cases hb : (!P.lt key rs) = true
    · rw [if_pos hb]
      exact m3_lt4 (Nat.le_of_eq hc)
    · rw [if_neg hb]
      exact (upContinue_meas P t _ key f y s.tree.rootId).mono (m3_le1 (Nat.le_of_eq hc))

theorem delFinish_meas (t : Nat) (s : St K V) (small : Bool) (root : Nat) (B : Nat) :
    OutLt B (delFinish t s small root) :=
  delFinish_cases t s small root (Q := OutLt B) fun _ _ => trivial

theorem delUnwind_meas (P : Params K) (t : Nat) (key : K) (root : Nat) :
    ∀ (frames : List Frame) (s : St K V) (small : Bool),
      OutLt (frames.length + 1) (delUnwind P t s key frames small root) := by
  intro frames
  induction frames with
  | nil => intro s small; rw [delUnwind_nil]; exact delFinish_meas t s small root _
  | cons fr rest ih =>
    intro s small
    exact delUnwind_cons_cases P t s key fr rest small root (Q := OutLt ((fr :: rest).length + 1)) trivial
      (fun _ small' _ => (ih _ small').mono (Nat.le_succ _)) (fun _ => Nat.lt_succ_self _)

theorem delRightArrive_meas (P : Params K) (t : Nat) (s : St K V) (key : K) (rest : List Frame) (fr : Frame)
    (right root : Nat) : OutLt (rest.length + 1) (delRightArrive P t s key rest fr right root) :=
  delRightArrive_cases P t s key rest fr right root (Q := OutLt (rest.length + 1)) trivial
    (fun _ small' _ => delUnwind_meas P t key root rest _ small')

theorem delGo_meas (P : Params K) (t : Nat) (s : St K V) (key : K) (frames : List Frame) (n root : Nat)
    (hlen : frames.length ≤ s.tree.depth) :
    OutLt (s.tree.depth + 2 + 2 * (s.tree.depth - frames.length) + 2) (delGo P t s key frames n root) :=
  delGo_cases P t s key frames n root (Q := OutLt (s.tree.depth + 2 + 2 * (s.tree.depth - frames.length) + 2)) trivial
    (fun _ small => (delUnwind_meas P t key root frames _ small).mono
      (Nat.le_trans (Nat.add_le_add_right hlen 1)
        (Nat.le_trans (Nat.le_succ _) (Nat.le_trans (Nat.le_add_right _ _) (Nat.le_add_right _ _)))))
    (fun _ _ => Nat.lt_succ_self _) (fun _ _ => Nat.lt_succ_of_lt (Nat.lt_succ_self _))

theorem go_root (d : Nat) : d + 2 + 2 * (d - 0) + 2 ≤ 3 * d + 5 := by omega
theorem go_child {a d : Nat} (h : a + 1 ≤ d) : d + 2 + 2 * (d - (a + 1)) + 2 ≤ d + 2 + 2 * (d - a) := by omega
theorem go_len {a c n d : Nat} (h1 : n + a = d) (h2 : c + 1 = n) : a + 1 ≤ d := by omega

theorem resume_meas (P : Params K) (t : Nat) (s : St K V) (k : Kont K V) (hole : Option Nat) (hpre : Pre P hole s)
    (hk : KontOk s.tree k) : OutLt (kMeasure s.tree k) (resume P t s k) := by
  have hi := hpre.tree.ids
  cases k with
  | roTree sc key => exact Nat.lt_succ_self (3 * s.tree.depth + 5)
  | roNode sc key hold want =>
    refine (roArrive_meas P t _ sc key hold want).mono ?_
    show 3 * hgt s.tree want + 1 ≤ _
    cases hold with
    | tree =>
      have hk' : want = s.tree.rootId := hk
      rw [hk', hgt_root hi]
      exact m3_le1 (Nat.le_refl _)
    | node p =>
      obtain ⟨i, hk'⟩ : ∃ i, s.tree.kidAt p i = some want := hk
      show _ ≤ 3 * hgt s.tree p
      rw [← hgt_kid hi hk']
      exact m3_le1' (Nat.le_refl _)
  | upTree key f y => exact Nat.lt_succ_self (3 * s.tree.depth + 5)
  | upRoot key f y r => exact upRootArrive_meas P t (s.acq t (.node r)) key f y r hole ⟨hpre.tree, hpre.order, hpre.pad⟩ hk
  | upRootSib key f y root sib =>
    refine (upContinue_meas P t _ key f y sib).mono ?_
    obtain ⟨⟨sh, hsh, hkids⟩, _, _⟩ := hk
    have h0 : s.tree.kidAt s.tree.rootId 0 = some root := by simp [Tree.kidAt, hsh, hkids]
    have h1 : s.tree.kidAt s.tree.rootId 1 = some sib := by simp [Tree.kidAt, hsh, hkids]
    show 3 * hgt s.tree sib + 1 ≤ 3 * hgt s.tree root + 4
    rw [Nat.succ.inj ((hgt_kid hi h1).trans (hgt_kid hi h0).symm)]
    exact Nat.add_le_add_left (by decide) _
  | upChild key f y parent index child =>
    exact upChildArrive_meas P t (s.acq t (.node child)) key f y parent index child hole
      ⟨hpre.tree, hpre.order, hpre.pad⟩ hk
  | upSib key f y parent child sib =>
    refine (upContinue_meas P t _ key f y sib).mono ?_
    obtain ⟨⟨i, hci, hsi⟩, _, _⟩ := hk
    show 3 * hgt s.tree sib + 1 ≤ 3 * hgt s.tree child + 2
    rw [Nat.succ.inj ((hgt_kid hi hsi).trans (hgt_kid hi hci).symm)]
    exact Nat.add_le_add_left (by decide) _
  | upCallback key f leaf arg =>
    exact resume_upCallback_cases P t s key f leaf arg (Q := OutLt 0) trivial (fun _ => trivial)
  | delTree key => exact Nat.lt_succ_self (3 * s.tree.depth + 5)
  | delRoot key r =>
    exact (delGo_meas P t (s.acq t (.node r)) key [] r r (Nat.zero_le _)).mono (go_root s.tree.depth)
  | delLeft key frames node index left root =>
    exact resume_delLeft_cases P t s key frames node index left root
      (Q := OutLt (s.tree.depth + 2 + 2 * (s.tree.depth - frames.length) + 1)) trivial (fun _ => Nat.lt_succ_self _)
  | delChild key frames node index left child root =>
    obtain ⟨hr, hfr, hfk⟩ := hk
    subst hr
    have hlen : frames.length + 1 ≤ s.tree.depth := go_len (frames_len hi frames node hfr) (hgt_kid hi hfk.1)
    exact (delGo_meas P t (s.acq t (.node child)) key
      ({ node := node, index := index, left := left, child := child } :: frames) child s.tree.rootId hlen).mono
      (go_child hlen)
  | delRight key rest fr right root => exact delRightArrive_meas P t _ key rest fr right root
  | hop cur next => trivial
  | paused => trivial

end Gobptree.Conc
