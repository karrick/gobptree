/-
  What Delete's step outcomes (`IStep`, `IOut`) are stated in: `RStab`, the `OnRoute` half of
  `Stable`, and the form `SepN` of the separator invariant, which is `ISepN` on trees with
  parallel separator and kid lists.  `rids` is the search path as a list of identities.
-/
import Gobptree.Proofs.CIUpBase

namespace Gobptree.Conc
open Gobptree

variable {K V : Type} {lt : K → K → Bool}

theorem sorted_cross {l r : List K} (hs : Sorted lt (l ++ r)) : ∀ x ∈ l, ∀ y ∈ r, lt x y = true :=
  (List.pairwise_append.1 hs).2.2

def rids (lt : K → K → Bool) (key : K) : (d : Nat) → Node K V d → List Nat
  | 0, (l : Leaf K V) => [l.id]
  | d + 1, (i : Inner K (Node K V d)) =>
    i.id :: (match i.kids[searchLE lt key i.runts]? with
      | some c => rids lt key d c
      | none => [])

theorem rids_zero (key : K) (l : Leaf K V) : rids (V := V) lt key 0 l = [l.id] := rfl

theorem rids_head (key : K) : ∀ {d : Nat} (n : Node K V d), ∃ tl, rids lt key d n = Node.id n :: tl
  | 0, _ => ⟨[], rfl⟩
  | _ + 1, _ => ⟨_, rfl⟩

/-- paths of identities outside `W` survive: the `OnRoute` half of `Stable`, which Delete's
    blocks keep for every thread, readers included, through the separator invariant -/
def RStab (lt : K → K → Bool) (W : Nat → Prop) (t t' : Tree K V) : Prop :=
  ∀ key x, ¬ W x → OnRoute lt t key x → OnRoute lt t' key x

theorem RStab.refl (W : Nat → Prop) (t : Tree K V) : RStab lt W t t := fun _ _ _ h => h

theorem RStab.trans {W : Nat → Prop} {t1 t2 t3 : Tree K V} (h1 : RStab lt W t1 t2) (h2 : RStab lt W t2 t3) :
    RStab lt W t1 t3 := fun key x hx h => h2 key x hx (h1 key x hx h)

/-- `SepFact` with the arguments in the other order -/
def headOK (lt : K → K → Bool) (Wit : Nat → K → Prop) : (d : Nat) → K → Node K V d → Prop
  | 0, _, _ => True
  | _ + 1, s, (c : Inner K _) =>
    (∃ s', c.runts.head? = some s' ∧ eqv lt s s' = true) ∨ Wit c.id s

/-- `ISepN` with the facts about the kids and the invariant below them stated apart -/
def SepN (lt : K → K → Bool) (Wit : Nat → K → Prop) : (d : Nat) → Node K V d → Prop
  | 0, _ => True
  | d + 1, (i : Inner K (Node K V d)) =>
    (∀ e ∈ i.runts.zip i.kids, headOK lt Wit d e.1 e.2) ∧ ∀ c ∈ i.kids, SepN lt Wit d c

def SepTreeN (lt : K → K → Bool) (Wit : Nat → K → Prop) (t : Tree K V) : Prop := SepN lt Wit t.depth t.root

theorem SepN_succ (Wit : Nat → K → Prop) {d : Nat} (i : Inner K (Node K V d)) :
    SepN lt Wit (d + 1) i ↔
      (∀ e ∈ i.runts.zip i.kids, headOK lt Wit d e.1 e.2) ∧ ∀ c ∈ i.kids, SepN lt Wit d c := Iff.rfl

theorem headOK_iff_sepFact (Wit : Nat → K → Prop) : ∀ {d : Nat} (s : K) (c : Node K V d),
    headOK lt Wit d s c ↔ SepFact lt Wit d c s
  | 0, _, _ => Iff.rfl
  | _ + 1, _, _ => Iff.rfl

theorem sepN_iff_isepN (Wit : Nat → K → Prop) : ∀ {d : Nat} {n : Node K V d}, ParN d n →
    (SepN lt Wit d n ↔ ISepN lt Wit d n) := by
  intro d
  induction d with
  | zero => intro _ _; exact Iff.rfl
  | succ d ih =>
    intro (n : Inner K (Node K V d)) hpar
    rw [SepN_succ, ISepN_succ]
    constructor
    · intro h e he
      have hc := (List.of_mem_zip he).2
      exact ⟨(headOK_iff_sepFact Wit _ _).1 (h.1 e he), (ih (hpar.2.2 _ hc)).1 (h.2 _ hc)⟩
    · intro h
      refine ⟨fun e he => (headOK_iff_sepFact Wit _ _).2 (h e he).1, fun c hc => ?_⟩
      have : c ∈ (n.runts.zip n.kids).map Prod.snd := by rw [map_snd_zip_eq _ _ hpar.1]; exact hc
      obtain ⟨e, he, rfl⟩ := List.mem_map.1 this
      exact (ih (hpar.2.2 _ hc)).2 (h e he).2

theorem sepTreeN_iff {Wit : Nat → K → Prop} {t : Tree K V} (hpar : ParTree t) :
    SepTreeN lt Wit t ↔ ISepN lt Wit t.depth t.root :=
  sepN_iff_isepN Wit hpar

theorem sepTreeN_iff_isepW {Wit : Nat → K → Prop} {t : Tree K V} (hids : t.ids.Nodup) (hpar : ParTree t) :
    SepTreeN lt Wit t ↔ ISepW lt Wit t :=
  (sepTreeN_iff hpar).trans (isepW_iff_N Wit hids hpar).symm

end Gobptree.Conc
