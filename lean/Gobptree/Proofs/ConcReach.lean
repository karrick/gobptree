/-
  Reachable configurations of the small-step model and the configuration-level
  bookkeeping invariant.
-/
import Gobptree.Proofs.ConcHeld

namespace Gobptree.Conc
open Gobptree

variable {K V : Type}

/-- configurations reachable from `c0` under SOME schedule (every finite sequence of
    scheduler decisions, each naming an enabled thread) -/
inductive Reachable (c0 : Config K V) : Config K V → Prop where
  | refl : Reachable c0 c0
  | step {c c' : Config K V} (t : Nat) : Reachable c0 c → c.step t = some c' → Reachable c0 c'

theorem Reachable.invariant {c0 c : Config K V} (I : Config K V → Prop) (h0 : I c0)
    (hstep : ∀ c c' t, Reachable c0 c → I c → c.step t = some c' → I c') (hr : Reachable c0 c) : I c := by
  induction hr with
  | refl => exact h0
  | step t hr hs ih => exact hstep _ _ t hr ih hs

def ConfigOk (c : Config K V) : Prop := ∀ th ∈ c.threads, ThreadOk th

theorem mem_init_threads {P : Params K} {tree : Tree K V} {progs : List (List (COp K V))} {th : Thread K V}
    (h : th ∈ (Config.init P tree progs).threads) :
    ∃ p ∈ progs, th = { prog := p, pc := 0, park := .start, held := [], cursor := none, exhausted := false } := by
  simp only [Config.init, List.mem_map] at h
  obtain ⟨p, hp, rfl⟩ := h
  exact ⟨p, hp, rfl⟩

theorem init_ok (P : Params K) (tree : Tree K V) (progs : List (List (COp K V))) :
    ConfigOk (Config.init P tree progs) := by
  intro th hth
  obtain ⟨p, _, rfl⟩ := mem_init_threads hth
  exact ⟨.refl _, trivial, trivial⟩

theorem step_dead (c c' : Config K V) (t : Nat) (hs : c.step t = some c') (hd : c'.dead = false) :
    c.dead = false :=
  let ⟨_, _, S⟩ := step_stepped hs
  (Bool.or_eq_false_iff.mp (S.dead.symm.trans hd)).1

theorem step_ok (c c' : Config K V) (t : Nat) (hs : c.step t = some c') (hok : ConfigOk c)
    (hd : c'.dead = false) : ConfigOk c' := by
  obtain ⟨th, r, S⟩ := step_stepped hs
  have hdied := (Bool.or_eq_false_iff.mp (S.dead.symm.trans hd)).2
  refine S.all ?_ fun j b _ hj => hok b (List.mem_of_getElem? hj)
  rw [S.run] at hdied ⊢
  exact runThread_ok c.P t th _ rfl rfl (hok th S.mem) hdied

theorem reachable_ok (c0 c : Config K V) (h0 : ConfigOk c0) (hr : Reachable c0 c) (hd : c.dead = false) :
    ConfigOk c :=
  hr.invariant (fun c => c.dead = false → ConfigOk c) (fun _ => h0)
    (fun c1 c2 t _ ih hs hd => step_ok c1 c2 t hs (ih (step_dead c1 c2 t hs hd)) hd) hd

theorem Reachable.trans {a b c : Config K V} (h1 : Reachable a b) (h2 : Reachable b c) : Reachable a c := by
  induction h2 with
  | refl => exact h1
  | @step c1 c2 t _ hs ih => exact .step t ih hs

theorem reachable_dead {a b : Config K V} (h : Reachable a b) (hd : b.dead = false) : a.dead = false := by
  induction h with
  | refl => exact hd
  | @step c1 c2 t _ hs ih => exact ih (step_dead c1 c2 t hs hd)

theorem reachable_of_run (c0 : Config K V) : ∀ (ts : List Nat) (c c' : Config K V), Reachable c0 c →
    c.run ts = (c', none) → Reachable c0 c' := by
  intro ts c c' hr hrun
  revert hr
  exact run_induct (M := fun _ c c' => Reachable c0 c → Reachable c0 c') (fun _ hr => hr)
    (fun t _ _ _ _ hs _ ih hr => ih (Reachable.step t hr hs)) ts c c' hrun

/-- a run from `c0`, as the list of the configurations visited, NEWEST FIRST -/
inductive RunFrom (c0 : Config K V) : List (Config K V) → Prop where
  | init : RunFrom c0 [c0]
  | step {c c' : Config K V} {hist : List (Config K V)} (t : Nat) :
      RunFrom c0 (c :: hist) → c.step t = some c' → RunFrom c0 (c' :: c :: hist)

theorem RunFrom.reachable {c0 c : Config K V} {hist : List (Config K V)} (h : RunFrom c0 (c :: hist)) :
    Reachable c0 c := by
  generalize hl : c :: hist = l at h
  induction h generalizing c hist with
  | init => cases hl; exact .refl
  | @step c1 c2 hist' t _ hs ih => cases hl; exact .step t (ih rfl) hs

theorem RunFrom.tail {c0 : Config K V} : ∀ (later : List (Config K V)) {c : Config K V} {hist : List (Config K V)},
    RunFrom c0 (later ++ c :: hist) → RunFrom c0 (c :: hist) := by
  intro later
  induction later with
  | nil => intro c hist h; exact h
  | cons d later ih =>
    intro c hist h
    apply ih
    generalize hl : d :: later ++ c :: hist = l at h
    cases h with
    | init =>
      exfalso
      have := congrArg List.length hl
      simp at this
    | @step c1 c2 hist' t h1 hs =>
      simp only [List.cons_append, List.cons.injEq] at hl
      rw [hl.2]; exact h1

theorem RunFrom.reachable_mem {c0 : Config K V} {run : List (Config K V)} (hrun : RunFrom c0 run) :
    ∀ d ∈ run, Reachable c0 d := by
  intro d hd
  obtain ⟨later, rest, rfl⟩ := List.append_of_mem hd
  exact (RunFrom.tail later hrun).reachable

theorem RunFrom.reach_of_mem {c0 d : Config K V} {rest : List (Config K V)} (h : RunFrom c0 (d :: rest)) :
    ∀ c ∈ d :: rest, Reachable c d := by
  generalize hl : d :: rest = l at h
  induction h generalizing d rest with
  | init =>
    cases hl
    intro c hc
    simp only [List.mem_singleton] at hc
    subst hc; exact .refl
  | @step c1 c2 hist t h1 hs ih =>
    cases hl
    intro c hc
    rcases List.mem_cons.1 hc with e | hc'
    · subst e; exact .refl
    · exact .step t (ih rfl c hc') hs

end Gobptree.Conc
