/-
  Distinct leaf identities are an invariant of every history.
-/
import Gobptree.Proofs.Ids
import Gobptree.Proofs.IdsDelete
import Gobptree.Run

namespace Gobptree

variable {K V : Type}

def IdsInv (t : Tree K V) : Prop :=
  (leafIds t.root).Nodup ∧ ∀ id ∈ leafIds t.root, id < t.nextId

theorem new_ids (o : Nat) : IdsInv (Tree.new o : Tree K V) := by
  refine ⟨List.nodup_cons.2 ⟨List.not_mem_nil, List.nodup_nil⟩, fun id hid => ?_⟩
  obtain rfl : id = 0 := List.mem_singleton.1 hid
  exact Nat.zero_lt_one

theorem Tree.insert_inv (P : Params K) (t t' : Tree K V) (k : K) (v : V) (h : t.insert P k v = .ok t') :
    ∃ cb, t.upsert P k (fun _ => v) = .ok (t', cb) := by
  rw [Tree.insert] at h
  obtain ⟨⟨t2, cb⟩, hw, h⟩ := bind_ok h
  cases h
  exact ⟨cb, hw⟩

theorem Tree.step_inv (P : Params K) (t t' : Tree K V) (op : Op K V) (out : Out V)
    (h : Tree.step P t op = .ok (t', out)) :
    match op with
    | .insert k v => ∃ cb, t.upsert P k (fun _ => v) = .ok (t', cb) ∧ out = .done
    | .update k f => ∃ cb, t.upsert P k f = .ok (t', cb) ∧ out = .callback cb
    | .delete k => t.delete P {} k = .ok t' ∧ out = .done
    | .search k => ∃ v, t.search P k = .ok v ∧ t' = t ∧ out = .found v := by
  cases op with
  | insert k v =>
    rw [Tree.step] at h
    obtain ⟨t2, hins, h⟩ := bind_ok h
    obtain ⟨cb, hup⟩ := Tree.insert_inv P t t2 k v hins
    cases h
    exact ⟨cb, hup, rfl⟩
  | update k f =>
    rw [Tree.step] at h
    obtain ⟨⟨t2, arg⟩, hup, h⟩ := bind_ok h
    cases h
    exact ⟨arg, hup, rfl⟩
  | delete k =>
    rw [Tree.step] at h
    obtain ⟨t2, hdel, h⟩ := bind_ok h
    cases h
    exact ⟨hdel, rfl⟩
  | search k =>
    rw [Tree.step] at h
    obtain ⟨v, hs, h⟩ := bind_ok h
    cases h
    exact ⟨v, hs, rfl, rfl⟩

theorem step_ids (P : Params K) (t t' : Tree K V) (op : Op K V) (o : Out V)
    (h : t.step P op = .ok (t', o)) (hinv : IdsInv t) : IdsInv t' := by
  have h := Tree.step_inv P t t' op o h
  cases op with
  | insert k v => obtain ⟨cb, hup, -⟩ := h; exact Tree.upsert_ids P t t' k _ cb hup hinv.1 hinv.2
  | update k f => obtain ⟨cb, hup, -⟩ := h; exact Tree.upsert_ids P t t' k f cb hup hinv.1 hinv.2
  | delete k =>
    obtain ⟨hsub, hnid⟩ := Tree.delete_ids P {} t t' k h.1
    exact ⟨hinv.1.sublist hsub, fun id hid => by rw [hnid]; exact hinv.2 id (hsub.subset hid)⟩
  | search k => obtain ⟨v, -, ht, -⟩ := h; subst ht; exact hinv

theorem run_ids (P : Params K) (ops : List (Op K V)) :
    ∀ (t t' : Tree K V) (outs : List (Out V)), t.run P ops = .ok (t', outs) → IdsInv t → IdsInv t' := by
  induction ops with
  | nil =>
    intro t t' outs h hinv
    cases h
    exact hinv
  | cons op ops ih =>
    intro t t' outs h hinv
    rw [Tree.run] at h
    obtain ⟨⟨t1, o1⟩, h1, h2⟩ := bind_ok h
    obtain ⟨⟨t2, os⟩, h3, h4⟩ := bind_ok h2
    cases h4
    exact ih t1 _ _ h3 (step_ids P t t1 op o1 h1 hinv)

end Gobptree
