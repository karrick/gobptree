/-
  `SettledBefore H t' i' t i`: in the client-visible history `H`, the call `(t', i')` is out of the
  way of the call `(t, i)` — it has not been invoked (yet), or its response precedes the invocation
  of `(t, i)`.  In a well-formed decorated history the linearization point of such a call is NOT
  after that of `(t, i)`: real-time order forces linearization order (`PointsWF.lin_lt`).

  Program order is real-time order: a thread invokes its next map operation only after all its
  earlier map operations have returned (`reachable_seq`), so an earlier call of the same thread is
  settled before a later one (`settled_of_program_order`).
  (The `ret` note of a call and the `inv` note of the next one are logged in the same scheduler
  step, so no CONFIGURATION of a run separates them; the order is visible in the history only.)
-/
import Gobptree.Proofs.CCounter

namespace Gobptree.Conc
open Gobptree Gobptree.Lin

variable {K V : Type}

def SettledBefore (H : List (HEv K V)) (t' i' t i : Nat) : Prop :=
  (∀ op, HEv.inv t' i' op ∉ H) ∨ ∃ out op, Before H (HEv.ret t' i' out) (HEv.inv t i op)

theorem lin_before_of_settled {h : List (HEv K V)} (hwf : PointsWF h) {L M t i t' i' : Nat}
    (hL : h[L]? = some (HEv.lin t i)) (hM : h[M]? = some (HEv.lin t' i'))
    (hs : SettledBefore (visible h) t' i' t i) : M < L := by
  rcases hs with hs | ⟨out, op, hb⟩
  · obtain ⟨q, op', _, hq⟩ := hwf.lin_after_inv M t' i' hM
    exact absurd (mem_visible.2 ⟨List.mem_of_getElem? hq, rfl⟩) (hs op')
  · obtain ⟨A, B, hAB, hA, hB⟩ := before_of_visible hb
    exact hwf.lin_lt hAB hA hB hM hL

theorem reachable_seq (P : Params K) (tree : Tree K V) (progs : List (List (COp K V)))
    (ht : TreeOk none tree) (ho : tree.order = P.order) (hp : PadOk P) (hd : Disciplined progs)
    (hdel : 4 ≤ tree.order ∨ NoDelete progs)
    (c : Config K V) (hr : Reachable (Config.init P tree progs) c) : SeqH (progOf c) (history c) :=
  (reachable_retok_seq P tree progs ht ho hp hd hdel c hr).2

theorem settled_of_program_order (P : Params K) (tree : Tree K V) (progs : List (List (COp K V)))
    (ht : TreeOk none tree) (ho : tree.order = P.order) (hp : PadOk P) (hd : Disciplined progs)
    (hdel : 4 ≤ tree.order ∨ NoDelete progs)
    (c : Config K V) (hr : Reachable (Config.init P tree progs) c)
    {t i' i : Nat} (hlt : i' < i) {p : List (COp K V)} {cop' : COp K V} {op' : Op K V}
    (hpt : progs[t]? = some p) (hpi : p[i']? = some cop') (hop : opOf cop' = some op')
    {op : Op K V} (hinv : HEv.inv t i op ∈ history c) : SettledBefore (history c) t i' t i := by
  have hs := reachable_seq P tree progs ht ho hp hd hdel c hr
  obtain ⟨b, hb⟩ := List.mem_iff_getElem?.1 hinv
  have hc : (progOf c t)[i']? = some cop' := by
    rw [progOf_reachable P tree progs c hr t, hpt]; exact hpi
  obtain ⟨a, out, hab, ha⟩ := hs t b i op hb i' cop' op' hlt hc hop
  exact .inr ⟨out, op, a, b, hab, ha, hb⟩

end Gobptree.Conc
