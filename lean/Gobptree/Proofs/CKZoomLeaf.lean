/-
  The leaf operations on an `Ord` leaf are the specification's operations on the leaf's pairs,
  and `Spec` operations on `PL ++ M ++ PR` act on `M` only when the key separates `PL` from
  `PR`.
-/
import Gobptree.Proofs.Leaf
import Gobptree.Proofs.CKDefs

namespace Gobptree.Conc
open Gobptree

variable {K V : Type} {lt : K → K → Bool}

theorem leaf_upsert_ord (h : SWO lt) (P : Params K) (hP : P.lt = lt) (hpad : PadOk P)
    (l : Leaf K V) (lo hi : Option K) (hord : Ord lt 0 lo hi l) (hlen : l.keys.length = l.vals.length)
    (key : K) (f : Option V → V) (hlo : leO lt lo key) (hhi : ltO lt key hi)
    (l' : Leaf K V) (arg : Option V) (hu : Leaf.upsert P l key f = .ok (l', arg)) :
    arg = Spec.lookup lt (l.keys.zip l.vals) key ∧
    Ord lt 0 lo hi l' ∧ l'.keys.length = l'.vals.length ∧ l'.id = l.id ∧ l'.next = l.next ∧
    l'.keys.zip l'.vals = Spec.update lt (l.keys.zip l.vals) key f ∧
    l.keys.length ≤ l'.keys.length ∧ l'.keys.length ≤ l.keys.length + 1 := by
  obtain ⟨l0, hu0, hid, hnext, hs, hlen', hzip, hle1, hle2, hmem⟩ :=
    Gobptree.Leaf.upsert_ok h P hP hpad l key f hord.1 hlen
  rw [hu0] at hu
  injection hu with hu
  injection hu with e1 e2
  subst e1
  refine ⟨e2.symm, ⟨hs, ?_⟩, hlen', hid, hnext, hzip, hle1, hle2⟩
  intro k hk
  rcases hmem k hk with hk | rfl
  · exact hord.2 k hk
  · exact ⟨hlo, hhi⟩

theorem leaf_delete_ord (h : SWO lt) (P : Params K) (hP : P.lt = lt)
    (l : Leaf K V) (lo hi : Option K) (hord : Ord lt 0 lo hi l) (hlen : l.keys.length = l.vals.length)
    (minSize : Nat) (key : K)
    (l' : Leaf K V) (small : Bool) (hd : Leaf.deleteKey P l minSize key = .ok (l', small)) :
    Ord lt 0 lo hi l' ∧ l'.keys.length = l'.vals.length ∧ l'.id = l.id ∧ l'.next = l.next ∧
    l'.keys.zip l'.vals = Spec.erase lt (l.keys.zip l.vals) key ∧
    (small = true → l'.keys.length < minSize) ∧
    (small = false → l' = l ∨ minSize ≤ l'.keys.length) ∧
    l'.keys.length ≤ l.keys.length ∧ l.keys.length ≤ l'.keys.length + 1 := by
  obtain ⟨l0, small0, hd0, hsm1, hsm2, hid, hnext, hs, hlen', hzip, hle1, hle2, hmem⟩ :=
    Gobptree.Leaf.deleteKey_ok h P hP l minSize key hord.1 hlen
  rw [hd0] at hd
  injection hd with hd
  injection hd with e1 e2
  subst e1; subst e2
  exact ⟨⟨hs, fun k hk => hord.2 k (hmem k hk)⟩, hlen', hid, hnext, hzip, hsm1, hsm2, hle1, hle2⟩

theorem lookup_mid (PL M PR : List (K × V)) (key : K)
    (hL : AllLt lt PL key) (hR : AllGt lt PR key) :
    Spec.lookup lt (PL ++ M ++ PR) key = Spec.lookup lt M key := by
  rw [List.append_assoc, Spec.lookup_append_left _ _ _ hL, Spec.lookup_append_right _ _ _ hR]

theorem insert_mid (h : SWO lt) (PL M PR : List (K × V)) (key : K) (v : V)
    (hL : AllLt lt PL key) (hR : AllGt lt PR key) :
    Spec.insert lt (PL ++ M ++ PR) key v = PL ++ Spec.insert lt M key v ++ PR := by
  rw [List.append_assoc, Spec.insert_append_left h _ _ _ _ hL, Spec.insert_append_right _ _ _ _ hR,
    List.append_assoc]

theorem update_mid (h : SWO lt) (PL M PR : List (K × V)) (key : K) (f : Option V → V)
    (hL : AllLt lt PL key) (hR : AllGt lt PR key) :
    Spec.update lt (PL ++ M ++ PR) key f = PL ++ Spec.update lt M key f ++ PR := by
  unfold Spec.update
  rw [lookup_mid PL M PR key hL hR, insert_mid h PL M PR key _ hL hR]

theorem erase_mid' (PL M PR : List (K × V)) (key : K)
    (hL : AllLt lt PL key) (hR : AllGt lt PR key) :
    Spec.erase lt (PL ++ M ++ PR) key = PL ++ Spec.erase lt M key ++ PR := by
  rw [Spec.erase_append, Spec.erase_append, Spec.erase_of_allLt PL key hL, Spec.erase_of_allGt PR key hR]

end Gobptree.Conc
