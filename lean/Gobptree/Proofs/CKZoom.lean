/-
  Key-order zoom lemmas, tree level.  A block rewrites one node found by `Tree.find` and written
  back by `putInner`/`putLeaf`; `Tree.zoom` hands out the interval the tree assigns to that node,
  the pairs before and after it, and the rule that any replacement that is `Ord` in the same
  interval can be written back.
-/
import Gobptree.Proofs.CKZoomLeaf
import Gobptree.Proofs.CKZoomFacts

namespace Gobptree.Conc
open Gobptree

variable {K V : Type} {lt : K → K → Bool}

theorem Tree.zoom (h : SWO lt) {t : Tree K V} {id d' : Nat} {m : Node K V d'}
    (hf : t.find id = some ⟨d', m⟩) (hids : t.ids.Nodup) (hpar : ParTree t) (hord : OrdTree lt t) :
    ∃ lo' hi' PL PR, Zoom lt id t.depth none none t.root d' m lo' hi' PL PR :=
  Conc.zoom h id t.root m hf hids hpar none none hord

theorem Zoom.abs {t : Tree K V} {id d' : Nat} {m : Node K V d'} {lo' hi' : Option K} {PL PR : List (K × V)}
    (z : Zoom lt id t.depth none none t.root d' m lo' hi' PL PR) :
    t.abs = PL ++ Node.pairs m ++ PR := by
  rw [Tree.abs_eq_pairs]; exact z.pairs

theorem Zoom.tree_bounds {t : Tree K V} {id d' : Nat} {m : Node K V d'} {lo' hi' : Option K} {PL PR : List (K × V)}
    (z : Zoom lt id t.depth none none t.root d' m lo' hi' PL PR) :
    t.boundsOf id = some (lo', hi') := z.bounds

theorem Tree.zoomAt (h : SWO lt) {t : Tree K V} {id d' : Nat} {m : Node K V d'}
    (hf : t.find id = some ⟨d', m⟩) (hids : t.ids.Nodup) (hpar : ParTree t) (hord : OrdTree lt t)
    {a b : Option K} (hb : t.boundsOf id = some (a, b)) :
    ∃ PL PR, Zoom lt id t.depth none none t.root d' m a b PL PR :=
  Conc.zoomAt h id t.root none none m hf hids hpar hord hb

theorem Zoom.sep_of_bounds {id d d' : Nat} {lo hi : Option K} {n : Node K V d} {m : Node K V d'}
    {lo' hi' : Option K} {PL PR : List (K × V)}
    (z : Zoom lt id d lo hi n d' m lo' hi' PL PR) (key : K) (hlo : leO lt lo' key) (hhi : ltO lt key hi') :
    AllLt lt PL key ∧ AllGt lt PR key :=
  ⟨fun p hp => z.left p hp key hlo, fun p hp => z.right p hp key hhi⟩

theorem Zoom.modify {t : Tree K V} {id d' : Nat} {m : Node K V d'} {lo' hi' : Option K} {PL PR : List (K × V)}
    (z : Zoom lt id t.depth none none t.root d' m lo' hi' PL PR)
    (f : (d : Nat) → Node K V d → Node K V d) (m2 : Node K V d') (hfm : f d' m = m2)
    (hO : Ord lt d' lo' hi' m2) (hP : ParN d' m2) :
    OrdTree lt (t.modify id f) ∧ ParTree (t.modify id f) ∧
    (t.modify id f).abs = PL ++ Node.pairs m2 ++ PR := by
  subst hfm
  obtain ⟨h1, h2, h3⟩ := z.rewrite f hO hP
  refine ⟨h1, h2, ?_⟩
  rw [Tree.abs_eq_pairs]; exact h3

def leafFn (l' : Leaf K V) : (d : Nat) → Node K V d → Node K V d :=
  fun d n => match d, n with
    | 0, _ => (l' : Leaf K V)
    | _ + 1, n => n

theorem putLeaf_eq (t : Tree K V) (l' : Leaf K V) : putLeaf t l' = t.modify l'.id (leafFn l') := rfl

theorem putLeaf_apply (l' : Leaf K V) (l : Node K V 0) : leafFn l' 0 l = l' := rfl

theorem Zoom.putInnerAt {t : Tree K V} {id d : Nat} {p : Node K V (d + 1)} {lo' hi' : Option K} {PL PR : List (K × V)}
    (z : Zoom lt id t.depth none none t.root (d + 1) p lo' hi' PL PR)
    (p' : Inner K (Node K V d)) (hid : p'.id = id) (hO : Ord lt (d + 1) lo' hi' p') (hP : ParN (d + 1) p') :
    OrdTree lt (putInner t p') ∧ ParTree (putInner t p') ∧
    (putInner t p').abs = PL ++ Node.pairs (d := d + 1) p' ++ PR := by
  subst hid
  exact z.modify _ p' (putInner_apply p' p) hO hP

theorem Zoom.putInner {t : Tree K V} {d : Nat} {p : Node K V (d + 1)} (p' : Inner K (Node K V d))
    {lo' hi' : Option K} {PL PR : List (K × V)}
    (z : Zoom lt p'.id t.depth none none t.root (d + 1) p lo' hi' PL PR)
    (hO : Ord lt (d + 1) lo' hi' p') (hP : ParN (d + 1) p') :
    OrdTree lt (putInner t p') ∧ ParTree (putInner t p') ∧
    (putInner t p').abs = PL ++ Node.pairs (d := d + 1) p' ++ PR :=
  z.putInnerAt p' rfl hO hP

theorem Zoom.putLeafAt {t : Tree K V} {id : Nat} {l : Node K V 0} {lo' hi' : Option K} {PL PR : List (K × V)}
    (z : Zoom lt id t.depth none none t.root 0 l lo' hi' PL PR)
    (l' : Leaf K V) (hid : l'.id = id) (hO : Ord lt 0 lo' hi' l') :
    OrdTree lt (putLeaf t l') ∧ ParTree (putLeaf t l') ∧
    (putLeaf t l').abs = PL ++ l'.keys.zip l'.vals ++ PR := by
  subst hid
  exact z.modify (leafFn l') l' (putLeaf_apply l' l) hO trivial

theorem Zoom.putLeaf {t : Tree K V} {l : Node K V 0} (l' : Leaf K V)
    {lo' hi' : Option K} {PL PR : List (K × V)}
    (z : Zoom lt l'.id t.depth none none t.root 0 l lo' hi' PL PR)
    (hO : Ord lt 0 lo' hi' l') :
    OrdTree lt (putLeaf t l') ∧ ParTree (putLeaf t l') ∧
    (putLeaf t l').abs = PL ++ l'.keys.zip l'.vals ++ PR :=
  z.putLeafAt l' rfl hO

theorem Tree.route_off {t : Tree K V} {id d' : Nat} {m : Node K V d'}
    (hf : t.find id = some ⟨d', m⟩) (hids : t.ids.Nodup) (hpar : ParTree t) (key : K)
    (hoff : ¬ OnRoute lt t key id) (f : (d : Nat) → Node K V d → Node K V d) :
    (t.modify id f).routeB lt key = t.routeB lt key :=
  (route_zoom key id t.root m hf hids hpar none none).1
    (fun a b hab => hoff ⟨a, b, hab⟩) f

theorem Tree.route_on {t : Tree K V} {id d' : Nat} {m : Node K V d'}
    (hf : t.find id = some ⟨d', m⟩) (hids : t.ids.Nodup) (hpar : ParTree t) (key : K)
    (a b : Option K) (hon : (id, a, b) ∈ t.routeB lt key) :
    ∃ pre, (∀ e ∈ pre, e.1 ≠ id) ∧ t.routeB lt key = pre ++ routeB lt key d' a b m ∧
      ∀ (f : (d : Nat) → Node K V d → Node K V d) (m2 : Node K V d'), f d' m = m2 →
        (t.modify id f).routeB lt key = pre ++ routeB lt key d' a b m2 := by
  obtain ⟨pre, hpre, h1, h2⟩ :=
    (route_zoom (lt := lt) key id t.root m hf hids hpar none none).2 a b hon
  exact ⟨pre, hpre, h1, fun f m2 hfm => by rw [← hfm]; exact h2 f⟩

theorem Tree.route_entry (h : SWO lt) {t : Tree K V} (hids : t.ids.Nodup) (hpar : ParTree t) (hord : OrdTree lt t)
    {key : K} {x : Nat} {a b : Option K} (hx : (x, a, b) ∈ t.routeB lt key) :
    t.boundsOf x = some (a, b) ∧ ltO lt key b ∧ ∃ a', t.gbounds true x = some (a', b) ∧ leO lt a' key :=
  Conc.route_entry h key t.root none none none hord hpar hids trivial trivial hx

theorem Tree.zoomOn (h : SWO lt) {t : Tree K V} {id d' : Nat} {m : Node K V d'}
    (hf : t.find id = some ⟨d', m⟩) (hids : t.ids.Nodup) (hpar : ParTree t) (hord : OrdTree lt t)
    {key : K} {a b : Option K} (hon : (id, a, b) ∈ t.routeB lt key) :
    ∃ PL PR, Zoom lt id t.depth none none t.root d' m a b PL PR ∧ AllLt lt PL key ∧ AllGt lt PR key := by
  obtain ⟨PL, PR, z⟩ := Tree.zoomAt h hf hids hpar hord (Tree.route_entry h hids hpar hord hon).1
  exact ⟨PL, PR, z, z.onRoute key a b hon⟩

theorem putInner_route_off {t : Tree K V} {d : Nat} {p : Node K V (d + 1)} (p' : Inner K (Node K V d))
    (hf : t.find p'.id = some ⟨d + 1, p⟩) (hids : t.ids.Nodup) (hpar : ParTree t) (key : K)
    (hoff : ¬ OnRoute lt t key p'.id) :
    (putInner t p').routeB lt key = t.routeB lt key :=
  Tree.route_off hf hids hpar key hoff _

theorem putInner_route_on {t : Tree K V} {id d : Nat} {p : Node K V (d + 1)} (p' : Inner K (Node K V d))
    (hid : p'.id = id) (hf : t.find id = some ⟨d + 1, p⟩) (hids : t.ids.Nodup) (hpar : ParTree t) (key : K)
    (a b : Option K) (hon : (id, a, b) ∈ t.routeB lt key) :
    ∃ pre, (∀ e ∈ pre, e.1 ≠ id) ∧ t.routeB lt key = pre ++ routeB lt key (d + 1) a b p ∧
      (putInner t p').routeB lt key = pre ++ routeB lt key (d + 1) a b p' := by
  subst hid
  obtain ⟨pre, hpre, h1, h2⟩ := Tree.route_on hf hids hpar key a b hon
  exact ⟨pre, hpre, h1, h2 _ p' (putInner_apply p' p)⟩

theorem putLeaf_routeB {t : Tree K V} {l : Leaf K V} (l' : Leaf K V) (hid : l'.id = l.id)
    (hf : t.find l.id = some ⟨0, l⟩) (hids : t.ids.Nodup) (hpar : ParTree t) (key : K) :
    (putLeaf t l').routeB lt key = t.routeB lt key := by
  rw [putLeaf_eq, hid]
  by_cases hon : OnRoute lt t key l.id
  · obtain ⟨a, b, hab⟩ := hon
    obtain ⟨pre, _, h1, h2⟩ := Tree.route_on hf hids hpar key a b hab
    rw [h2 (leafFn l') l' (putLeaf_apply l' l), h1, routeB_zero key a b l', routeB_zero key a b l, hid]
  · exact Tree.route_off hf hids hpar key hon (leafFn l')

theorem keysOf_find {t : Tree K V} {id d : Nat} {p : Inner K (Node K V d)}
    (hf : t.find id = some ⟨d + 1, p⟩) : keysOf t id = p.runts := by
  unfold keysOf
  rw [look_eq_find, hf]
  rfl

theorem ParTree_find {t : Tree K V} {id d' : Nat} {m : Node K V d'}
    (hf : t.find id = some ⟨d', m⟩) (hpar : ParTree t) : ParN d' m :=
  ParN_find id t.depth t.root d' m hf hpar

theorem Tree.route_kid {t : Tree K V} {id d : Nat} {p : Inner K (Node K V d)}
    (hf : t.find id = some ⟨d + 1, p⟩) (hids : t.ids.Nodup) (hpar : ParTree t) (key : K)
    (a b : Option K) (hon : (id, a, b) ∈ t.routeB lt key) :
    ∃ (s : K) (c : Node K V d),
      p.runts[searchLE lt key p.runts]? = some s ∧ p.kids[searchLE lt key p.runts]? = some c ∧
      (Node.id c, some s, hiAt p.runts (searchLE lt key p.runts) b) ∈ t.routeB lt key := by
  obtain ⟨pre, _, h1, _⟩ := Tree.route_on hf hids hpar key a b hon
  obtain ⟨s, c, hs, hc, _, _⟩ := routeB_inner (lt := lt) key a b p (ParTree_find hf hpar)
  exact ⟨s, c, hs, hc, by rw [h1]; exact List.mem_append_right _ (routeB_kid_mem key a b p _ s c rfl hs hc)⟩

theorem lookup_of_find (h : SWO lt) {t : Tree K V} {id d' : Nat} {m : Node K V d'}
    (hf : t.find id = some ⟨d', m⟩) (hids : t.ids.Nodup) (hpar : ParTree t) (hord : OrdTree lt t)
    (key : K) (hon : OnRoute lt t key id) :
    Spec.lookup lt t.abs key = Spec.lookup lt (Node.pairs m) key := by
  obtain ⟨a, b, hab⟩ := hon
  rw [Tree.abs_eq_pairs]
  exact lookup_of_onRoute h key id t.root none none m hf hids hpar hord a b hab

theorem Tree.lookup_routeLeaf (h : SWO lt) {t : Tree K V} (hpar : ParTree t) (hord : OrdTree lt t)
    (key : K) (l : Leaf K V) (hl : routeLeaf lt key t.depth t.root = some l) :
    Spec.lookup lt t.abs key = Spec.lookup lt (l.keys.zip l.vals) key := by
  rw [Tree.abs_eq_pairs]
  exact Conc.lookup_routeLeaf h key t.depth none none t.root l hord hpar hl

theorem root_onRoute (t : Tree K V) (key : K) :
    (t.rootId, none, none) ∈ t.routeB lt key := by
  obtain ⟨tl, htl⟩ := routeB_head (lt := lt) key t.depth none none t.root
  show (Node.id t.root, none, none) ∈ routeB lt key t.depth none none t.root
  rw [htl]
  exact List.mem_cons_self

/-- the key must lie inside the leaf's interval (`InBounds`), not merely be routed to it: stored below
    it, it would break `Ord` -/
theorem putLeaf_upsert (h : SWO lt) (P : Params K) (hP : P.lt = lt) (hpad : PadOk P)
    {t : Tree K V} (l : Leaf K V) (hf : t.find l.id = some ⟨0, l⟩)
    (hids : t.ids.Nodup) (hpar : ParTree t) (hord : OrdTree lt t)
    (hlen : l.keys.length = l.vals.length) (key : K) (f : Option V → V)
    (hin : InBounds lt t key l.id)
    (l' : Leaf K V) (arg : Option V) (hu : Leaf.upsert P l key f = .ok (l', arg)) :
    arg = Spec.lookup lt t.abs key ∧
    OrdTree lt (putLeaf t l') ∧ ParTree (putLeaf t l') ∧
    (putLeaf t l').abs = Spec.update lt t.abs key f ∧
    (∀ key', (putLeaf t l').routeB lt key' = t.routeB lt key') ∧
    l'.id = l.id ∧ l'.next = l.next ∧ l'.keys.length = l'.vals.length ∧
    l.keys.length ≤ l'.keys.length ∧ l'.keys.length ≤ l.keys.length + 1 := by
  obtain ⟨a, b, hab, hlo⟩ := hin
  have hhi : ltO lt key b := (Tree.route_entry h hids hpar hord hab).2.1
  obtain ⟨PL, PR, z, hL, hR⟩ := Tree.zoomOn h hf hids hpar hord hab
  obtain ⟨harg, hO, hlen', hid, hnext, hzip, hle1, hle2⟩ :=
    leaf_upsert_ord h P hP hpad l a b z.ord hlen key f hlo hhi l' arg hu
  obtain ⟨h1, h2, h3⟩ := z.putLeafAt l' hid hO
  refine ⟨?_, h1, h2, ?_, fun key' => putLeaf_routeB l' hid hf hids hpar key', hid, hnext, hlen', hle1, hle2⟩
  · rw [harg, z.abs, lookup_mid PL _ PR key hL hR]
    rfl
  · rw [h3, z.abs, update_mid h PL _ PR key f hL hR, hzip]
    rfl

/-- the key may be below the leaf's interval: then it is absent and nothing changes -/
theorem putLeaf_delete (h : SWO lt) (P : Params K) (hP : P.lt = lt)
    {t : Tree K V} (l : Leaf K V) (hf : t.find l.id = some ⟨0, l⟩)
    (hids : t.ids.Nodup) (hpar : ParTree t) (hord : OrdTree lt t)
    (hlen : l.keys.length = l.vals.length) (minSize : Nat) (key : K)
    (hon : OnRoute lt t key l.id)
    (l' : Leaf K V) (small : Bool) (hd : Leaf.deleteKey P l minSize key = .ok (l', small)) :
    OrdTree lt (putLeaf t l') ∧ ParTree (putLeaf t l') ∧
    (putLeaf t l').abs = Spec.erase lt t.abs key ∧
    (∀ key', (putLeaf t l').routeB lt key' = t.routeB lt key') ∧
    l'.id = l.id ∧ l'.next = l.next ∧ l'.keys.length = l'.vals.length ∧
    (small = true → l'.keys.length < minSize) ∧
    (small = false → l' = l ∨ minSize ≤ l'.keys.length) ∧
    l'.keys.length ≤ l.keys.length ∧ l.keys.length ≤ l'.keys.length + 1 := by
  obtain ⟨a, b, hab⟩ := hon
  obtain ⟨PL, PR, z, hL, hR⟩ := Tree.zoomOn h hf hids hpar hord hab
  obtain ⟨hO, hlen', hid, hnext, hzip, hs1, hs2, hle1, hle2⟩ :=
    leaf_delete_ord h P hP l a b z.ord hlen minSize key l' small hd
  obtain ⟨h1, h2, h3⟩ := z.putLeafAt l' hid hO
  refine ⟨h1, h2, ?_, fun key' => putLeaf_routeB l' hid hf hids hpar key', hid, hnext, hlen', hs1, hs2, hle1, hle2⟩
  rw [h3, z.abs, erase_mid' PL _ PR key hL hR, hzip]
  rfl

theorem leaf_search_tree (h : SWO lt) (P : Params K) (hP : P.lt = lt)
    {t : Tree K V} (l : Leaf K V) (hf : t.find l.id = some ⟨0, l⟩)
    (hids : t.ids.Nodup) (hpar : ParTree t) (hord : OrdTree lt t)
    (hlen : l.keys.length = l.vals.length) (key : K) (hon : OnRoute lt t key l.id) :
    Leaf.search P l key = .ok (Spec.lookup lt t.abs key) := by
  obtain ⟨lo2, hi2, PL, PR, z⟩ := Tree.zoom h hf hids hpar hord
  rw [Gobptree.Leaf.search_ok h P hP l key z.ord.1 hlen, lookup_of_find h hf hids hpar hord key hon]
  rfl

end Gobptree.Conc
