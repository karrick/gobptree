/-
  The separator invariant at node level: `ISepN` says of every entry `(s, c)` below a node
  that `s` is (equivalent to) the first separator of `c`, or a lowering is in progress at `c`
  (`SepFact`).  `ISepN` is the form the proofs work with; `isepW_iff_N` is the one bridge to the
  flat-view form `ISepW`; `ISep` is `ISepW` with the threads' own witnesses, and `SepN` (CIDelRids)
  is `ISepN` in the shape Delete's step records carry.
-/
import Gobptree.Proofs.CIDefs
import Gobptree.Proofs.CKZoomBase
import Gobptree.Proofs.CSDelStep

namespace Gobptree.Conc
open Gobptree

variable {K V : Type} {lt : K → K → Bool}

def headN : (d : Nat) → Node K V d → Option K
  | 0, _ => none
  | _ + 1, (c : Inner K _) => c.runts.head?

/-- the fact the separator invariant states about a child `c` stored under separator `s` -/
def SepFact (lt : K → K → Bool) (Wit : Nat → K → Prop) : (d : Nat) → Node K V d → K → Prop
  | 0, _, _ => True
  | _ + 1, (c : Inner K _), s =>
    (∃ s', c.runts.head? = some s' ∧ eqv lt s s' = true) ∨ Wit c.id s

def ISepN (lt : K → K → Bool) (Wit : Nat → K → Prop) : (d : Nat) → Node K V d → Prop
  | 0, _ => True
  | d + 1, (i : Inner K (Node K V d)) =>
    ∀ e ∈ i.runts.zip i.kids, SepFact lt Wit d e.2 e.1 ∧ ISepN lt Wit d e.2

theorem SepFact_zero (Wit : Nat → K → Prop) (c : Node K V 0) (s : K) : SepFact lt Wit 0 c s := trivial

theorem SepFact_succ (Wit : Nat → K → Prop) {d : Nat} (c : Inner K (Node K V d)) (s : K) :
    SepFact lt Wit (d + 1) c s ↔ (∃ s', c.runts.head? = some s' ∧ eqv lt s s' = true) ∨ Wit c.id s := Iff.rfl

theorem SepFact_iff_headN (Wit : Nat → K → Prop) {d : Nat} (c : Node K V (d + 1)) (s : K) :
    SepFact lt Wit (d + 1) c s ↔ (∃ s', headN (d + 1) c = some s' ∧ eqv lt s s' = true) ∨ Wit (Node.id c) s := Iff.rfl

theorem ISepN_zero (Wit : Nat → K → Prop) (c : Node K V 0) : ISepN lt Wit 0 c := trivial

theorem ISepN_succ (Wit : Nat → K → Prop) {d : Nat} (i : Inner K (Node K V d)) :
    ISepN lt Wit (d + 1) i ↔ ∀ e ∈ i.runts.zip i.kids, SepFact lt Wit d e.2 e.1 ∧ ISepN lt Wit d e.2 := Iff.rfl

theorem SepFact.congr {Wit : Nat → K → Prop} {d : Nat} {c c' : Node K V d} {s : K}
    (hid : Node.id c' = Node.id c) (hh : headN d c' = headN d c) (h : SepFact lt Wit d c s) : SepFact lt Wit d c' s := by
  cases d with
  | zero => trivial
  | succ d =>
    rw [SepFact_iff_headN] at h ⊢
    rw [hid, hh]
    exact h

theorem SepFact.mono {Wit Wit' : Nat → K → Prop} {d : Nat} {c : Node K V d} {s : K}
    (hw : Wit (Node.id c) s → Wit' (Node.id c) s) (h : SepFact lt Wit d c s) : SepFact lt Wit' d c s := by
  cases d with
  | zero => trivial
  | succ d => exact h.imp_right hw

theorem ISepN.mono {Wit Wit' : Nat → K → Prop} : ∀ {d : Nat} {n : Node K V d},
    (∀ r ∈ idsOf n, ∀ x, Wit r x → Wit' r x) → ISepN lt Wit d n → ISepN lt Wit' d n := by
  intro d
  induction d with
  | zero => intro n _ _; trivial
  | succ d ih =>
    intro (n : Inner K (Node K V d)) hw h e he
    have hmem : e.2 ∈ n.kids := (List.of_mem_zip he).2
    have hsub : ∀ r ∈ idsOf e.2, r ∈ idsOf (d := d + 1) n := by
      intro r hr
      rw [idsOf_succ n]
      exact List.mem_cons_of_mem _ (List.mem_flatMap.2 ⟨e.2, hmem, hr⟩)
    obtain ⟨h1, h2⟩ := h e he
    exact ⟨SepFact.mono (hw _ (hsub _ (id_mem_idsOf e.2)) _) h1, ih (fun r hr => hw r (hsub r hr)) h2⟩

def SepEntry (lt : K → K → Bool) (Wit : Nat → K → Prop) (d : Nat) (e : K × Node K V d) : Prop :=
  SepFact lt Wit d e.2 e.1 ∧ ISepN lt Wit d e.2

theorem SepEntry.mono {Wit Wit' : Nat → K → Prop} {d : Nat} {e : K × Node K V d}
    (hw : ∀ r ∈ idsOf e.2, ∀ x, Wit r x → Wit' r x) (h : SepEntry lt Wit d e) : SepEntry lt Wit' d e :=
  ⟨SepFact.mono (hw _ (id_mem_idsOf e.2) _) h.1, ISepN.mono hw h.2⟩

theorem isepN_decomp (Wit : Nat → K → Prop) {d : Nat} {n : Inner K (Node K V d)} {rA rB : List K} {k : K}
    {A B : List (Node K V d)} {c : Node K V d} (hr : n.runts = rA ++ k :: rB) (hk : n.kids = A ++ c :: B)
    (hl : rA.length = A.length) :
    ISepN lt Wit (d + 1) n ↔
      (∀ e ∈ rA.zip A, SepEntry lt Wit d e) ∧ SepEntry lt Wit d (k, c) ∧ ∀ e ∈ rB.zip B, SepEntry lt Wit d e := by
  rw [ISepN_succ, hr, hk, List.zip_append hl, List.zip_cons_cons]
  show (∀ e ∈ rA.zip A ++ (k, c) :: rB.zip B, SepEntry lt Wit d e) ↔ _
  simp only [List.mem_append, List.mem_cons, or_imp, forall_and, forall_eq]

theorem ISepN_find (Wit : Nat → K → Prop) {id d d' : Nat} {n : Node K V d} {m : Node K V d'}
    (hf : findNode id d n = some ⟨d', m⟩) (hnd : (idsOf n).Nodup) (hpar : ParN d n) :
    ISepN lt Wit d n → ISepN lt Wit d' m := by
  refine findNode_rec id (fun _ _ _ h => h) ?_ n hf hnd hpar
  intro d n rA k rB A c B _ _ _ hr hk hl _ _ _ _ ih h
  exact ih ((isepN_decomp Wit hr hk hl).1 h).2.1.2

/-- the inner hypothesis: the fact the parent of `m` states about it (under the separator `lo'`)
    survives the rewrite -/
theorem isepN_modify (Wit Wit' : Nat → K → Prop) (id : Nat) (f : (d : Nat) → Node K V d → Node K V d)
    {d d' : Nat} {n : Node K V d} {m : Node K V d'}
    (hf : findNode id d n = some ⟨d', m⟩) (hnd : (idsOf n).Nodup) (hpar : ParN d n)
    (hw : ∀ r x, r ≠ id → Wit r x → Wit' r x) (hI' : ISepN lt Wit' d' (f d' m)) (lo hi : Option K)
    (hI : ISepN lt Wit d n) :
    ∃ lo' hi', boundsOf id d lo hi n = some (lo', hi') ∧
      ((∀ s, lo' = some s → SepFact lt Wit d' m s → SepFact lt Wit' d' (f d' m) s) →
        ISepN lt Wit' d (modifyNode id f d n) ∧
        ∀ s, lo = some s → SepFact lt Wit d n s → SepFact lt Wit' d (modifyNode id f d n) s) := by
  have hm : Node.id m = id := findNode_id hf
  revert lo hi hI
  refine findNode_rec id ?_ ?_ n hf hnd hpar
  · intro _ _ _ lo hi _
    refine ⟨lo, hi, boundsOf_here id lo hi m hm, fun hface => ?_⟩
    rw [modifyNode_at id f m hm]
    exact ⟨hI', hface⟩
  · intro d n rA k rB A c B hid _ _ hr hk hl _ _ hA hB ih lo hi hI
    obtain ⟨hIA, hIc, hIB⟩ := (isepN_decomp Wit hr hk hl).1 hI
    obtain ⟨lo', hi', hb, hrest⟩ := ih (some k) (nextLo hi (rB.zip B)) hIc.2
    refine ⟨lo', hi', (boundsOf_kid id lo hi n rA rB k A B c hid hr hk hl hA hB).trans hb, fun hface => ?_⟩
    obtain ⟨h1, h2⟩ := hrest hface
    rw [modifyNode_kid id f n A B c hid hk hA hB]
    have hout : ∀ (X : List (Node K V d)) (rX : List K), (∀ a ∈ X, id ∉ idsOf a) →
        (∀ e ∈ rX.zip X, SepEntry lt Wit d e) → ∀ e ∈ rX.zip X, SepEntry lt Wit' d e :=
      fun X rX hX h e he => SepEntry.mono
        (fun r hr x => hw r x (fun e' => hX e.2 (List.of_mem_zip he).2 (e' ▸ hr))) (h e he)
    exact ⟨(isepN_decomp Wit' (n := Inner.mk n.id n.runts (A ++ modifyNode id f d c :: B)) hr rfl hl).2 ⟨hout A rA hA hIA, ⟨h2 k rfl hIc.1, h1⟩, hout B rB hB hIB⟩,
      fun s _ hs => SepFact.mono (d := d + 1)
        (c := (Inner.mk n.id n.runts (A ++ modifyNode id f d c :: B) : Inner K (Node K V d))) (hw _ _ hid) hs⟩

theorem isepN_modify_same (Wit : Nat → K → Prop) (id : Nat) (f : (d : Nat) → Node K V d → Node K V d)
    {d d' : Nat} {n : Node K V d} {m : Node K V d'}
    (hf : findNode id d n = some ⟨d', m⟩) (hnd : (idsOf n).Nodup) (hpar : ParN d n) (hI : ISepN lt Wit d n)
    (hI' : ISepN lt Wit d' (f d' m)) (hid : Node.id (f d' m) = Node.id m) (hh : headN d' (f d' m) = headN d' m) :
    ISepN lt Wit d (modifyNode id f d n) := by
  obtain ⟨_, _, _, h⟩ := isepN_modify Wit Wit id f hf hnd hpar (fun _ _ _ h => h) hI' none none hI
  exact (h (fun _ _ => SepFact.congr hid hh)).1

theorem isepN_of_isepW {Wit : Nat → K → Prop} {t : Tree K V} (hn : t.ids.Nodup) (his : ISepW lt Wit t) :
    ∀ (d : Nat) (n : Node K V d), (∀ p ∈ flat n, p ∈ t.flat) → ISepN lt Wit d n := by
  intro d
  induction d with
  | zero => intro _ _; trivial
  | succ d ih =>
    intro (n : Inner K (Node K V d)) hsub e he
    obtain ⟨j, hj⟩ := List.mem_iff_getElem?.1 he
    obtain ⟨hj1, hj2⟩ := List.getElem?_zip_eq_some.1 hj
    have hc : e.2 ∈ n.kids := List.mem_of_getElem? hj2
    have hsubk : ∀ p ∈ flat e.2, p ∈ t.flat := by
      intro p hp
      apply hsub
      rw [flat_succ (d := d) n]
      exact List.mem_cons_of_mem _ (List.mem_flatMap.2 ⟨e.2, hc, hp⟩)
    refine ⟨?_, ih e.2 hsubk⟩
    cases d with
    | zero => trivial
    | succ d0 =>
      have l1 : t.look n.id = some (shallow (d := d0 + 2) n) :=
        (look_eq_some_iff hn _ _).2 (hsub _ (self_mem_flat (d := d0 + 2) n))
      have l2 : t.look (Node.id e.2) = some (shallow e.2) :=
        (look_eq_some_iff hn _ _).2 (hsubk _ (self_mem_flat e.2))
      have l3 : (shallow (d := d0 + 2) n).kids[j]? = some (Node.id e.2) :=
        (shallow_kids_getElem n j _).2 ⟨e.2, hj2, rfl⟩
      exact his n.id j (Node.id e.2) _ _ e.1 l1 l3 l2 (Nat.succ_pos _) hj1

theorem isepW_iff_N (Wit : Nat → K → Prop) {t : Tree K V} (hids : t.ids.Nodup) (hpar : ParTree t) :
    ISepW lt Wit t ↔ ISepN lt Wit t.depth t.root := by
  refine ⟨fun h => isepN_of_isepW hids h t.depth t.root (fun _ hp => hp), ?_⟩
  intro hsep g j r sg sr s hg hkj hr hpos hsj
  obtain ⟨d, p, k, hf, hlp, -, hk, rfl⟩ := kidAt_inner (t := t) (n := g) (j := j) (c := r)
    (by unfold Tree.kidAt; rw [hg]; exact hkj)
  cases hg.symm.trans hlp
  cases hr.symm.trans ((look_eq_some_iff hids _ _).2
    (mem_flat_of_find hf (kid_mem_flat p k (List.mem_of_getElem? hk))))
  have hok := (ISepN_find Wit hf hids hpar hsep (s, k)
    (List.mem_iff_getElem?.2 ⟨j, List.getElem?_zip_eq_some.2 ⟨hsj, hk⟩⟩)).1
  cases d with
  | zero => exact absurd hpos (Nat.lt_irrefl 0)
  | succ d0 => exact hok

end Gobptree.Conc
