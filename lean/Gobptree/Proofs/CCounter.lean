/-
  C05, the concurrent counter corollary: N concurrent `Update k (+1)` raise the counter at
  `k` by exactly N, under EVERY schedule, with arbitrary operations on other keys (Inserts,
  Updates, Deletes, cursor sessions) running alongside.  The abstract map of a reachable tree is
  the replay of the specification along the linearization points, so the counter is the initial
  value bumped by the number of linearized increments, which lies between the returned and the
  invoked ones; at quiescence the three numbers coincide.
-/
import Gobptree.Proofs.SpecLookup
import Gobptree.Proofs.CCounterNames
import Gobptree.Proofs.CCounterRet
import Gobptree.Proofs.CFinal2
import Gobptree.Proofs.CClean

namespace Gobptree.Conc
open Gobptree Gobptree.Lin

variable {K V : Type}

theorem reachable_lininv (lt : K → K → Bool) (P : Params K) (tree : Tree K V) (progs : List (List (COp K V)))
    (hkp : KParams lt P) (ht : TreeOk none tree) (hord : OrdTree lt tree) (hsep : SepTree lt tree)
    (ho : tree.order = P.order) (hp : PadOk P) (hd : Disciplined progs)
    (hdel : 4 ≤ tree.order ∨ NoDelete progs)
    (c : Config K V) (hr : Reachable (Config.init P tree progs) c) :
    ∃ h, LinInv lt tree.abs c h :=
  reachable_lininv_of lt P tree progs (fun c hr =>
    have hk := reachable_kfinv' lt P tree progs hkp ht hord hsep ho hp hd hdel c hr
    ⟨hk.cinv, fun t => stepEff_full kblocks_ok lt c t hk⟩) hr

theorem reachable_abs_is_replay (lt : K → K → Bool) (P : Params K) (tree : Tree K V) (progs : List (List (COp K V)))
    (hkp : KParams lt P) (ht : TreeOk none tree) (hord : OrdTree lt tree) (hsep : SepTree lt tree)
    (ho : tree.order = P.order) (hp : PadOk P) (hd : Disciplined progs)
    (hdel : 4 ≤ tree.order ∨ NoDelete progs)
    (c : Config K V) (hr : Reachable (Config.init P tree progs) c) :
    ∃ h, PointsWF h ∧ PointsSpec lt tree.abs h ∧ visible h = history c ∧
      c.tree.abs = (Spec.run lt tree.abs ((linOrder h).map (·.2.2))).1 := by
  obtain ⟨h, hl⟩ := reachable_lininv lt P tree progs hkp ht hord hsep ho hp hd hdel c hr
  exact ⟨h, hl.pts.wf, hl.pts.spec, hl.vis, hl.pts.replay_map.symm⟩

def HistFrom (progs : List (List (COp K V))) (h : List (HEv K V)) : Prop :=
  ∀ t i op, HEv.inv t i op ∈ h → ∃ p cop, progs[t]? = some p ∧ p[i]? = some cop ∧ opOf cop = some op

theorem progOf_reachable (P : Params K) (tree : Tree K V) (progs : List (List (COp K V)))
    (c : Config K V) (hr : Reachable (Config.init P tree progs) c) (t : Nat) :
    progOf c t = (progs[t]?).getD [] := by
  unfold progOf
  rw [← reachable_progs P tree progs c hr, List.getElem?_map]

theorem histFrom_of_lininv {lt : K → K → Bool} {init : List (K × V)} (P : Params K) (tree : Tree K V)
    (progs : List (List (COp K V))) (c : Config K V) (hr : Reachable (Config.init P tree progs) c)
    {h : List (HEv K V)} (hl : LinInv lt init c h) : HistFrom progs h := by
  intro t i op hm
  have hv : HEv.inv t i op ∈ history c := by
    rw [← hl.vis]; exact mem_visible.2 ⟨hm, rfl⟩
  obtain ⟨cop, hc, ho⟩ := Option.bind_eq_some_iff.1 (mem_hx_inv.1 (show HEv.inv t i op ∈ (hx (progOf c) c.log).evs from hv)).2
  rw [progOf_reachable P tree progs c hr t] at hc
  cases hp : progs[t]? with
  | none => rw [hp] at hc; simp at hc
  | some p => rw [hp] at hc; exact ⟨p, cop, rfl, hc, ho⟩

theorem reachable_points (lt : K → K → Bool) (P : Params K) (tree : Tree K V) (progs : List (List (COp K V)))
    (hkp : KParams lt P) (ht : TreeOk none tree) (hord : OrdTree lt tree) (hsep : SepTree lt tree)
    (ho : tree.order = P.order) (hp : PadOk P) (hd : Disciplined progs)
    (hdel : 4 ≤ tree.order ∨ NoDelete progs)
    (c : Config K V) (hr : Reachable (Config.init P tree progs) c) :
    ∃ h, LinInv lt tree.abs c h ∧ HistFrom progs h := by
  obtain ⟨h, hl⟩ := reachable_lininv lt P tree progs hkp ht hord hsep ho hp hd hdel c hr
  exact ⟨h, hl, histFrom_of_lininv P tree progs c hr hl⟩

/-- Naming: predicates on CLIENT calls (`COp`) are `isInc`, `COpOk`, `cWrites`, `cPuts`; their
    counterparts on SPECIFICATION operations (`Op`) are `isIncOp`, `OpOk`, `writesKey`, `putsKey`
    (`SpecLookup.lean`); `isInc_eq`, `cWrites_eq`, `cPuts_eq` link the two through `opOf`. -/
def isInc (lt : K → K → Bool) (k : K) : COp K Nat → Bool
  | .upd k' _ _ => eqv lt k' k
  | _ => false

/-- the call respects the counter at `k`: an Insert or Delete is on another key, an Update on
    a key equivalent to `k` has the increment as its callback (with or without a yield inside
    the callback); Search, cursor calls, pauses, and everything on other keys are free -/
def COpOk (lt : K → K → Bool) (k : K) : COp K Nat → Prop
  | .ins k' _ => eqv lt k' k = false
  | .del k' => eqv lt k' k = false
  | .upd k' f _ => eqv lt k' k = true → f = incr
  | _ => True

def CounterProgs (lt : K → K → Bool) (k : K) (progs : List (List (COp K Nat))) : Prop :=
  ∀ p ∈ progs, ∀ cop ∈ p, COpOk lt k cop

def incTotal (lt : K → K → Bool) (k : K) (progs : List (List (COp K Nat))) : Nat :=
  progs.flatten.countP (isInc lt k)

theorem opOk_of_copOk {lt : K → K → Bool} {k : K} {cop : COp K Nat} {op : Op K Nat}
    (h : COpOk lt k cop) (ho : opOf cop = some op) : OpOk lt k op := by
  cases cop <;> cases ho <;> exact h

theorem isInc_eq (lt : K → K → Bool) (k : K) (cop : COp K Nat) :
    isInc lt k cop = (opOf cop).any (isIncOp lt k) := by
  cases cop <;> rfl

def linIncs (lt : K → K → Bool) (k : K) (h : List (HEv K Nat)) : Nat :=
  ((linOrder h).map (·.2.2)).countP (isIncOp lt k)

section Points

variable {lt : K → K → Bool} {k : K} {progs : List (List (COp K Nat))} {h : List (HEv K Nat)}

theorem lin_entry_prog (hfrom : HistFrom progs h) {x : Nat × Nat × Op K Nat} (hx : x ∈ linOrder h) :
    ∃ p cop, progs[x.1]? = some p ∧ p[x.2.1]? = some cop ∧ opOf cop = some x.2.2 :=
  hfrom _ _ _ (linOrder_inv hx)

theorem counter_of_points (hswo : SWO lt) (init : List (K × Nat)) (hfrom : HistFrom progs h)
    (hk : CounterProgs lt k progs) :
    Spec.lookup lt (replay lt init h).1 k = bump (linIncs lt k h) (Spec.lookup lt init k) := by
  unfold replay linIncs
  apply run_lookup_counter hswo k
  intro op hop
  obtain ⟨x, hx, rfl⟩ := List.mem_map.1 hop
  obtain ⟨p, cop, hp, hc, ho⟩ := lin_entry_prog hfrom hx
  exact opOk_of_copOk (hk p (List.mem_of_getElem? hp) cop (List.mem_of_getElem? hc)) ho

def linIncNames (lt : K → K → Bool) (k : K) (h : List (HEv K Nat)) : List (Nat × Nat) :=
  ((linOrder h).filter (fun x => isIncOp lt k x.2.2)).map (fun x => (x.1, x.2.1))

theorem linIncs_eq_length : linIncs lt k h = (linIncNames lt k h).length := by
  unfold linIncs linIncNames
  rw [List.countP_map, List.length_map, List.countP_eq_length_filter]
  rfl

theorem linOrder_names_nodup {h : List (HEv K V)} (hwf : PointsWF h) :
    ((linOrder h).map (fun x => (x.1, x.2.1))).Nodup := by
  unfold linOrder
  rw [List.map_filterMap]
  apply nodup_filterMap_of_inj
  intro I J a b y hI hJ ha hb
  obtain ⟨x, hx, rfl⟩ := Option.map_eq_some_iff.1 ha
  obtain ⟨x', hx', hxx⟩ := Option.map_eq_some_iff.1 hb
  rw [(linF_eq_some hx).1] at hI
  rw [(linF_eq_some hx').1, (Prod.mk.inj hxx).1, (Prod.mk.inj hxx).2] at hJ
  exact hwf.lin_unique I J _ _ hI hJ

theorem linIncNames_nodup (hwf : PointsWF h) : (linIncNames lt k h).Nodup :=
  List.Nodup.sublist (List.Sublist.map _ List.filter_sublist) (linOrder_names_nodup hwf)

theorem mem_linIncNames {x : Nat × Nat} :
    x ∈ linIncNames lt k h ↔ ∃ op, (x.1, x.2, op) ∈ linOrder h ∧ isIncOp lt k op = true := by
  unfold linIncNames
  rw [List.mem_map]
  constructor
  · rintro ⟨y, hy, rfl⟩
    rw [List.mem_filter] at hy
    exact ⟨y.2.2, hy.1, hy.2⟩
  · rintro ⟨op, h1, h2⟩
    exact ⟨(x.1, x.2, op), List.mem_filter.2 ⟨h1, h2⟩, rfl⟩

end Points

def isIncAt (lt : K → K → Bool) (k : K) (progs : List (List (COp K Nat))) (t i : Nat) : Bool :=
  match (progs[t]?).bind (·[i]?) with
  | some cop => isInc lt k cop
  | none => false

def retIncP (lt : K → K → Bool) (k : K) (progs : List (List (COp K Nat))) : HEv K Nat → Bool
  | .ret t i _ => isIncAt lt k progs t i
  | _ => false

def invIncP (lt : K → K → Bool) (k : K) : HEv K Nat → Bool
  | .inv _ _ op => isIncOp lt k op
  | _ => false

def retIncs (lt : K → K → Bool) (k : K) (progs : List (List (COp K Nat))) (H : List (HEv K Nat)) : Nat :=
  H.countP (retIncP lt k progs)

def invIncs (lt : K → K → Bool) (k : K) (H : List (HEv K Nat)) : Nat :=
  H.countP (invIncP lt k)

section Moment

variable {lt : K → K → Bool} {k : K} {progs : List (List (COp K Nat))} {h : List (HEv K Nat)}

/-- `retF` / `invF`: the name `(t, i)` of a response / an invocation of an increment, as a
    `filterMap` selector (so that the counts `retIncs`, `invIncs` are lengths of duplicate-free lists) -/
def retF (lt : K → K → Bool) (k : K) (progs : List (List (COp K Nat))) : HEv K Nat → Option (Nat × Nat)
  | .ret t i _ => if isIncAt lt k progs t i then some (t, i) else none
  | _ => none

def invF (lt : K → K → Bool) (k : K) : HEv K Nat → Option (Nat × Nat)
  | .inv t i op => if isIncOp lt k op then some (t, i) else none
  | _ => none

theorem retF_some {e : HEv K Nat} {y : Nat × Nat} (he : retF lt k progs e = some y) :
    ∃ out, e = HEv.ret y.1 y.2 out ∧ isIncAt lt k progs y.1 y.2 = true := by
  cases e with
  | inv t i op => simp [retF] at he
  | lin t i => simp [retF] at he
  | ret t i out =>
    simp only [retF] at he
    split at he
    · cases he; exact ⟨out, rfl, ‹_›⟩
    · cases he

theorem invF_some {e : HEv K Nat} {y : Nat × Nat} (he : invF lt k e = some y) :
    ∃ op, e = HEv.inv y.1 y.2 op ∧ isIncOp lt k op = true := by
  cases e with
  | ret t i out => simp [invF] at he
  | lin t i => simp [invF] at he
  | inv t i op =>
    simp only [invF] at he
    split at he
    · cases he; exact ⟨op, rfl, ‹_›⟩
    · cases he

theorem retIncs_visible : retIncs lt k progs (visible h) = ((h.filterMap (retF lt k progs)).length) := by
  unfold retIncs visible
  rw [List.countP_filter, List.length_filterMap_eq_countP]
  apply List.countP_congr
  intro e _
  cases e with
  | inv t i op => simp [retIncP, retF]
  | lin t i => simp [retIncP, retF]
  | ret t i out =>
    simp only [retIncP, retF, HEv.isLin]
    cases isIncAt lt k progs t i <;> simp

theorem invIncs_visible : invIncs lt k (visible h) = ((h.filterMap (invF lt k)).length) := by
  unfold invIncs visible
  rw [List.countP_filter, List.length_filterMap_eq_countP]
  apply List.countP_congr
  intro e _
  cases e with
  | ret t i out => simp [invIncP, invF]
  | lin t i => simp [invIncP, invF]
  | inv t i op =>
    simp only [invIncP, invF, HEv.isLin]
    cases isIncOp lt k op <;> simp

theorem isIncAt_of {t i : Nat} {p : List (COp K Nat)} {cop : COp K Nat} (hp : progs[t]? = some p)
    (hc : p[i]? = some cop) : isIncAt lt k progs t i = isInc lt k cop := by
  unfold isIncAt
  rw [hp]
  simp only [Option.bind_some, hc]

theorem incs_bounds (hwf : PointsWF h) (hfrom : HistFrom progs h) :
    retIncs lt k progs (visible h) ≤ linIncs lt k h ∧ linIncs lt k h ≤ invIncs lt k (visible h) ∧
      invIncs lt k (visible h) ≤ incTotal lt k progs := by
  rw [retIncs_visible, invIncs_visible, linIncs_eq_length]
  refine ⟨?_, ?_, ?_⟩
  · apply List.Nodup.length_le_of_subset
    · apply nodup_filterMap_of_inj
      intro I J a b y hI hJ ha hb
      obtain ⟨o, rfl, _⟩ := retF_some ha
      obtain ⟨o', rfl, _⟩ := retF_some hb
      exact hwf.ret_unique I J _ _ _ _ hI hJ
    · intro x hx
      obtain ⟨e, he, hf⟩ := List.mem_filterMap.1 hx
      obtain ⟨out, rfl, hinc⟩ := retF_some hf
      obtain ⟨op', hop'⟩ := linOrder_of_lin hwf (lin_of_ret hwf he)
      obtain ⟨p, cop, hp, hc, ho⟩ := lin_entry_prog hfrom hop'
      simp only at hp hc ho
      refine mem_linIncNames.2 ⟨op', hop', ?_⟩
      rw [isIncAt_of hp hc, isInc_eq, ho] at hinc
      exact hinc
  · apply (linIncNames_nodup hwf).length_le_of_subset
    intro x hx
    obtain ⟨op, h1, h2⟩ := mem_linIncNames.1 hx
    refine List.mem_filterMap.2 ⟨HEv.inv x.1 x.2 op, linOrder_inv h1, ?_⟩
    simp only [invF, h2, if_true]
  · unfold incTotal
    rw [← selNames_length (isInc lt k) progs]
    apply List.Nodup.length_le_of_subset
    · apply nodup_filterMap_of_inj
      intro I J a b y hI hJ ha hb
      obtain ⟨o, rfl, _⟩ := invF_some ha
      obtain ⟨o', rfl, _⟩ := invF_some hb
      exact hwf.inv_unique I J _ _ _ _ hI hJ
    · intro x hx
      obtain ⟨e, he, hf⟩ := List.mem_filterMap.1 hx
      obtain ⟨op, rfl, hinc⟩ := invF_some hf
      obtain ⟨p, cop, hp, hc, ho⟩ := hfrom _ _ _ he
      refine (mem_selNames _ _ _).2 ⟨p, cop, hp, hc, ?_⟩
      rw [isInc_eq, ho]; exact hinc

end Moment

/-- **C05, the counter at every moment.**  In EVERY reachable configuration (threads in the
    middle of their operations, under every schedule) the value at `k` is the initial one
    bumped by a number `n` of increments — those that have taken effect — with
    `returned ≤ n ≤ invoked ≤ N`: every `Update k (+1)` that has returned is counted, none
    that has not been invoked is, and none is counted twice. -/
theorem counter_at_every_moment (lt : K → K → Bool) (P : Params K) (tree : Tree K Nat)
    (progs : List (List (COp K Nat)))
    (hkp : KParams lt P) (ht : TreeOk none tree) (hord : OrdTree lt tree) (hsep : SepTree lt tree)
    (ho : tree.order = P.order) (hp : PadOk P) (hd : Disciplined progs)
    (hdel : 4 ≤ tree.order ∨ NoDelete progs)
    (k : K) (hk : CounterProgs lt k progs)
    (c : Config K Nat) (hr : Reachable (Config.init P tree progs) c) :
    ∃ n, retIncs lt k progs (history c) ≤ n ∧ n ≤ invIncs lt k (history c) ∧
      invIncs lt k (history c) ≤ incTotal lt k progs ∧
      Spec.lookup lt c.tree.abs k = bump n (Spec.lookup lt tree.abs k) := by
  obtain ⟨h, hl, hfrom⟩ := reachable_points lt P tree progs hkp ht hord hsep ho hp hd hdel c hr
  obtain ⟨h1, h2, h3⟩ := incs_bounds (lt := lt) (k := k) hl.pts.wf hfrom
  rw [hl.vis] at h1 h2 h3
  refine ⟨linIncs lt k h, h1, h2, h3, ?_⟩
  rw [← hl.pts.replay_map]
  exact counter_of_points hkp.swo tree.abs hfrom hk

/-- at quiescence every increment of the programs has been invoked and has returned (so
    `counter_conc` is the instance `n = N` of `counter_at_every_moment`) -/
theorem finished_retIncs (lt : K → K → Bool) (P : Params K) (tree : Tree K Nat) (progs : List (List (COp K Nat)))
    (hkp : KParams lt P) (ht : TreeOk none tree) (hord : OrdTree lt tree) (hsep : SepTree lt tree)
    (ho : tree.order = P.order) (hp : PadOk P) (hd : Disciplined progs)
    (hdel : 4 ≤ tree.order ∨ NoDelete progs) (k : K)
    (c : Config K Nat) (hr : Reachable (Config.init P tree progs) c) (hu : c.unfinished = false) :
    retIncs lt k progs (history c) = incTotal lt k progs ∧ invIncs lt k (history c) = incTotal lt k progs := by
  obtain ⟨h, hl, hfrom⟩ := reachable_points lt P tree progs hkp ht hord hsep ho hp hd hdel c hr
  have hwf := hl.pts.wf
  obtain ⟨h1, h2, h3⟩ := incs_bounds (lt := lt) (k := k) hwf hfrom
  rw [hl.vis] at h1 h2 h3
  have hge : incTotal lt k progs ≤ retIncs lt k progs (history c) := by
    rw [← hl.vis, retIncs_visible]
    unfold incTotal
    rw [← selNames_length (isInc lt k) progs]
    apply (selNames_nodup _ _).length_le_of_subset
    intro x hx
    obtain ⟨p, a, hp', ha, hq⟩ := (mem_selNames _ _ _).1 hx
    obtain ⟨op, hop, _⟩ := (Option.any_eq_true _ _).1 ((isInc_eq lt k a).symm.trans hq)
    obtain ⟨out, hout⟩ := finished_all_returned P tree progs ht ho hp hd hdel c hr hu x.1 p x.2 a op hp' ha hop
    rw [← hl.vis] at hout
    refine List.mem_filterMap.2 ⟨HEv.ret x.1 x.2 out, (mem_visible.1 hout).1, ?_⟩
    simp only [retF, isIncAt_of hp' ha, hq, if_true]
  omega

/-- **C05, the concurrent counter corollary** (general form, `N = 0` included): in every reachable
    configuration in which all threads have finished the value at `k` is the initial one bumped by
    the number `N` of the increments of the programs: unchanged if `N = 0`, otherwise
    `some (base + N)`, absent counting as 0. -/
theorem counter_conc (lt : K → K → Bool) (P : Params K) (tree : Tree K Nat) (progs : List (List (COp K Nat)))
    (hkp : KParams lt P) (ht : TreeOk none tree) (hord : OrdTree lt tree) (hsep : SepTree lt tree)
    (ho : tree.order = P.order) (hp : PadOk P) (hd : Disciplined progs)
    (hdel : 4 ≤ tree.order ∨ NoDelete progs)
    (k : K) (hk : CounterProgs lt k progs)
    (c : Config K Nat) (hr : Reachable (Config.init P tree progs) c) (hu : c.unfinished = false) :
    Spec.lookup lt c.tree.abs k = bump (incTotal lt k progs) (Spec.lookup lt tree.abs k) := by
  obtain ⟨n, h1, h2, _, h4⟩ := counter_at_every_moment lt P tree progs hkp ht hord hsep ho hp hd hdel k hk c hr
  obtain ⟨e1, e2⟩ := finished_retIncs lt P tree progs hkp ht hord hsep ho hp hd hdel k c hr hu
  rw [h4, show n = incTotal lt k progs by omega]

/-- **C05: N concurrent Updates that each add one to a counter always raise it by exactly N**
    (`0 < N`), under every schedule, whatever else runs on other keys. -/
theorem C05_counter_conc (lt : K → K → Bool) (P : Params K) (tree : Tree K Nat) (progs : List (List (COp K Nat)))
    (hkp : KParams lt P) (ht : TreeOk none tree) (hord : OrdTree lt tree) (hsep : SepTree lt tree)
    (ho : tree.order = P.order) (hp : PadOk P) (hd : Disciplined progs)
    (hdel : 4 ≤ tree.order ∨ NoDelete progs)
    (k : K) (hk : CounterProgs lt k progs) (hN : 0 < incTotal lt k progs)
    (c : Config K Nat) (hr : Reachable (Config.init P tree progs) c) (hu : c.unfinished = false) :
    Spec.lookup lt c.tree.abs k = some ((Spec.lookup lt tree.abs k).getD 0 + incTotal lt k progs) := by
  rw [counter_conc lt P tree progs hkp ht hord hsep ho hp hd hdel k hk c hr hu, bump_pos hN]

theorem C05_counter_conc_zero (lt : K → K → Bool) (P : Params K) (tree : Tree K Nat) (progs : List (List (COp K Nat)))
    (hkp : KParams lt P) (ht : TreeOk none tree) (hord : OrdTree lt tree) (hsep : SepTree lt tree)
    (ho : tree.order = P.order) (hp : PadOk P) (hd : Disciplined progs)
    (hdel : 4 ≤ tree.order ∨ NoDelete progs)
    (k : K) (hk : CounterProgs lt k progs) (hN : incTotal lt k progs = 0)
    (c : Config K Nat) (hr : Reachable (Config.init P tree progs) c) (hu : c.unfinished = false) :
    Spec.lookup lt c.tree.abs k = Spec.lookup lt tree.abs k := by
  rw [counter_conc lt P tree progs hkp ht hord hsep ho hp hd hdel k hk c hr hu, hN]; rfl

/-- **C05, every maximal execution.**  For programs that close their cursors no side condition
    on the run is left: run ANY schedule from the start until nothing is enabled (that happens
    within `termBound` steps, `C06_every_execution_terminates`); the counter at `k` then holds
    the initial value plus the number of `Update k (+1)` calls of the programs. -/
theorem C05_counter_conc_maximal (lt : K → K → Bool) (P : Params K) (tree : Tree K Nat)
    (progs : List (List (COp K Nat)))
    (hkp : KParams lt P) (ht : TreeOk none tree) (hord : OrdTree lt tree) (hsep : SepTree lt tree)
    (ho : tree.order = P.order) (hp : PadOk P) (hcl : Closing progs)
    (hdel : 4 ≤ tree.order ∨ NoDelete progs)
    (k : K) (hk : CounterProgs lt k progs) (hN : 0 < incTotal lt k progs)
    (ts : List Nat) (c : Config K Nat) (hrun : (Config.init P tree progs).run ts = (c, none))
    (hstuck : c.enabledSet = []) :
    Spec.lookup lt c.tree.abs k = some ((Spec.lookup lt tree.abs k).getD 0 + incTotal lt k progs) :=
  C05_counter_conc lt P tree progs hkp ht hord hsep ho hp hcl.disciplined hdel k hk hN c
    (reachable_of_run _ ts _ c Reachable.refl hrun)
    (all_operations_return_closing P tree progs ht ho hp hcl hdel _ Reachable.refl ts c hrun hstuck)

/-- the hypotheses are satisfiable: the instance for a fresh tree (every even order ≥ 2) -/
theorem C05_counter_conc_fresh (lt : K → K → Bool) (P : Params K) (progs : List (List (COp K Nat)))
    (hkp : KParams lt P) (h2 : 2 ≤ P.order) (he : P.order % 2 = 0) (hp : PadOk P) (hd : Disciplined progs)
    (hdel : 4 ≤ P.order ∨ NoDelete progs)
    (k : K) (hk : CounterProgs lt k progs) (hN : 0 < incTotal lt k progs)
    (c : Config K Nat) (hr : Reachable (Config.init P (Tree.new P.order) progs) c) (hu : c.unfinished = false) :
    Spec.lookup lt c.tree.abs k = some (incTotal lt k progs) := by
  have := C05_counter_conc lt P (Tree.new P.order) progs hkp (new_treeOk P.order h2 he) (new_ordTree lt P.order)
    (new_sepTree lt P.order) rfl hp hd hdel k hk hN c hr hu
  rw [this]
  have habs : (Tree.new P.order : Tree K Nat).abs = [] := rfl
  rw [habs]
  simp [Spec.lookup]

namespace CounterExample

def ltN : Nat → Nat → Bool := fun a b => decide (a < b)
def PN : Params Nat := Params.mk ltN (fun _ => some 0) 4

/-- two threads, three increments of the counter at 7 (with and without a yield inside the
    callback), a Delete, an Insert and a Search alongside -/
def progs : List (List (COp Nat Nat)) :=
  [[.upd 7 incr false, .del 3, .upd 7 incr true], [.upd 7 incr true, .ins 3 5, .get 7]]

theorem three (c : Config Nat Nat) (hr : Reachable (Config.init PN (Tree.new 4) progs) c)
    (hu : c.unfinished = false) : Spec.lookup ltN c.tree.abs 7 = some 3 := by
  have hkp : KParams ltN PN := ⟨SWO.natLt, rfl⟩
  have hpad : PadOk PN := by intro k h; simp [PN] at h
  have hd : Disciplined progs := by
    intro p hp; simp [progs] at hp; rcases hp with rfl | rfl <;> rfl
  have hk : CounterProgs ltN 7 progs := by
    intro p hp cop hc
    simp [progs] at hp
    rcases hp with rfl | rfl <;> simp at hc <;> rcases hc with rfl | rfl | rfl <;>
      first | exact fun _ => rfl | exact rfl | trivial
  have hN : incTotal ltN 7 progs = 3 := rfl
  have := C05_counter_conc_fresh ltN PN progs hkp (by simp [PN]) (by simp [PN]) hpad hd (Or.inl (by simp [PN])) 7 hk
    (by rw [hN]; omega) c hr hu
  rw [hN] at this
  exact this

end CounterExample

end Gobptree.Conc

#print axioms Gobptree.Conc.reachable_lininv
#print axioms Gobptree.Conc.reachable_abs_is_replay
#print axioms Gobptree.Conc.finished_all_returned
#print axioms Gobptree.Conc.counter_conc
#print axioms Gobptree.Conc.C05_counter_conc
#print axioms Gobptree.Conc.C05_counter_conc_zero
#print axioms Gobptree.Conc.counter_at_every_moment
#print axioms Gobptree.Conc.finished_retIncs
#print axioms Gobptree.Conc.C05_counter_conc_maximal
#print axioms Gobptree.Conc.C05_counter_conc_fresh
#print axioms Gobptree.Conc.CounterExample.three
