/-
  Delete's continuations keep the structural invariant: `resume_post_D`.
-/
import Gobptree.Proofs.CSDelUnwind

namespace Gobptree.Conc
open Gobptree

variable {K V : Type}

theorem kontPre_of_del {cur : Option (Option Nat × Int)} {k : Kont K V} (hk : isDelK k = true)
    (h : cursorLocks cur = []) : KontPre cur k ∧ ∀ t : Tree K V, kontExtra t k = [] := by
  cases k <;> simp [isDelK] at hk <;> exact ⟨h, fun _ => rfl⟩

theorem closed_of_kontPre {cur : Option (Option Nat × Int)} {k : Kont K V} (hk : isDelK k = true)
    (h : KontPre cur k) : cursorLocks cur = [] := by
  cases k <;> simp [isDelK] at hk <;> exact h

theorem post_of_dpost {H : List Lk} {s s0 s' : St K V} {fl : Flow K V}
    (h0t : s0.tree = s.tree) (h0c : s0.cursor = s.cursor)
    (hcur : cursorLocks s.cursor = []) (htree : Lk.tree ∈ H)
    (h : DPost (keepOf H s.tree.nextId) s0 s' fl) : Post H (flowHole fl) s s' fl := by
  have hc' : cursorLocks s'.cursor = [] := by rw [h.cursor, h0c]; exact hcur
  have hf := h.frame
  have hn := h.nextId
  have ho := h.order
  rw [h0t] at hf hn ho
  refine ⟨h.nopanic, h.tree, hf, by rw [hn]; exact Nat.le_refl _,
    Or.inl htree, ho, ?_, cursorOk_of_noLocks _ _ _ hc'⟩
  intro p hp
  obtain ⟨l, k, rfl, hk, hko⟩ := h.kont p hp
  obtain ⟨h1, h2⟩ := kontPre_of_del (cur := s'.cursor) hk hc'
  refine ⟨hko, h1, ?_⟩
  intro x hx
  simp only [parkExtra, h2] at hx
  cases hx

theorem delChild_setup {H : List Lk} {s : St K V} {key : K} {frames : List Frame} {node index : Nat}
    {left : Option Nat} {child root : Nat}
    (hk : KontOk s.tree (.delChild key frames node index left child root))
    (hcov : Covers H s.cursor (.delChild key frames node index left child root : Kont K V)) :
    Lk.node root ∈ H ∧ root = s.tree.rootId ∧
      FramesOk s.tree root (⟨node, index, left, child⟩ :: frames) child ∧
      ∀ l ∈ framesHeld (⟨node, index, left, child⟩ :: frames), l ∈ H := by
  obtain ⟨hheld, hlock, _⟩ := hcov
  obtain ⟨hroot, hfr, hfrm⟩ := hk
  refine ⟨hheld _ (List.mem_cons_of_mem _ List.mem_cons_self), hroot, ⟨rfl, hfrm, hfr⟩, fun l hl => ?_⟩
  simp only [framesHeld, List.mem_append, List.mem_singleton] at hl
  rcases hl with hl | hl | hl
  · exact hheld _ (List.mem_cons_of_mem _ (List.mem_cons_of_mem _ (List.mem_append_left _ hl)))
  · exact hheld _ (List.mem_cons_of_mem _ (List.mem_cons_of_mem _ (List.mem_append_right _ hl)))
  · rw [hl]; exact hlock _ rfl

theorem delRight_setup {P : Params K} {H : List Lk} {s : St K V} {key : K} {rest : List Frame} {fr : Frame}
    {right root : Nat} (t : Nat) (h4 : 4 ≤ s.tree.order) (hpre : Pre P (some fr.child) s)
    (hk : KontOk s.tree (.delRight key rest fr right root))
    (hcov : Covers H s.cursor (.delRight key rest fr right root : Kont K V)) :
    Lk.node root ∈ H ∧ UInv P root (s.acq t (.node right)) (fr :: rest) true fr.child ∧
      (∀ l ∈ framesHeld (fr :: rest), l ∈ H) ∧
      s.tree.kidAt fr.node (fr.index + 1) = some right ∧ Lk.node right ∈ H := by
  obtain ⟨hheld, hlock, _⟩ := hcov
  obtain ⟨hroot, hfr, hr, hsm⟩ := hk
  exact ⟨hheld _ (List.mem_cons_of_mem _ List.mem_cons_self),
    ⟨by simpa using hpre.tree.prime h4, hpre.order, hroot, hfr, fun _ => hsm⟩,
    fun l hl => hheld _ (List.mem_cons_of_mem _ (List.mem_cons_of_mem _ hl)), hr, hlock _ rfl⟩

theorem resume_post_D (P : Params K) (t : Nat) (s : St K V) (k : Kont K V) (H : List Lk)
    (hd : isDelK k = true) (h4 : 4 ≤ s.tree.order)
    (hpre : Pre P (kontHole k) s) (hk : KontOk s.tree k) (hkp : KontPre s.cursor k)
    (hcov : Covers H s.cursor k) :
    Post H (flowHole (resume P t s k).2) s (resume P t s k).1 (resume P t s k).2 := by
  have hcur : cursorLocks s.cursor = [] := closed_of_kontPre hd hkp
  have hkeep : ∀ x, Lk.node x ∈ H → keepOf H s.tree.nextId x = false := fun x hx => keepOf_held H _ x hx
  obtain ⟨hheld, hlock, hcl⟩ := hcov
  cases k with
  | delTree key =>
    have htree : Lk.tree ∈ H := hlock _ rfl
    apply post_of_dpost (s := s) (s0 := s) rfl rfl hcur htree
    simp only [resume]
    refine ⟨by simp, hpre.tree, FrameEq.refl _ _, rfl, rfl, rfl, ?_⟩
    intro p hp
    cases hp
    exact ⟨_, _, rfl, rfl, rfl⟩
  | delRoot key r =>
    have htree : Lk.tree ∈ H := hheld _ List.mem_cons_self
    have hr : Lk.node r ∈ H := hlock _ rfl
    apply post_of_dpost (s := s) (s0 := s.acq t (.node r)) rfl rfl hcur htree
    simp only [resume]
    have hk' : r = s.tree.rootId := hk
    exact delGo_post P hpre.pad t key r H _ hkeep hr (s.acq t (.node r)) [] r hpre.tree h4 hpre.order hk' rfl
      (by intro l hl; cases hl)
  | delLeft key frames node index left root =>
    have htree : Lk.tree ∈ H := hheld _ List.mem_cons_self
    obtain ⟨hroot, hfr, hpos, hl, c, hc⟩ := hk
    obtain ⟨d, i, hf, _, kc, hkc, hkcid⟩ := inner_of_kidAt hc
    apply post_of_dpost (s := s) (s0 := s) rfl rfl hcur htree
    rw [resume_delLeft hf hkc]
    refine ⟨by simp, hpre.tree, FrameEq.refl _ _, rfl, rfl, rfl, ?_⟩
    intro p hp
    cases hp
    refine ⟨_, _, rfl, rfl, hroot, hfr, ?_, hpos, hl⟩
    show s.tree.kidAt node index = some (Node.id kc)
    rw [hkcid]; exact hc
  | delChild key frames node index left child root =>
    have htree : Lk.tree ∈ H := hheld _ List.mem_cons_self
    obtain ⟨hrootH, hroot, hfr, hH⟩ := delChild_setup hk ⟨hheld, hlock, hcl⟩
    apply post_of_dpost (s := s) (s0 := s.acq t (.node child)) rfl rfl hcur htree
    simp only [resume]
    exact delGo_post P hpre.pad t key root H _ hkeep hrootH (s.acq t (.node child)) _ child hpre.tree h4
      hpre.order hroot hfr hH
  | delRight key rest fr right root =>
    have htree : Lk.tree ∈ H := hheld _ List.mem_cons_self
    obtain ⟨hrootH, hinv, hH, hr, hrH⟩ := delRight_setup t h4 hpre hk ⟨hheld, hlock, hcl⟩
    apply post_of_dpost (s := s) (s0 := s.acq t (.node right)) rfl rfl hcur htree
    simp only [resume]
    exact (delUnwind_dpost P hpre.pad t key root H _ hkeep hrootH).2 (s.acq t (.node right)) rest fr right hinv hH hr hrH trivial
  | _ => exact (Bool.false_ne_true hd).elim

end Gobptree.Conc
