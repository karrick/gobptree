/-
  Node-level facts for the non-Delete blocks, phrased over the own fields (`shallow`):
  from `look`/`kidAt` to the node `find` returns, that `Leaf.upsert`, `Leaf.search`,
  `smallest` cannot panic on nodes that satisfy `NodeOcc`, and what this layer reads
  of a node seen as `(id, keys, entries, next)` (`etail`, `par_view`, `occ_view`, `shallow_halves`).
-/
import Gobptree.Proofs.LeafOps
import Gobptree.Proofs.Search
import Gobptree.Proofs.CSRank
import Gobptree.Proofs.CSFlat

namespace Gobptree.Conc
open Gobptree

variable {K V : Type}

def ftail : {d : Nat} → Node K V d → List (Nat × Shallow K V)
  | 0, _ => []
  | d + 1, (i : Inner K (Node K V d)) => i.kids.flatMap (flat (d := d))

theorem flat_eq_cons : ∀ {d : Nat} (n : Node K V d), flat n = (Node.id n, shallow n) :: ftail n
  | 0, _ => rfl
  | _ + 1, _ => rfl

theorem ftail_leaf (n : Node K V 0) : ftail n = [] := rfl

theorem count_eq : ∀ {d : Nat} (n : Node K V d), Node.count n = (shallow n).keys.length
  | 0, _ => rfl
  | _ + 1, _ => rfl

theorem any_leaf (a : AnyNode K V) (h : (shallow a.n).height = 0) :
    ∃ l : Leaf K V, a = ⟨0, l⟩ ∧ leafOf? a = some l := by
  obtain ⟨d, n⟩ := a
  rw [shallow_height] at h
  simp only at h
  subst h
  exact ⟨n, rfl, rfl⟩

theorem any_kid (a : AnyNode K V) (j c : Nat) (h : (shallow a.n).kids[j]? = some c) :
    ∃ (d : Nat) (p : Inner K (Node K V d)) (k : Node K V d),
      a = ⟨d + 1, p⟩ ∧ p.kids[j]? = some k ∧ Node.id k = c := by
  obtain ⟨d, n⟩ := a
  cases d with
  | zero =>
    have : (shallow (d := 0) n).kids = [] := rfl
    simp only at h
    rw [this] at h
    simp at h
  | succ d =>
    obtain ⟨k, hk, hc⟩ := (shallow_kids_getElem (n : Inner K (Node K V d)) j c).1 h
    exact ⟨d, n, k, rfl, hk, hc⟩

theorem leaf_of_look {t : Tree K V} {n : Nat} {sh : Shallow K V} (hl : t.look n = some sh) (h0 : sh.height = 0) :
    ∃ l : Leaf K V, t.find n = some ⟨0, l⟩ ∧ sh = shallow (d := 0) l ∧ l.id = n := by
  obtain ⟨a, hf, hsh, hid⟩ := find_some_of_look hl
  obtain ⟨l, rfl, _⟩ := any_leaf a (by rw [hsh]; exact h0)
  exact ⟨l, hf, hsh.symm, hid⟩

theorem inner_of_look {t : Tree K V} {n : Nat} {sh : Shallow K V} (hl : t.look n = some sh) (h : 0 < sh.height) :
    ∃ (d : Nat) (p : Inner K (Node K V d)), t.find n = some ⟨d + 1, p⟩ ∧ sh = shallow (d := d + 1) p ∧ p.id = n := by
  obtain ⟨⟨d, m⟩, hf, hsh, hid⟩ := find_some_of_look hl
  rw [← hsh, shallow_height] at h
  cases d with
  | zero => exact absurd h (Nat.lt_irrefl 0)
  | succ d => exact ⟨d, m, hf, hsh.symm, hid⟩

theorem kidAt_shallow {t : Tree K V} {n d : Nat} {p : Inner K (Node K V d)}
    (hl : t.look n = some (shallow (d := d + 1) p)) (j : Nat) : t.kidAt n j = (p.kids[j]?).map Node.id := by
  unfold Tree.kidAt
  rw [hl]
  exact List.getElem?_map

/-- The shape clauses of `NodeOcc`, without its bounds on the count: what the sibling operations of Delete
    keep while the counts move.  `NodeOcc.par` and `NodeOcc.of_par` are the passage between the two. -/
def Par (sh : Shallow K V) : Prop :=
  (sh.height = 0 → sh.keys.length = sh.vals.length ∧ sh.kids = []) ∧
  (0 < sh.height → sh.keys.length = sh.kids.length ∧ 1 ≤ sh.keys.length ∧ sh.next = none)

theorem NodeOcc.par {o m : Nat} {sh : Shallow K V} (h : NodeOcc o m sh) : Par sh := h.2.2

theorem NodeOcc.of_par {o m : Nat} {sh : Shallow K V} (h : Par sh) (h1 : sh.keys.length ≤ o)
    (h2 : m ≤ sh.keys.length) : NodeOcc o m sh := ⟨h1, h2, h⟩

theorem NodeOcc.of_count {o m d : Nat} {n : Node K V d} (h : Par (shallow n)) (h1 : Node.count n ≤ o)
    (h2 : m ≤ Node.count n) : NodeOcc o m (shallow n) := by
  rw [count_eq] at h1 h2
  exact ⟨h1, h2, h⟩

theorem par_leaf (l : Leaf K V) : Par (shallow (d := 0) l) ↔ l.keys.length = l.vals.length := by
  simp [Par, shallow]

theorem par_inner {d : Nat} (i : Inner K (Node K V d)) :
    Par (shallow (d := d + 1) i) ↔ i.runts.length = i.kids.length ∧ 1 ≤ i.runts.length := by
  simp [Par, shallow]

theorem descend_kid {o m d : Nat} (p : Inner K (Node K V d)) (hocc : NodeOcc o m (shallow (d := d + 1) p))
    (lt : K → K → Bool) (key : K) : ∃ c, p.kids[searchLE lt key p.runts]? = some c := by
  obtain ⟨hlen, hone⟩ := (par_inner p).1 hocc.par
  have hne : p.runts ≠ [] := fun e => by
    rw [e] at hone
    exact absurd hone (Nat.not_succ_le_zero 0)
  exact ⟨_, List.getElem?_eq_getElem (hlen ▸ searchLE_lt_length (lt := lt) key p.runts hne)⟩

theorem kidAt_inner {t : Tree K V} {n j c : Nat} (h : t.kidAt n j = some c) :
    ∃ (d : Nat) (p : Inner K (Node K V d)) (k : Node K V d), t.find n = some ⟨d + 1, p⟩ ∧
      t.look n = some (shallow (d := d + 1) p) ∧ p.id = n ∧ p.kids[j]? = some k ∧ Node.id k = c := by
  obtain ⟨sh, hl, hj⟩ := kidAt_look h
  obtain ⟨a, hf, hsh, hid⟩ := find_some_of_look hl
  obtain ⟨d, p, k, rfl, hk, hc⟩ := any_kid a j c (by rw [hsh]; exact hj)
  exact ⟨d, p, k, hf, by rw [hl, ← hsh], hid, hk, hc⟩

theorem mem_flat_of_find {t : Tree K V} {n d : Nat} {m : Node K V d} (hf : t.find n = some ⟨d, m⟩)
    {q : Nat × Shallow K V} (hq : q ∈ flat m) : q ∈ t.flat := by
  obtain ⟨_, L, R, hflat, _⟩ := Tree.find_modify hf
  rw [hflat]
  exact List.mem_append_left _ (List.mem_append_right _ hq)

theorem smallest_ok {d : Nat} (n : Node K V d) (h : 0 < (shallow n).keys.length) : ∃ k, Node.smallest n = .ok k := by
  rw [← count_eq, Node.count_eq_keys] at h
  obtain ⟨k, ks, hk⟩ := List.exists_cons_of_length_pos h
  exact ⟨k, Node.smallest_of_keys n k ks hk⟩

def etail : {d : Nat} → List (Ent K V d) → List (Nat × Shallow K V)
  | 0, _ => []
  | d + 1, (es : List (Node K V d)) => es.flatMap (flat (d := d))

theorem etail_append : ∀ {d : Nat} (a b : List (Ent K V d)), etail (a ++ b) = etail a ++ etail b
  | 0, _, _ => rfl
  | _ + 1, _, _ => List.flatMap_append

theorem ftail_view {d : Nat} (n : Node K V d) : ftail n = etail (Node.ents n) := by
  cases d <;> rfl

theorem par_view : ∀ {d : Nat} (n : Node K V d),
    Par (shallow n) ↔ (Node.keys n).length = (Node.ents n).length ∧ (d ≠ 0 → 1 ≤ (Node.keys n).length)
  | 0, l => (par_leaf l).trans ⟨fun h => ⟨h, fun h0 => absurd rfl h0⟩, fun h => h.1⟩
  | d + 1, i => (par_inner i).trans ⟨fun h => ⟨h.1, fun _ => h.2⟩, fun h => ⟨h.1, h.2 (Nat.succ_ne_zero d)⟩⟩

theorem occ_view {o m d : Nat} (n : Node K V d) : NodeOcc o m (shallow n) ↔
    (Node.keys n).length ≤ o ∧ m ≤ (Node.keys n).length ∧ (Node.keys n).length = (Node.ents n).length ∧
      (d ≠ 0 → 1 ≤ (Node.keys n).length) := by
  rw [show NodeOcc o m (shallow n) ↔ _ ∧ _ ∧ Par (shallow n) from Iff.rfl, par_view, ← count_eq, Node.count_eq_keys]

theorem shallow_halves (fresh h : Nat) {d : Nat} (n : Node K V d) :
    shallow (Node.put n ((Node.keys n).take h) ((Node.ents n).take h) (Node.splitNext d fresh)) =
      ⟨d, (shallow n).keys.take h, (shallow n).vals.take h, if d = 0 then some fresh else none,
        (shallow n).kids.take h⟩ ∧
    shallow (Node.make fresh ((Node.keys n).drop h) ((Node.ents n).drop h) (Node.nxt n)) =
      ⟨d, (shallow n).keys.drop h, (shallow n).vals.drop h, (shallow n).next, (shallow n).kids.drop h⟩ := by
  cases d with
  | zero => exact ⟨congrArg (Shallow.mk 0 _ _ _) List.take_nil.symm, congrArg (Shallow.mk 0 _ _ _) List.drop_nil.symm⟩
  | succ d =>
    obtain ⟨id, runts, kids⟩ := n
    refine ⟨?_, ?_⟩
    · show Shallow.mk (d + 1) (List.take h runts) [] none (List.map (Node.id (d := d)) (List.take h kids)) =
        Shallow.mk (d + 1) (List.take h runts) (List.take h []) none (List.take h (List.map (Node.id (d := d)) kids))
      rw [List.take_nil, List.map_take]
    · show Shallow.mk (d + 1) (List.drop h runts) [] none (List.map (Node.id (d := d)) (List.drop h kids)) =
        Shallow.mk (d + 1) (List.drop h runts) (List.drop h []) none (List.drop h (List.map (Node.id (d := d)) kids))
      rw [List.drop_nil, List.map_drop]

theorem Leaf.upsert_spec (P : Params K) (hpad : PadOk P) (l : Leaf K V) (key : K) (f : Option V → V)
    (hpar : l.keys.length = l.vals.length) :
    ∃ l' arg, Leaf.upsert P l key f = .ok (l', arg) ∧ l'.id = l.id ∧ l'.next = l.next ∧
      l'.keys.length = l'.vals.length ∧ l.keys.length ≤ l'.keys.length ∧ l'.keys.length ≤ l.keys.length + 1 := by
  obtain ⟨l', arg, h⟩ := Gobptree.Leaf.upsert_total P hpad l key f hpar
  obtain ⟨hid, hnext, n, hn, hk, hv⟩ := Gobptree.Leaf.upsert_lengths h
  exact ⟨l', arg, h, hid, hnext, by rw [hk, hv, hpar], by rw [hk]; exact Nat.le_add_right _ _,
    by rw [hk]; exact Nat.add_le_add_left hn _⟩

theorem Leaf.search_ok (P : Params K) (l : Leaf K V) (key : K) (hpar : l.keys.length = l.vals.length) :
    ∃ v, Leaf.search P l key = .ok v :=
  ⟨_, Gobptree.Leaf.search_eq P l key hpar⟩

end Gobptree.Conc
