/-
  The shape invariant `WF` (every clause of C08, plus the lower-bound clause
  that makes separators sound under the pre-emptive "lower the first
  separator" update) and the abstraction `pairs`.
-/
import Gobptree.Proofs.Order

namespace Gobptree

variable {K V : Type}

def leO (lt : K → K → Bool) (lo : Option K) (k : K) : Prop :=
  match lo with
  | none => True
  | some l => lt k l = false

def ltO (lt : K → K → Bool) (k : K) (hi : Option K) : Prop :=
  match hi with
  | none => True
  | some h => lt k h = true

/-- upper bound of the entry in front of `rest`: the next separator, or `hi` -/
def nextLo {C : Type} (hi : Option K) : List (K × C) → Option K
  | [] => hi
  | (k, _) :: _ => some k

/-- children with their separators: child `c` with separator `k` satisfies `R`
    between `k` and the next separator (or `hi`), separators strictly ascend -/
def Kids {C : Type} (lt : K → K → Bool) (R : Option K → Option K → C → Prop) (hi : Option K) :
    List (K × C) → Prop
  | [] => True
  | (k, c) :: rest => R (some k) (nextLo hi rest) c ∧ ltO lt k (nextLo hi rest) ∧ Kids lt R hi rest

/-- `WF lt o d m lo hi n`: node `n` of height `d` is well formed for order `o`,
    holds at least `m` entries, and all its keys lie in `[lo, hi)`. -/
def WF (lt : K → K → Bool) (o : Nat) : (d : Nat) → Nat → Option K → Option K → Node K V d → Prop
  | 0, m, lo, hi, (l : Leaf K V) =>
    Sorted lt l.keys ∧ l.keys.length = l.vals.length ∧ l.keys.length ≤ o ∧ m ≤ l.keys.length ∧
    (∀ k ∈ l.keys, leO lt lo k ∧ ltO lt k hi)
  | d + 1, m, lo, hi, (i : Inner K (Node K V d)) =>
    i.runts.length = i.kids.length ∧ i.runts.length ≤ o ∧ m ≤ i.runts.length ∧ 1 ≤ i.runts.length ∧
    (∀ k, i.runts.head? = some k → leO lt lo k) ∧
    Kids lt (fun a b c => WF lt o d (o / 2) a b c) hi (i.runts.zip i.kids)

abbrev RWF (lt : K → K → Bool) (o d : Nat) : Option K → Option K → Node K V d → Prop :=
  fun a b c => WF lt o d (o / 2) a b c

def Node.pairs : {d : Nat} → Node K V d → List (K × V)
  | 0, (l : Leaf K V) => l.keys.zip l.vals
  | d + 1, (i : Inner K (Node K V d)) => i.kids.flatMap (Node.pairs (d := d))

def rootMin : Nat → Nat
  | 0 => 0
  | _ + 1 => 2

def TreeWF (lt : K → K → Bool) (t : Tree K V) : Prop :=
  WF lt t.order t.depth (rootMin t.depth) none none t.root

def leafPairs (l : Leaf K V) : List (K × V) := l.keys.zip l.vals

theorem pairs_eq_leaves : ∀ {d : Nat} (n : Node K V d),
    Node.pairs n = (Node.leaves n).flatMap leafPairs := by
  intro d
  induction d with
  | zero => intro n; exact (List.append_nil _).symm
  | succ d ih =>
    intro n
    show (n : Inner K (Node K V d)).kids.flatMap (Node.pairs (d := d)) = _
    simp only [Node.leaves, List.flatMap_assoc]
    congr 1
    funext c
    exact ih c

theorem Tree.abs_eq_pairs (t : Tree K V) : t.abs = Node.pairs t.root :=
  (pairs_eq_leaves t.root).symm

end Gobptree
