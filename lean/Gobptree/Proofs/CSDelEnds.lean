/-
  The two ends of Delete's unwinding: the deletion in the leaf, and the root collapse.
-/
import Gobptree.Proofs.CSDelStep
import Gobptree.Proofs.ConcBlocks

namespace Gobptree.Conc
open Gobptree

variable {K V : Type}

theorem deleteKey_facts (P : Params K) (l : Leaf K V) (m : Nat) (key : K)
    (hpar : l.keys.length = l.vals.length) :
    ∃ l' small, Leaf.deleteKey P l m key = .ok (l', small) ∧ l'.id = l.id ∧ l'.next = l.next ∧
      l'.keys.length = l'.vals.length ∧
      ((l' = l ∧ small = false) ∨
       (l'.keys.length + 1 = l.keys.length ∧ small = decide (l'.keys.length < m))) := by
  obtain ⟨l', small, h⟩ := Leaf.deleteKey_total P l m key hpar
  obtain ⟨hid, hnext, ⟨rfl, rfl⟩ | ⟨hk, hv, hsm⟩⟩ := Leaf.deleteKey_lengths h
  · exact ⟨_, _, h, hid, hnext, hpar, .inl ⟨rfl, rfl⟩⟩
  · exact ⟨_, _, h, hid, hnext, Nat.succ.inj (hk.trans (hpar.trans hv.symm)), .inr ⟨hk, hsm⟩⟩

structure LeafOut (t : Tree K V) (n : Nat) (t' : Tree K V) (small : Bool) : Prop where
  ok : TreeOk' (if small then some n else none) t'
  root : t'.rootId = t.rootId
  order : t'.order = t.order
  nextId : t'.nextId = t.nextId
  small : small = true → isSmall t' n
  frame : ∀ keep : Nat → Bool, keep n = false → FrameEq keep t.flat t'.flat
  look : ∀ x, x ≠ n → t'.look x = t.look x

theorem leaf_step (P : Params K) {t : Tree K V} {n : Nat} {l : Leaf K V}
    (hok : TreeOk' none t) (hord : t.order = P.order) (hf : t.find n = some ⟨0, l⟩) (key : K) :
    ∃ l' small, Leaf.deleteKey P l (P.order >>> 1) key = .ok (l', small) ∧
      LeafOut t n (putLeaf t l') small := by
  obtain ⟨hid, hlook, _⟩ := find_facts hf
  have hidn : l.id = n := hid
  have occ := hok.occ (n, shallow (d := 0) l) (look_mem hlook)
  rw [minOf'_of_ne (hole := none) _ nofun] at occ
  obtain ⟨l', small, heval, hid', hnext, hpar', hcnt⟩ :=
    deleteKey_facts P l (P.order >>> 1) key ((par_leaf l).1 occ.par)
  refine ⟨l', small, heval, ?_⟩
  rw [shiftRight_one_eq, ← hord] at hcnt
  obtain ⟨hocc', hsm⟩ := shrink_occ (sh := shallow (d := 0) l) (sh' := shallow (d := 0) l') hok.order4 occ
    ((par_leaf l').2 hpar') rfl (hcnt.imp (fun h => ⟨h.2, by rw [h.1]⟩) id)
  have hf' : t.find l'.id = some ⟨0, l⟩ := by rw [hid', hidn]; exact hf
  obtain ⟨L, R, hfl, hfl', hroot, _, hnid, hord'⟩ := putLeaf_flat l' hf' hok.ids.1
  have hs := Rw.single (K := K) (V := V) n (shallow (d := 0) l) (shallow (d := 0) l') rfl (fun _ => hnext)
  have hfl0 : t.flat = L ++ [(n, shallow (d := 0) l)] ++ R := by
    rw [hfl, ← hidn]; rfl
  have hfl0' : (putLeaf t l').flat = L ++ [(n, shallow (d := 0) l')] ++ R := by
    rw [hfl', ← hidn, ← hid']; rfl
  have hrw := rw_tree hok.ids hfl0 hfl0' hs
  have hok' : TreeOk' (if small then some n else none) (putLeaf t l') :=
    treeOk_of_rw hok hrw hroot hord' hnid (fun e he => by rw [List.mem_singleton.1 he]; exact hocc')
      (by intro h hh; cases hh)
  refine ⟨hok', hroot, hord', hnid, ?_, ?_, ?_⟩
  · intro hs'
    have hm : (n, shallow (d := 0) l') ∈ (putLeaf t l').flat := by rw [hfl0']; simp
    refine ⟨_, mem_look hok'.ids hm, ?_⟩
    rw [hord']
    exact hsm hs'
  · intro keep hkn
    exact hrw.frameEq keep fun x hx => by rw [List.mem_singleton.1 hx]; exact hkn
  · intro x hxn
    exact look_of_rw hrw (by simpa using hxn)

theorem delFinish_tree (t : Nat) (s : St K V) (small : Bool) (rootWas : Nat) :
    (delFinish t s small rootWas).1.tree = finishTree s.tree small ∧
    (delFinish t s small rootWas).1.cursor = s.cursor ∧
    (delFinish t s small rootWas).2 = .done .ok := by
  rw [delFinish_eq]
  exact ⟨rfl, rfl, rfl⟩

theorem treeOk_of_root {t : Tree K V} {hole : Option Nat} (hok : TreeOk' hole t)
    (hh : ∀ c, hole = some c → c = t.rootId)
    (hr : hole = some t.rootId → minOf t.order t.rootId none t.rootId t.depth ≤ Node.count t.root) :
    TreeOk none t := by
  refine ⟨hok.ids, ?_, hok.chain, by have := hok.order4; omega, fun _ => hok.order4, hok.even⟩
  intro p hp
  have h0 := hok.occ p hp
  by_cases h1 : hole = some p.1
  · have hpr : p.1 = t.rootId := hh _ h1
    have hm : (t.rootId, shallow t.root) ∈ t.flat := self_mem_flat t.root
    have he : p = (t.rootId, shallow t.root) := eq_of_nodup_fst hok.ids.1 hp hm hpr
    rw [he]
    have hr' := hr (by rw [h1, hpr])
    rw [he] at h0
    refine NodeOcc.of_par h0.par h0.1 ?_
    simp only [shallow_height]
    rw [← count_eq]
    exact hr'
  · rw [minOf'_of_ne _ h1] at h0
    exact h0

theorem finishTree_cases_of_par (t : Tree K V) (small : Bool) (hpar : Par (shallow t.root)) :
    (finishTree t small = t ∧ (small = true → 1 < Node.count t.root ∨ t.depth = 0)) ∨
    (small = true ∧ ∃ (d : Nat) (r : Inner K (Node K V d)) (k : Node K V d) (o nid : Nat),
      t = ⟨o, d + 1, r, nid⟩ ∧ r.runts.length = 1 ∧ r.kids = [k] ∧ finishTree t small = ⟨o, d, k, nid⟩) := by
  cases small with
  | false => exact Or.inl ⟨by simp [finishTree], fun h => by cases h⟩
  | true =>
    by_cases hcnt : Node.count t.root > 1
    · exact Or.inl ⟨by simp [finishTree, hcnt], fun _ => Or.inl hcnt⟩
    · obtain ⟨o, d, r, nid⟩ := t
      cases d with
      | zero => exact Or.inl ⟨by simp [finishTree, hcnt, collapseRoot, pure, Except.pure], fun _ => Or.inr rfl⟩
      | succ d =>
        have hp := (par_inner (r : Inner K (Node K V d))).1 hpar
        have hc1 : (r : Inner K (Node K V d)).runts.length = 1 := by
          have : Node.count (d := d + 1) r = (r : Inner K (Node K V d)).runts.length := rfl
          simp only at hcnt
          omega
        obtain ⟨k, hk⟩ : ∃ k, (r : Inner K (Node K V d)).kids = [k] := by
          have hl : (r : Inner K (Node K V d)).kids.length = 1 := by omega
          match h : (r : Inner K (Node K V d)).kids, hl with
          | [k], _ => exact ⟨k, rfl⟩
        exact Or.inr ⟨rfl, d, r, k, o, nid, rfl, hc1, hk,
          by simp [finishTree, hcnt, collapseRoot, hk, pure, Except.pure]⟩

theorem finish_step {t : Tree K V} {small : Bool}
    (hok : TreeOk' (if small then some t.rootId else none) t) :
    TreeOk none (finishTree t small) ∧ (finishTree t small).order = t.order ∧
      (finishTree t small).nextId = t.nextId ∧
      ∀ keep : Nat → Bool, keep t.rootId = false → FrameEq keep t.flat (finishTree t small).flat := by
  rcases finishTree_cases_of_par t small (hok.occ _ (self_mem_flat t.root)).par with
    ⟨e, hwhy⟩ | ⟨rfl, d, r, k, o, nid, rfl, hc1, hk, e⟩
  · rw [e]
    refine ⟨treeOk_of_root hok (fun c hc => by cases small <;> simp at hc; exact hc.symm) fun hc => ?_, rfl, rfl,
      fun _ _ => FrameEq.refl _ _⟩
    have hs : small = true := by cases small <;> simp at hc ⊢
    rcases hwhy hs with h | h
    · exact Nat.le_trans minOf_root_le_two h
    · have : minOf t.order t.rootId none t.rootId t.depth = 0 := by rw [h]; simp [minOf]
      rw [this]
      exact Nat.zero_le _
  · simp only [if_true] at hok
    rw [e]
    have hrw : Rw [(r : Inner K (Node K V d)).id] [] (Tree.mk o (d + 1) r nid : Tree K V).flat
        (Tree.mk o d k nid : Tree K V).flat := by
      have hfl : (Tree.mk o (d + 1) r nid : Tree K V).flat =
          ((r : Inner K (Node K V d)).id, shallow (d := d + 1) r) :: flat k := by
        show flat (d := d + 1) r = _
        rw [flat_inner, hk]; simp
      have hnd := hok.ids.1
      unfold Tree.ids at hnd
      rw [hfl] at hnd ⊢
      exact Rw.move _ _ [] [] (flat k) [] (flat k) rfl (Nat.succ_ne_zero _) (.inl rfl) hnd
    have ho4 : 4 ≤ o := hok.order4
    refine ⟨⟨idsOk_of_rw hok.ids hrw rfl, ?_, hrw.chain_nil hok.chain, Nat.le_trans (by decide) ho4, fun _ => ho4, hok.even⟩,
      rfl, rfl, fun keep hk' => hrw.frameEq keep fun x hx => by rw [List.mem_singleton.1 hx]; exact hk'⟩
    intro p hp'
    rcases hrw.mem p hp' with h | ⟨hpm, hne⟩
    · cases h
    have hne : p.1 ≠ (r : Inner K (Node K V d)).id := by simpa using hne
    have h0 := hok.occ p hpm
    have hne' : some (Tree.mk o (d + 1) r nid : Tree K V).rootId ≠ some p.1 := fun e' => hne (Option.some.inj e').symm
    rw [minOf'_of_ne _ hne', minOf_none_nonroot (by exact hne)] at h0
    exact h0.mono (minOf_none_le_half ho4)

end Gobptree.Conc
