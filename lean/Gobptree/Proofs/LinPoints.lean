/-
  Linearizability from linearization points (generic, independent of the tree).

  A concurrent history is a chronological list of invocation and response events.  If it can
  be decorated with ghost `lin` events — one inside the interval of every returned operation —
  such that replaying the operations on the sequential specification in the order of their
  `lin` events reproduces every returned value, then the client-visible history is
  linearizable in the sense of Herlihy and Wing (`linearizable_of_points`).

  The second half gives an incremental interface (`Points`, `linState`) for an induction over
  the steps of a transition system that appends events.
-/
import Gobptree.Proofs.SpecLookup

namespace Gobptree.Lin

variable {K V : Type}

/-- events of a concurrent history, in chronological order; `(tid, idx)` names an operation:
    the `idx`-th operation of thread `tid` -/
inductive HEv (K V : Type) where
  | inv (tid idx : Nat) (op : Op K V)
  | ret (tid idx : Nat) (out : Out V)
  | lin (tid idx : Nat)            -- ghost: the operation takes effect here

def HEv.isLin : HEv K V → Bool
  | .lin _ _ => true
  | _ => false

def visible (h : List (HEv K V)) : List (HEv K V) :=
  h.filter (fun e => !e.isLin)

/-- an operation of a history: its name, what was invoked, positions (indices in the list) of
    its invocation and, if it has returned, of its response and the value returned -/
structure HOp (K V : Type) where
  tid : Nat
  idx : Nat
  op  : Op K V
  inv : Nat
  ret : Option (Nat × Out V)

def firstRet (h : List (HEv K V)) (t i : Nat) : Option (Nat × Out V) :=
  h.zipIdx.findSome? fun
    | (.ret t' i' out, p) => if t' = t ∧ i' = i then some (p, out) else none
    | _ => none

def opsOf (h : List (HEv K V)) : List (HOp K V) :=
  h.zipIdx.filterMap fun
    | (.inv t i op, p) => some ⟨t, i, op, p, firstRet h t i⟩
    | _ => none

def Before {α : Type} (l : List α) (a b : α) : Prop :=
  ∃ i j : Nat, i < j ∧ l[i]? = some a ∧ l[j]? = some b

/-- Herlihy–Wing: `ord` lists every completed operation and some of the pending ones, each
    at most once; it respects real time (if `a` returned before `b` was invoked then `a`
    comes first); and replaying it on the specification from `init` yields, for every
    completed operation, the value that was returned -/
structure IsLinearization (lt : K → K → Bool) (init : List (K × V)) (h : List (HEv K V))
    (ord : List (HOp K V)) : Prop where
  ops      : ∀ o ∈ ord, o ∈ opsOf h
  nodup    : ord.Nodup
  complete : ∀ o ∈ opsOf h, o.ret.isSome → o ∈ ord
  realtime : ∀ a ∈ ord, ∀ b ∈ ord, ∀ p out, a.ret = some (p, out) → p < b.inv → Before ord a b
  spec     : ∀ x ∈ List.zip ord (Spec.run lt init (ord.map (·.op))).2,
               ∀ p out, x.1.ret = some (p, out) → x.2 = out

def Linearizable (lt : K → K → Bool) (init : List (K × V)) (h : List (HEv K V)) : Prop :=
  ∃ ord, IsLinearization lt init h ord

/-- a decorated history is well formed: every name has at most one `inv`, one `lin`, one
    `ret`; a `lin` comes after its `inv`, a `ret` after its `lin` (so every returned operation
    has a linearization point inside its interval); thread-sequentiality is NOT required -/
structure PointsWF (h : List (HEv K V)) : Prop where
  inv_unique : ∀ (p q t i : Nat) (op op' : Op K V),
    h[p]? = some (HEv.inv t i op) → h[q]? = some (HEv.inv t i op') → p = q
  lin_unique : ∀ (p q t i : Nat),
    h[p]? = some (HEv.lin t i) → h[q]? = some (HEv.lin t i) → p = q
  ret_unique : ∀ (p q t i : Nat) (o o' : Out V),
    h[p]? = some (HEv.ret t i o) → h[q]? = some (HEv.ret t i o') → p = q
  lin_after_inv : ∀ (p t i : Nat),
    h[p]? = some (HEv.lin t i) → ∃ q op, q < p ∧ h[q]? = some (HEv.inv t i op)
  ret_after_lin : ∀ (p t i : Nat) (o : Out V),
    h[p]? = some (HEv.ret t i o) → ∃ q, q < p ∧ h[q]? = some (HEv.lin t i)

def invOp (h : List (HEv K V)) (t i : Nat) : Option (Op K V) :=
  h.findSome? fun
    | .inv t' i' op => if t' = t ∧ i' = i then some op else none
    | _ => none

def linF (h : List (HEv K V)) : HEv K V → Option (Nat × Nat × Op K V)
  | .lin t i => (invOp h t i).map fun op => (t, i, op)
  | _ => none

def linOrder (h : List (HEv K V)) : List (Nat × Nat × Op K V) :=
  h.filterMap (linF h)

def replay (lt : K → K → Bool) (init : List (K × V)) (h : List (HEv K V)) :
    List (K × V) × List (Out V) :=
  Spec.run lt init ((linOrder h).map (·.2.2))

def PointsSpec (lt : K → K → Bool) (init : List (K × V)) (h : List (HEv K V)) : Prop :=
  ∀ x ∈ List.zip (linOrder h) (replay lt init h).2,
    ∀ out, HEv.ret x.1.1 x.1.2.1 out ∈ h → out = x.2

/-- `Before` is the sublist relation `[a, b] <+ l`: what `filter`, `filterMap` and appending do to
    the order of events is then core's `Sublist` lemmas -/
theorem before_iff_sublist {α : Type} {l : List α} {a b : α} : Before l a b ↔ [a, b].Sublist l := by
  constructor
  · rintro ⟨i, j, hij, hi, hj⟩
    obtain ⟨hi', rfl⟩ := List.getElem?_eq_some_iff.1 hi
    obtain ⟨hj', rfl⟩ := List.getElem?_eq_some_iff.1 hj
    exact List.map_getElem_sublist (is := [⟨i, hi'⟩, ⟨j, hj'⟩]) (List.pairwise_pair.2 hij)
  · intro h
    obtain ⟨r₁, r₂, rfl, ha, hb⟩ := List.cons_sublist_iff.1 h
    obtain ⟨i, hi, hia⟩ := List.getElem_of_mem ha
    obtain ⟨j, hj, hjb⟩ := List.getElem_of_mem (List.singleton_sublist.1 hb)
    refine ⟨i, r₁.length + j, Nat.lt_add_right j hi, ?_, ?_⟩
    · rw [List.getElem?_append_left hi, List.getElem?_eq_getElem hi, hia]
    · rw [List.getElem?_append_right (Nat.le_add_right _ _), Nat.add_sub_cancel_left, List.getElem?_eq_getElem hj, hjb]

theorem Before.of_sublist {α : Type} {l l' : List α} {a b : α} (h : Before l a b) (hs : l.Sublist l') :
    Before l' a b :=
  before_iff_sublist.2 ((before_iff_sublist.1 h).trans hs)

theorem Before.filterMap {α β : Type} {f : α → Option β} {l : List α} {a b : α} {a' b' : β}
    (h : Before l a b) (ha : f a = some a') (hb : f b = some b') : Before (l.filterMap f) a' b' := by
  have := (before_iff_sublist.1 h).filterMap f
  rw [List.filterMap_cons_some ha, List.filterMap_cons_some hb] at this
  exact before_iff_sublist.2 this

theorem before_append {α : Type} {l₁ l₂ : List α} {a b : α} (ha : a ∈ l₁) (hb : b ∈ l₂) :
    Before (l₁ ++ l₂) a b :=
  before_iff_sublist.2 ((List.singleton_sublist.2 ha).append (List.singleton_sublist.2 hb))

theorem nodup_filterMap_of_inj {α β : Type} (f : α → Option β) (l : List α)
    (hinj : ∀ (I J : Nat) (a b : α) (y : β), l[I]? = some a → l[J]? = some b → f a = some y → f b = some y → I = J) :
    (l.filterMap f).Nodup := by
  rw [List.Nodup, List.pairwise_filterMap, List.pairwise_iff_getElem]
  intro i j hi hj hij y hy y' hy' e
  subst e
  exact Nat.ne_of_lt hij (hinj i j _ _ _ (List.getElem?_eq_getElem hi) (List.getElem?_eq_getElem hj) hy hy')

theorem filterMap_congr' {α β : Type} {f g : α → Option β} {l : List α}
    (hfg : ∀ x ∈ l, f x = g x) : l.filterMap f = l.filterMap g := by
  induction l with
  | nil => rfl
  | cons x xs ih =>
    have hx := hfg x (by simp)
    have := ih (fun y hy => hfg y (by simp [hy]))
    simp only [List.filterMap_cons, hx, this]

theorem mem_opsOf {h : List (HEv K V)} {o : HOp K V} :
    o ∈ opsOf h ↔
      h[o.inv]? = some (HEv.inv o.tid o.idx o.op) ∧ o.ret = firstRet h o.tid o.idx := by
  unfold opsOf
  rw [List.mem_filterMap]
  constructor
  · rintro ⟨⟨e, p⟩, hmem, hf⟩
    rw [List.mem_zipIdx_iff_getElem?] at hmem
    cases e <;> simp at hf
    subst hf
    exact ⟨hmem, rfl⟩
  · rintro ⟨h1, h2⟩
    refine ⟨(HEv.inv o.tid o.idx o.op, o.inv), ?_, ?_⟩
    · rw [List.mem_zipIdx_iff_getElem?]; exact h1
    · cases o; simp_all

theorem firstRet_some {h : List (HEv K V)} {t i p : Nat} {out : Out V}
    (hr : firstRet h t i = some (p, out)) : h[p]? = some (HEv.ret t i out) := by
  unfold firstRet at hr
  obtain ⟨⟨e, q⟩, hmem, hf⟩ := List.exists_of_findSome?_eq_some hr
  rw [List.mem_zipIdx_iff_getElem?] at hmem
  cases e <;> simp at hf
  obtain ⟨⟨rfl, rfl⟩, rfl, rfl⟩ := hf
  exact hmem

theorem firstRet_isSome {h : List (HEv K V)} {t i p : Nat} {out : Out V}
    (hr : h[p]? = some (HEv.ret t i out)) : (firstRet h t i).isSome := by
  unfold firstRet
  rw [List.findSome?_isSome_iff]
  refine ⟨(HEv.ret t i out, p), ?_, by simp⟩
  rw [List.mem_zipIdx_iff_getElem?]; exact hr

theorem invOp_some {h : List (HEv K V)} {t i : Nat} {op : Op K V}
    (hr : invOp h t i = some op) : ∃ p : Nat, h[p]? = some (HEv.inv t i op) := by
  unfold invOp at hr
  obtain ⟨e, hmem, hf⟩ := List.exists_of_findSome?_eq_some hr
  cases e <;> simp at hf
  obtain ⟨⟨rfl, rfl⟩, rfl⟩ := hf
  exact List.mem_iff_getElem?.1 hmem

theorem invOp_isSome {h : List (HEv K V)} {t i p : Nat} {op : Op K V}
    (hr : h[p]? = some (HEv.inv t i op)) : (invOp h t i).isSome := by
  unfold invOp
  rw [List.findSome?_isSome_iff]
  exact ⟨HEv.inv t i op, List.mem_of_getElem? hr, by simp⟩

theorem invOp_eq {h : List (HEv K V)} (hwf : PointsWF h) {t i p : Nat} {op : Op K V}
    (hr : h[p]? = some (HEv.inv t i op)) : invOp h t i = some op := by
  have h1 := invOp_isSome hr
  obtain ⟨op', h2⟩ := Option.isSome_iff_exists.1 h1
  obtain ⟨q, h3⟩ := invOp_some h2
  have := hwf.inv_unique p q t i op op' hr h3
  subst this
  rw [hr] at h3
  simp at h3
  rw [h2, h3]

theorem mem_visible {h : List (HEv K V)} {x : HEv K V} : x ∈ visible h ↔ x ∈ h ∧ x.isLin = false := by
  unfold visible
  rw [List.mem_filter]
  cases x.isLin <;> simp

theorem before_of_visible {h : List (HEv K V)} {a b : HEv K V} (hb : Before (visible h) a b) :
    ∃ A B : Nat, A < B ∧ h[A]? = some a ∧ h[B]? = some b :=
  hb.of_sublist List.filter_sublist

theorem PointsWF.lin_lt {h : List (HEv K V)} (hwf : PointsWF h) {A B L M t i t' i' : Nat} {out : Out V}
    {op : Op K V} (hAB : A < B) (hA : h[A]? = some (HEv.ret t' i' out)) (hB : h[B]? = some (HEv.inv t i op))
    (hM : h[M]? = some (HEv.lin t' i')) (hL : h[L]? = some (HEv.lin t i)) : M < L := by
  obtain ⟨q', hq', hql⟩ := hwf.ret_after_lin A _ _ _ hA
  have e1 := hwf.lin_unique q' M _ _ hql hM
  obtain ⟨q'', op'', hq'', hqi⟩ := hwf.lin_after_inv L _ _ hL
  have e2 := hwf.inv_unique q'' B _ _ _ _ hqi hB
  omega

theorem lin_of_ret {h : List (HEv K V)} (hwf : PointsWF h) {t i : Nat} {out : Out V}
    (hr : HEv.ret t i out ∈ h) : HEv.lin t i ∈ h := by
  obtain ⟨p, hp⟩ := List.mem_iff_getElem?.1 hr
  obtain ⟨q, _, hq⟩ := hwf.ret_after_lin p t i out hp
  exact List.mem_of_getElem? hq

theorem inv_of_lin {h : List (HEv K V)} (hwf : PointsWF h) {t i : Nat} (hl : HEv.lin t i ∈ h) :
    ∃ op, HEv.inv t i op ∈ h ∧ invOp h t i = some op := by
  obtain ⟨L, hL⟩ := List.mem_iff_getElem?.1 hl
  obtain ⟨q, op, _, hq⟩ := hwf.lin_after_inv L t i hL
  exact ⟨op, List.mem_of_getElem? hq, invOp_eq hwf hq⟩

theorem linF_eq_some {h : List (HEv K V)} {e : HEv K V} {x : Nat × Nat × Op K V} (he : linF h e = some x) :
    e = HEv.lin x.1 x.2.1 ∧ invOp h x.1 x.2.1 = some x.2.2 := by
  cases e with
  | inv t i op => cases he
  | ret t i out => cases he
  | lin t i =>
    obtain ⟨op, h1, rfl⟩ := Option.map_eq_some_iff.1 he
    exact ⟨rfl, h1⟩

theorem mem_linOrder' {h : List (HEv K V)} {x : Nat × Nat × Op K V} (hx : x ∈ linOrder h) :
    HEv.lin x.1 x.2.1 ∈ h ∧ invOp h x.1 x.2.1 = some x.2.2 := by
  obtain ⟨e, he, hf⟩ := List.mem_filterMap.1 hx
  obtain ⟨rfl, h1⟩ := linF_eq_some hf
  exact ⟨he, h1⟩

theorem linOrder_inv {h : List (HEv K V)} {x : Nat × Nat × Op K V} (hx : x ∈ linOrder h) :
    HEv.inv x.1 x.2.1 x.2.2 ∈ h := by
  obtain ⟨q, hq⟩ := invOp_some (mem_linOrder' hx).2
  exact List.mem_of_getElem? hq

theorem linOrder_of_lin {h : List (HEv K V)} (hwf : PointsWF h) {t i : Nat} (hl : HEv.lin t i ∈ h) :
    ∃ op, (t, i, op) ∈ linOrder h := by
  obtain ⟨op, _, hop⟩ := inv_of_lin hwf hl
  exact ⟨op, List.mem_filterMap.2 ⟨HEv.lin t i, hl, by simp [linF, hop]⟩⟩

theorem lin_split {h : List (HEv K V)} (hwf : PointsWF h) {t i : Nat} (hl : HEv.lin t i ∈ h) :
    ∃ (L : Nat) (op : Op K V) (pre post : List (Nat × Nat × Op K V)),
      h[L]? = some (HEv.lin t i) ∧ invOp h t i = some op ∧ linOrder h = pre ++ (t, i, op) :: post ∧
      (∀ x ∈ pre, ∃ M, M < L ∧ h[M]? = some (HEv.lin x.1 x.2.1) ∧ invOp h x.1 x.2.1 = some x.2.2) ∧
      (∀ x ∈ post, ∃ M, L < M ∧ h[M]? = some (HEv.lin x.1 x.2.1) ∧ invOp h x.1 x.2.1 = some x.2.2) := by
  obtain ⟨L, hL⟩ := List.mem_iff_getElem?.1 hl
  obtain ⟨op, _, hop⟩ := inv_of_lin hwf hl
  obtain ⟨hlt, hLe⟩ := List.getElem?_eq_some_iff.1 hL
  refine ⟨L, op, (h.take L).filterMap (linF h), (h.drop (L + 1)).filterMap (linF h), hL, hop, ?_, ?_, ?_⟩
  · have e2 : linF h (HEv.lin t i) = some (t, i, op) := by simp [linF, hop]
    rw [← List.filterMap_cons_some e2, ← hLe, ← List.filterMap_append, ← List.drop_eq_getElem_cons hlt,
      List.take_append_drop]
    rfl
  · intro x hx
    obtain ⟨e, he, hfe⟩ := List.mem_filterMap.1 hx
    obtain ⟨rfl, h2⟩ := linF_eq_some hfe
    obtain ⟨j, hj⟩ := List.mem_iff_getElem?.1 he
    rw [List.getElem?_take] at hj
    split at hj
    · exact ⟨j, ‹_›, hj, h2⟩
    · cases hj
  · intro x hx
    obtain ⟨e, he, hfe⟩ := List.mem_filterMap.1 hx
    obtain ⟨rfl, h2⟩ := linF_eq_some hfe
    obtain ⟨j, hj⟩ := List.mem_iff_getElem?.1 he
    rw [List.getElem?_drop] at hj
    exact ⟨L + 1 + j, Nat.lt_of_lt_of_le (Nat.lt_succ_self L) (Nat.le_add_right _ _), hj, h2⟩

theorem out_of_split {lt : K → K → Bool} {init : List (K × V)} {h : List (HEv K V)}
    (hsp : PointsSpec lt init h) {t i : Nat} {op : Op K V} {pre post : List (Nat × Nat × Op K V)}
    (hsplit : linOrder h = pre ++ (t, i, op) :: post) {out : Out V} (hret : HEv.ret t i out ∈ h) :
    out = (Spec.step lt (Spec.run lt init (pre.map (·.2.2))).1 op).2 := by
  apply hsp ((t, i, op), (Spec.step lt (Spec.run lt init (pre.map (·.2.2))).1 op).2) ?_ out hret
  apply List.mem_of_getElem? (i := pre.length)
  rw [List.getElem?_zip_eq_some]
  constructor
  · rw [hsplit, List.getElem?_append_right (Nat.le_refl _)]; simp
  · unfold replay
    rw [hsplit, List.map_append, List.map_cons]
    have := Conc.run_out_at lt init (pre.map (·.2.2)) (post.map (·.2.2)) op
    rw [List.length_map] at this
    exact this

def ordF (h : List (HEv K V)) : HEv K V → Option (HOp K V)
  | .lin t i => (opsOf (visible h)).find? (fun o => o.tid = t ∧ o.idx = i)
  | _ => none

def ordOf (h : List (HEv K V)) : List (HOp K V) := h.filterMap (ordF h)

theorem ordF_some {h : List (HEv K V)} {e : HEv K V} {o : HOp K V} (he : ordF h e = some o) :
    e = HEv.lin o.tid o.idx ∧ o ∈ opsOf (visible h) := by
  cases e <;> simp [ordF] at he
  have h1 := List.find?_some he
  have h2 := List.mem_of_find?_eq_some he
  simp at h1
  simp [h1, h2]

theorem visible_inv_unique {h : List (HEv K V)} (hwf : PointsWF h) {p q t i : Nat} {op op' : Op K V}
    (hp : (visible h)[p]? = some (HEv.inv t i op)) (hq : (visible h)[q]? = some (HEv.inv t i op')) : p = q := by
  have key : ∀ {p q : Nat} {op op' : Op K V}, (visible h)[p]? = some (HEv.inv t i op) →
      (visible h)[q]? = some (HEv.inv t i op') → ¬ p < q := by
    intro p q op op' hp hq hlt
    obtain ⟨A, B, hAB, hA, hB⟩ := before_of_visible ⟨p, q, hlt, hp, hq⟩
    exact Nat.ne_of_lt hAB (hwf.inv_unique A B t i op op' hA hB)
  exact Nat.le_antisymm (Nat.le_of_not_lt (key hq hp)) (Nat.le_of_not_lt (key hp hq))

theorem opsOf_name_inj {h : List (HEv K V)} (hwf : PointsWF h) {a b : HOp K V}
    (ha : a ∈ opsOf (visible h)) (hb : b ∈ opsOf (visible h))
    (ht : a.tid = b.tid) (hi : a.idx = b.idx) : a = b := by
  obtain ⟨ta, ia, opa, pa, ra⟩ := a
  obtain ⟨tb, ib, opb, pb, rb⟩ := b
  cases ht; cases hi
  obtain ⟨ha1, ha2⟩ := mem_opsOf.1 ha
  obtain ⟨hb1, hb2⟩ := mem_opsOf.1 hb
  dsimp only at ha1 ha2 hb1 hb2
  cases visible_inv_unique hwf ha1 hb1
  cases ha1.symm.trans hb1
  rw [ha2, hb2]

theorem ordF_lin {h : List (HEv K V)} (hwf : PointsWF h) {t i : Nat} (hl : HEv.lin t i ∈ h) :
    ∃ o, ordF h (HEv.lin t i) = some o ∧ o.tid = t ∧ o.idx = i ∧ invOp h t i = some o.op := by
  obtain ⟨op, hinv, hop⟩ := inv_of_lin hwf hl
  obtain ⟨p, hp⟩ := List.mem_iff_getElem?.1 (mem_visible.2 ⟨hinv, rfl⟩)
  have hmem : (⟨t, i, op, p, firstRet (visible h) t i⟩ : HOp K V) ∈ opsOf (visible h) :=
    mem_opsOf.2 ⟨hp, rfl⟩
  have hsome : ((opsOf (visible h)).find? (fun o => o.tid = t ∧ o.idx = i)).isSome := by
    rw [List.find?_isSome]
    exact ⟨_, hmem, by simp⟩
  obtain ⟨o, ho⟩ := Option.isSome_iff_exists.1 hsome
  have h1 := List.find?_some ho
  have h2 := List.mem_of_find?_eq_some ho
  simp at h1
  have := opsOf_name_inj hwf h2 hmem h1.1 h1.2
  subst this
  exact ⟨_, ho, rfl, rfl, hop⟩

theorem mem_ordOf {h : List (HEv K V)} {o : HOp K V} (ho : o ∈ ordOf h) :
    HEv.lin o.tid o.idx ∈ h ∧ ordF h (HEv.lin o.tid o.idx) = some o ∧ o ∈ opsOf (visible h) := by
  obtain ⟨e, he, hf⟩ := List.mem_filterMap.1 ho
  obtain ⟨rfl, h2⟩ := ordF_some hf
  exact ⟨he, hf, h2⟩

theorem ordOf_triples {h : List (HEv K V)} (hwf : PointsWF h) :
    (ordOf h).map (fun o => (o.tid, o.idx, o.op)) = linOrder h := by
  unfold ordOf linOrder
  rw [List.map_filterMap]
  apply filterMap_congr'
  intro e he
  cases e with
  | inv t i op => simp [ordF, linF]
  | ret t i out => simp [ordF, linF]
  | lin t i =>
    obtain ⟨o, h1, h2, h3, h4⟩ := ordF_lin hwf he
    simp [linF, h1, h4, h2, h3]

theorem ordOf_ops {h : List (HEv K V)} (hwf : PointsWF h) :
    (ordOf h).map (·.op) = (linOrder h).map (·.2.2) := by
  rw [← ordOf_triples hwf, List.map_map]
  rfl

theorem isLinearization_ordOf (lt : K → K → Bool) (init : List (K × V)) (h : List (HEv K V))
    (hwf : PointsWF h) (hsp : PointsSpec lt init h) :
    IsLinearization lt init (visible h) (ordOf h) where
  ops := fun o ho => (mem_ordOf ho).2.2
  nodup := by
    apply nodup_filterMap_of_inj
    intro I J a b y hI hJ ha hb
    rw [(ordF_some ha).1] at hI
    rw [(ordF_some hb).1] at hJ
    exact hwf.lin_unique I J _ _ hI hJ
  complete := by
    intro o ho hret
    obtain ⟨⟨p, out⟩, hpo⟩ := Option.isSome_iff_exists.1 hret
    have hv := List.mem_of_getElem? (firstRet_some ((mem_opsOf.1 ho).2.symm.trans hpo))
    have hl := lin_of_ret hwf (mem_visible.1 hv).1
    obtain ⟨o', h1, h2, h3, _⟩ := ordF_lin hwf hl
    cases opsOf_name_inj hwf (ordF_some h1).2 ho h2 h3
    exact List.mem_filterMap.2 ⟨_, hl, h1⟩
  realtime := by
    -- the response of `a` precedes the invocation of `b` in `visible h`, hence in `h`; there the
    -- point of `a` precedes that of `b` (`lin_lt`), and `filterMap` keeps their order
    intro a ha b hb p out hret hlt
    obtain ⟨hla, hfa, hao⟩ := mem_ordOf ha
    obtain ⟨hlb, hfb, hbo⟩ := mem_ordOf hb
    obtain ⟨La, hLa⟩ := List.mem_iff_getElem?.1 hla
    obtain ⟨Lb, hLb⟩ := List.mem_iff_getElem?.1 hlb
    have hra : firstRet (visible h) a.tid a.idx = some (p, out) := by
      rw [← (mem_opsOf.1 hao).2]; exact hret
    obtain ⟨A, B, hAB, hA, hB⟩ := before_of_visible ⟨p, b.inv, hlt, firstRet_some hra, (mem_opsOf.1 hbo).1⟩
    exact Before.filterMap ⟨La, Lb, hwf.lin_lt hAB hA hB hLa hLb, hLa, hLb⟩ hfa hfb
  spec := by
    intro x hx p out hret
    obtain ⟨a, y⟩ := x
    have hx' : ((a.tid, a.idx, a.op), y) ∈ List.zip (linOrder h) (replay lt init h).2 := by
      rw [← ordOf_triples hwf, List.zip_map_left, replay, ← ordOf_ops hwf]
      exact List.mem_map.2 ⟨(a, y), hx, rfl⟩
    have ha := (mem_ordOf (List.of_mem_zip hx).1).2.2
    have hra : firstRet (visible h) a.tid a.idx = some (p, out) := by
      rw [← (mem_opsOf.1 ha).2]; exact hret
    exact (hsp _ hx' out (mem_visible.1 (List.mem_of_getElem? (firstRet_some hra))).1).symm

theorem linearizable_of_points (lt : K → K → Bool) (init : List (K × V)) (h : List (HEv K V))
    (hwf : PointsWF h) (hsp : PointsSpec lt init h) : Linearizable lt init (visible h) :=
  ⟨ordOf h, isLinearization_ordOf lt init h hwf hsp⟩

theorem getElem?_snoc {α : Type} {l : List α} {a e : α} {p : Nat}
    (h : (l ++ [a])[p]? = some e) :
    (p < l.length ∧ l[p]? = some e) ∨ (p = l.length ∧ e = a) := by
  rcases Nat.lt_or_ge p l.length with hlt | hge
  · rw [List.getElem?_append_left hlt] at h; exact .inl ⟨hlt, h⟩
  · rw [List.getElem?_append_right hge] at h
    cases hk : p - l.length with
    | zero =>
      rw [hk] at h
      exact .inr ⟨Nat.le_antisymm (Nat.sub_eq_zero_iff_le.1 hk) hge, (Option.some.inj h).symm⟩
    | succ k => rw [hk] at h; cases h

theorem getElem?_snoc_of {α : Type} {l : List α} {a e : α} {p : Nat} (h : l[p]? = some e) :
    (l ++ [a])[p]? = some e := by
  rw [List.getElem?_append_left (List.getElem?_eq_some_iff.1 h).1, h]

theorem mem_getElem?_lt {α : Type} {l : List α} {e : α} (h : e ∈ l) :
    ∃ q, q < l.length ∧ l[q]? = some e := by
  obtain ⟨q, hq⟩ := List.mem_iff_getElem?.1 h
  exact ⟨q, (List.getElem?_eq_some_iff.1 hq).1, hq⟩

theorem PointsWF.nil : PointsWF ([] : List (HEv K V)) := by
  constructor <;> intros <;> simp_all

def NextOk (h : List (HEv K V)) : HEv K V → Prop
  | .inv t i _ => ∀ op', HEv.inv t i op' ∉ h
  | .lin t i => (∃ op, HEv.inv t i op ∈ h) ∧ HEv.lin t i ∉ h
  | .ret t i _ => HEv.lin t i ∈ h ∧ ∀ o, HEv.ret t i o ∉ h

theorem getElem?_snoc_unique {α : Type} {l : List α} {e a b : α} {p q : Nat}
    (hp : (l ++ [e])[p]? = some a) (hq : (l ++ [e])[q]? = some b)
    (hl : ∀ p q : Nat, l[p]? = some a → l[q]? = some b → p = q) (ha : a = e → b ∉ l) (hb : b = e → a ∉ l) : p = q := by
  rcases getElem?_snoc hp with ⟨_, hp'⟩ | ⟨rfl, hpe⟩ <;> rcases getElem?_snoc hq with ⟨_, hq'⟩ | ⟨rfl, hqe⟩
  · exact hl _ _ hp' hq'
  · exact absurd (List.mem_of_getElem? hp') (hb hqe)
  · exact absurd (List.mem_of_getElem? hq') (ha hpe)
  · rfl

theorem PointsWF.append {h : List (HEv K V)} (hwf : PointsWF h) {e : HEv K V} (he : NextOk h e) :
    PointsWF (h ++ [e]) where
  inv_unique := fun p q t' i' o o' hp hq =>
    getElem?_snoc_unique hp hq (fun p q => hwf.inv_unique p q t' i' o o')
      (fun e' => by subst e'; exact he _) (fun e' => by subst e'; exact he _)
  lin_unique := fun p q t' i' hp hq =>
    getElem?_snoc_unique hp hq (fun p q => hwf.lin_unique p q t' i')
      (fun e' => by subst e'; exact he.2) (fun e' => by subst e'; exact he.2)
  ret_unique := fun p q t' i' o o' hp hq =>
    getElem?_snoc_unique hp hq (fun p q => hwf.ret_unique p q t' i' o o')
      (fun e' => by subst e'; exact he.2 _) (fun e' => by subst e'; exact he.2 _)
  lin_after_inv := by
    intro p t' i' hp
    rcases getElem?_snoc hp with ⟨_, hp'⟩ | ⟨rfl, hpe⟩
    · obtain ⟨q, op', hq, hq'⟩ := hwf.lin_after_inv _ _ _ hp'
      exact ⟨q, op', hq, getElem?_snoc_of hq'⟩
    · subst hpe
      obtain ⟨op, hinv⟩ := he.1
      obtain ⟨q, hq, hq'⟩ := mem_getElem?_lt hinv
      exact ⟨q, op, hq, getElem?_snoc_of hq'⟩
  ret_after_lin := by
    intro p t' i' o hp
    rcases getElem?_snoc hp with ⟨_, hp'⟩ | ⟨rfl, hpe⟩
    · obtain ⟨q, hq, hq'⟩ := hwf.ret_after_lin _ _ _ _ hp'
      exact ⟨q, hq, getElem?_snoc_of hq'⟩
    · subst hpe
      obtain ⟨q, hq, hq'⟩ := mem_getElem?_lt he.1
      exact ⟨q, hq, getElem?_snoc_of hq'⟩

theorem invOp_append_of_some {h : List (HEv K V)} (e : HEv K V) {t i : Nat} {op : Op K V}
    (h1 : invOp h t i = some op) : invOp (h ++ [e]) t i = some op := by
  unfold invOp at *
  rw [List.findSome?_append, h1]
  rfl

theorem invOp_eq_none {h : List (HEv K V)} {t i : Nat} :
    invOp h t i = none ↔ ∀ op, HEv.inv t i op ∉ h := by
  unfold invOp
  rw [List.findSome?_eq_none_iff]
  constructor
  · intro hn op hmem
    have := hn _ hmem
    simp at this
  · intro hn e hmem
    cases e with
    | inv t' i' op =>
      by_cases hc : t' = t ∧ i' = i
      · obtain ⟨rfl, rfl⟩ := hc
        exact absurd hmem (hn op)
      · simp [hc]
    | ret t' i' out => rfl
    | lin t' i' => rfl

theorem linF_append {h : List (HEv K V)} (hwf : PointsWF h) (e : HEv K V) :
    ∀ x ∈ h, linF (h ++ [e]) x = linF h x := by
  intro x hx
  cases x with
  | inv t i op => rfl
  | ret t i out => rfl
  | lin t i =>
    obtain ⟨op, _, h1⟩ := inv_of_lin hwf hx
    simp [linF, h1, invOp_append_of_some e h1]

theorem linOrder_append_nonlin {h : List (HEv K V)} (hwf : PointsWF h) {e : HEv K V}
    (he : e.isLin = false) : linOrder (h ++ [e]) = linOrder h := by
  unfold linOrder
  rw [List.filterMap_append, filterMap_congr' (linF_append hwf e)]
  cases e <;> simp_all [linF, HEv.isLin]

theorem linOrder_append_lin {h : List (HEv K V)} (hwf : PointsWF h) {t i : Nat} {op : Op K V}
    (hop : invOp h t i = some op) :
    linOrder (h ++ [HEv.lin t i]) = linOrder h ++ [(t, i, op)] := by
  unfold linOrder
  rw [List.filterMap_append, filterMap_congr' (linF_append hwf _)]
  simp [linF, invOp_append_of_some _ hop]

theorem replay_append_nonlin (lt : K → K → Bool) (init : List (K × V)) {h : List (HEv K V)}
    (hwf : PointsWF h) {e : HEv K V} (he : e.isLin = false) :
    replay lt init (h ++ [e]) = replay lt init h := by
  unfold replay
  rw [linOrder_append_nonlin hwf he]

theorem replay_append_lin (lt : K → K → Bool) (init : List (K × V)) {h : List (HEv K V)}
    (hwf : PointsWF h) {t i : Nat} {op : Op K V} (hop : invOp h t i = some op) :
    replay lt init (h ++ [HEv.lin t i]) =
      ((Spec.step lt (replay lt init h).1 op).1,
        (replay lt init h).2 ++ [(Spec.step lt (replay lt init h).1 op).2]) := by
  unfold replay
  rw [linOrder_append_lin hwf hop, List.map_append, List.map_singleton, Conc.run_append]

theorem zip_append_lin (lt : K → K → Bool) (init : List (K × V)) {h : List (HEv K V)}
    (hwf : PointsWF h) {t i : Nat} {op : Op K V} (hop : invOp h t i = some op) :
    List.zip (linOrder (h ++ [HEv.lin t i])) (replay lt init (h ++ [HEv.lin t i])).2 =
      List.zip (linOrder h) (replay lt init h).2 ++
        [((t, i, op), (Spec.step lt (replay lt init h).1 op).2)] := by
  rw [replay_append_lin lt init hwf hop, linOrder_append_lin hwf hop, List.zip_append]
  · rfl
  · simp [replay, Conc.run_length]

inductive Status (K V : Type) where
  | fresh
  | invoked (op : Op K V)
  | linearized (op : Op K V) (out : Out V)  -- took effect; the specification answered `out`
  | returned

/-- the abstract map after the `lin` events so far, and the status of every name -/
structure LinState (K V : Type) where
  map : List (K × V)
  status : Nat → Nat → Status K V

def LinState.set (s : LinState K V) (m : List (K × V)) (t i : Nat) (st : Status K V) :
    LinState K V :=
  ⟨m, fun t' i' => if t' = t ∧ i' = i then st else s.status t' i'⟩

def LinState.step (lt : K → K → Bool) (s : LinState K V) : HEv K V → LinState K V
  | .inv t i op =>
    match s.status t i with
    | .fresh => s.set s.map t i (.invoked op)
    | _ => s
  | .lin t i =>
    match s.status t i with
    | .invoked op => s.set (Spec.step lt s.map op).1 t i (.linearized op (Spec.step lt s.map op).2)
    | _ => s
  | .ret t i _ =>
    match s.status t i with
    | .linearized _ _ => s.set s.map t i .returned
    | _ => s

def linState (lt : K → K → Bool) (init : List (K × V)) (h : List (HEv K V)) : LinState K V :=
  h.foldl (LinState.step lt) ⟨init, fun _ _ => .fresh⟩

@[simp] theorem linState_nil (lt : K → K → Bool) (init : List (K × V)) :
    linState lt init ([] : List (HEv K V)) = ⟨init, fun _ _ => .fresh⟩ := rfl

theorem linState_append (lt : K → K → Bool) (init : List (K × V)) (h : List (HEv K V))
    (e : HEv K V) : linState lt init (h ++ [e]) = (linState lt init h).step lt e := by
  simp [linState, List.foldl_append]

def StatusOk (lt : K → K → Bool) (init : List (K × V)) (h : List (HEv K V)) (t i : Nat) :
    Status K V → Prop
  | .fresh => ∀ op, HEv.inv t i op ∉ h
  | .invoked op => invOp h t i = some op ∧ HEv.lin t i ∉ h
  | .linearized _ out =>
      HEv.lin t i ∈ h ∧ (∀ o, HEv.ret t i o ∉ h) ∧
        ∀ x ∈ List.zip (linOrder h) (replay lt init h).2, x.1.1 = t → x.1.2.1 = i → x.2 = out
  | .returned => True

/-- `h` is a well-formed decorated history whose `lin` order replays correctly, `m` is the
    abstract map after its `lin` events, and `linState` describes it faithfully -/
structure Points (lt : K → K → Bool) (init : List (K × V)) (h : List (HEv K V))
    (m : List (K × V)) : Prop where
  wf : PointsWF h
  spec : PointsSpec lt init h
  replay_map : (replay lt init h).1 = m
  state_map : (linState lt init h).map = m
  status_ok : ∀ t i, StatusOk lt init h t i ((linState lt init h).status t i)

theorem Points.nil (lt : K → K → Bool) (init : List (K × V)) :
    Points lt init ([] : List (HEv K V)) init where
  wf := PointsWF.nil
  spec := by intro x hx; simp [linOrder] at hx
  replay_map := rfl
  state_map := rfl
  status_ok := by intro t i; simp [StatusOk]

theorem Points.linearizable {lt : K → K → Bool} {init : List (K × V)} {h : List (HEv K V)}
    {m : List (K × V)} (hp : Points lt init h m) : Linearizable lt init (visible h) :=
  linearizable_of_points lt init h hp.wf hp.spec

def HEv.name : HEv K V → Nat × Nat
  | .inv t i _ => (t, i)
  | .ret t i _ => (t, i)
  | .lin t i => (t, i)

theorem mem_snoc {α : Type} {l : List α} {e x : α} (hx : x ∈ l ++ [e]) : x ∈ l ∨ x = e :=
  (List.mem_append.1 hx).imp_right List.mem_singleton.1

theorem mem_snoc_name {h : List (HEv K V)} {e x : HEv K V} (hx : x ∈ h ++ [e]) (hne : e.name ≠ x.name) : x ∈ h :=
  (mem_snoc hx).resolve_right fun e' => hne (congrArg HEv.name e').symm

theorem linState_append_inv {lt : K → K → Bool} {init : List (K × V)} {h : List (HEv K V)}
    {t i : Nat} (op : Op K V) (hs : (linState lt init h).status t i = .fresh) :
    linState lt init (h ++ [HEv.inv t i op]) =
      (linState lt init h).set (linState lt init h).map t i (.invoked op) := by
  rw [linState_append]; simp [LinState.step, hs]

theorem linState_append_lin {lt : K → K → Bool} {init : List (K × V)} {h : List (HEv K V)}
    {t i : Nat} {op : Op K V} (hs : (linState lt init h).status t i = .invoked op) :
    linState lt init (h ++ [HEv.lin t i]) =
      (linState lt init h).set (Spec.step lt (linState lt init h).map op).1 t i
        (.linearized op (Spec.step lt (linState lt init h).map op).2) := by
  rw [linState_append]; simp [LinState.step, hs]

theorem linState_append_ret {lt : K → K → Bool} {init : List (K × V)} {h : List (HEv K V)}
    {t i : Nat} {op : Op K V} {out : Out V} (o : Out V)
    (hs : (linState lt init h).status t i = .linearized op out) :
    linState lt init (h ++ [HEv.ret t i o]) =
      (linState lt init h).set (linState lt init h).map t i .returned := by
  rw [linState_append]; simp [LinState.step, hs]

@[simp] theorem LinState.set_map (s : LinState K V) (m : List (K × V)) (t i : Nat)
    (st : Status K V) : (s.set m t i st).map = m := rfl

@[simp] theorem LinState.set_status_self (s : LinState K V) (m : List (K × V)) (t i : Nat)
    (st : Status K V) : (s.set m t i st).status t i = st := by
  simp [LinState.set]

theorem LinState.set_status_of_ne (s : LinState K V) (m : List (K × V)) {t i t' i' : Nat}
    (st : Status K V) (hne : ¬(t' = t ∧ i' = i)) :
    (s.set m t i st).status t' i' = s.status t' i' := by
  simp [LinState.set, hne]

theorem invOp_of_mem {h : List (HEv K V)} (hwf : PointsWF h) {t i : Nat} {op : Op K V}
    (hm : HEv.inv t i op ∈ h) : invOp h t i = some op := by
  obtain ⟨p, hp⟩ := List.mem_iff_getElem?.1 hm
  exact invOp_eq hwf hp

theorem zip_append_other (lt : K → K → Bool) (init : List (K × V)) {h : List (HEv K V)} (hwf : PointsWF h)
    {e : HEv K V} (hn : NextOk h e) {x : (Nat × Nat × Op K V) × Out V}
    (hx : x ∈ List.zip (linOrder (h ++ [e])) (replay lt init (h ++ [e])).2) (hne : e.name ≠ (x.1.1, x.1.2.1)) :
    x ∈ List.zip (linOrder h) (replay lt init h).2 := by
  cases e with
  | inv t i op => rwa [linOrder_append_nonlin hwf rfl, replay_append_nonlin lt init hwf rfl] at hx
  | ret t i o => rwa [linOrder_append_nonlin hwf rfl, replay_append_nonlin lt init hwf rfl] at hx
  | lin t i =>
    obtain ⟨op, hop⟩ := hn.1
    rw [zip_append_lin lt init hwf (invOp_of_mem hwf hop)] at hx
    rcases mem_snoc hx with h1 | rfl
    · exact h1
    · exact absurd rfl hne

theorem StatusOk.append {lt : K → K → Bool} {init : List (K × V)} {h : List (HEv K V)} (hwf : PointsWF h)
    {e : HEv K V} (hn : NextOk h e) {t' i' : Nat} (hne : e.name ≠ (t', i'))
    {st : Status K V} (hst : StatusOk lt init h t' i' st) : StatusOk lt init (h ++ [e]) t' i' st := by
  cases st with
  | fresh => exact fun op' hm => hst op' (mem_snoc_name hm hne)
  | invoked op' => exact ⟨invOp_append_of_some _ hst.1, fun hm => hst.2 (mem_snoc_name hm hne)⟩
  | linearized op' out =>
    refine ⟨List.mem_append_left _ hst.1, fun o hm => hst.2.1 o (mem_snoc_name hm hne), fun x hx h1 h2 => ?_⟩
    exact hst.2.2 x (zip_append_other lt init hwf hn hx (by rw [h1, h2]; exact hne)) h1 h2
  | returned => trivial

theorem Points.status_ok_append {lt : K → K → Bool} {init : List (K × V)} {h : List (HEv K V)}
    {m : List (K × V)} (hp : Points lt init h m) {e : HEv K V} (hn : NextOk h e) {m' : List (K × V)}
    {st : Status K V}
    (hst : linState lt init (h ++ [e]) = (linState lt init h).set m' e.name.1 e.name.2 st)
    (hown : StatusOk lt init (h ++ [e]) e.name.1 e.name.2 st) (t' i' : Nat) :
    StatusOk lt init (h ++ [e]) t' i' ((linState lt init (h ++ [e])).status t' i') := by
  rw [hst]
  by_cases hc : t' = e.name.1 ∧ i' = e.name.2
  · obtain ⟨rfl, rfl⟩ := hc
    rw [LinState.set_status_self]; exact hown
  · rw [LinState.set_status_of_ne _ _ _ hc]
    exact (hp.status_ok t' i').append hp.wf hn (fun e' => hc ⟨(Prod.mk.inj e').1.symm, (Prod.mk.inj e').2.symm⟩)

theorem points_append_inv {lt : K → K → Bool} {init : List (K × V)} {h : List (HEv K V)}
    {m : List (K × V)} (hp : Points lt init h m) {t i : Nat} (op : Op K V)
    (hs : (linState lt init h).status t i = .fresh) :
    Points lt init (h ++ [HEv.inv t i op]) m := by
  have hn : NextOk h (HEv.inv t i op) := by
    have := hp.status_ok t i; rw [hs] at this; exact this
  have hlo := linOrder_append_nonlin hp.wf (e := HEv.inv t i op) rfl
  have hrp := replay_append_nonlin lt init hp.wf (e := HEv.inv t i op) rfl
  have hst := linState_append_inv (lt := lt) (init := init) op hs
  refine ⟨hp.wf.append hn, ?_, ?_, ?_,
    hp.status_ok_append hn hst (show StatusOk lt init _ t i (.invoked op) from ⟨?_, ?_⟩)⟩
  · intro x hx out hmem
    rw [hlo, hrp] at hx
    exact hp.spec x hx out ((mem_snoc hmem).resolve_right (fun e => by cases e))
  · rw [hrp]; exact hp.replay_map
  · rw [hst]; exact hp.state_map
  · exact invOp_eq (hp.wf.append hn) List.getElem?_concat_length
  · intro hm
    rcases mem_snoc hm with h1 | h1
    · obtain ⟨op', h2, _⟩ := inv_of_lin hp.wf h1
      exact hn op' h2
    · cases h1

theorem points_append_lin {lt : K → K → Bool} {init : List (K × V)} {h : List (HEv K V)}
    {m : List (K × V)} (hp : Points lt init h m) {t i : Nat} {op : Op K V}
    (hs : (linState lt init h).status t i = .invoked op) :
    Points lt init (h ++ [HEv.lin t i]) (Spec.step lt m op).1 := by
  obtain ⟨hop, hnolin⟩ : invOp h t i = some op ∧ HEv.lin t i ∉ h := by
    have := hp.status_ok t i; rw [hs] at this; exact this
  have hinv : HEv.inv t i op ∈ h := by
    obtain ⟨q, hq⟩ := invOp_some hop
    exact List.mem_of_getElem? hq
  have hn : NextOk h (HEv.lin t i) := ⟨⟨op, hinv⟩, hnolin⟩
  have hnoret : ∀ o, HEv.ret t i o ∉ h := fun o hm => hnolin (lin_of_ret hp.wf hm)
  have hzip := zip_append_lin lt init hp.wf hop
  have hrp := replay_append_lin lt init hp.wf hop
  have hst := linState_append_lin hs
  refine ⟨hp.wf.append hn, ?_, ?_, ?_,
    hp.status_ok_append hn hst ⟨List.mem_append_right _ List.mem_cons_self, ?_, ?_⟩⟩
  · intro x hx out hmem
    have hmem' : HEv.ret x.1.1 x.1.2.1 out ∈ h := (mem_snoc hmem).resolve_right (fun e => by cases e)
    rw [hzip] at hx
    rcases mem_snoc hx with h1 | rfl
    · exact hp.spec x h1 out hmem'
    · exact absurd hmem' (hnoret out)
  · rw [hrp]; simp only; rw [hp.replay_map]
  · rw [hst]; simp only [LinState.set]; rw [hp.state_map]
  · exact fun o hm => (mem_snoc hm).elim (hnoret o) (fun e => by cases e)
  · rw [hzip]
    intro x hx h1 h2
    rcases mem_snoc hx with h3 | rfl
    · have := (mem_linOrder' (List.of_mem_zip h3).1).1
      rw [h1, h2] at this
      exact absurd this hnolin
    · simp only; rw [hp.replay_map, hp.state_map]

theorem points_append_ret {lt : K → K → Bool} {init : List (K × V)} {h : List (HEv K V)}
    {m : List (K × V)} (hp : Points lt init h m) {t i : Nat} {op : Op K V} {out : Out V}
    (hs : (linState lt init h).status t i = .linearized op out) :
    Points lt init (h ++ [HEv.ret t i out]) m := by
  obtain ⟨hlin, hnoret, hz⟩ := by
    have := hp.status_ok t i; rw [hs] at this; exact this
  have hn : NextOk h (HEv.ret t i out) := ⟨hlin, hnoret⟩
  have hlo := linOrder_append_nonlin hp.wf (e := HEv.ret t i out) rfl
  have hrp := replay_append_nonlin lt init hp.wf (e := HEv.ret t i out) rfl
  refine ⟨hp.wf.append hn, ?_, ?_, ?_, hp.status_ok_append hn (linState_append_ret out hs) trivial⟩
  · intro x hx out' hmem
    rw [hlo, hrp] at hx
    rcases mem_snoc hmem with h1 | h1
    · exact hp.spec x hx out' h1
    · obtain ⟨h2, h3, rfl⟩ := HEv.ret.inj h1
      exact (hz x hx h2 h3).symm
  · rw [hrp]; exact hp.replay_map
  · rw [linState_append_ret out hs]; exact hp.state_map

/-! ## Non-vacuity: an insert overlapping a search that sees it -/

namespace Example

def ltN : Nat → Nat → Bool := fun a b => decide (a < b)

def hist : List (HEv Nat Nat) :=
  [ .inv 0 0 (.insert 1 10),
    .inv 1 0 (.search 1),
    .lin 0 0,
    .lin 1 0,
    .ret 1 0 (.found (some 10)),
    .ret 0 0 .done ]

theorem hist_points : Points ltN [] hist [(1, 10)] := by
  have h0 := Points.nil ltN ([] : List (Nat × Nat))
  have h1 := points_append_inv h0 (t := 0) (i := 0) (.insert 1 10) rfl
  have h2 := points_append_inv h1 (t := 1) (i := 0) (.search 1) rfl
  have h3 := points_append_lin h2 (t := 0) (i := 0) (op := .insert 1 10) rfl
  have h4 := points_append_lin h3 (t := 1) (i := 0) (op := .search 1) rfl
  have h5 := points_append_ret h4 (t := 1) (i := 0) (op := .search 1)
    (out := .found (some 10)) rfl
  have h6 := points_append_ret h5 (t := 0) (i := 0) (op := .insert 1 10) (out := .done) rfl
  exact h6

example : Linearizable ltN [] (visible hist) := hist_points.linearizable

example : visible hist =
    [ .inv 0 0 (.insert 1 10), .inv 1 0 (.search 1),
      .ret 1 0 (.found (some 10)), .ret 0 0 .done ] := rfl

/-- the definition of linearizability does reject: a search on the empty map that returns a
    value has no linearization -/
def bad : List (HEv Nat Nat) := [ .inv 0 0 (.search 1), .ret 0 0 (.found (some 10)) ]

theorem opsOf_bad : opsOf bad = [⟨0, 0, .search 1, 0, some (1, .found (some 10))⟩] := rfl

example : ¬ Linearizable ltN [] bad := by
  rintro ⟨ord, hl⟩
  have hmem := hl.complete _ (by rw [opsOf_bad]; exact List.mem_singleton.2 rfl) rfl
  have hall : ∀ o ∈ ord, o = ⟨0, 0, .search 1, 0, some (1, .found (some 10))⟩ := by
    intro o ho
    have := hl.ops o ho
    rw [opsOf_bad] at this
    exact List.mem_singleton.1 this
  match ord, hl, hmem, hall with
  | [], _, hmem, _ => simp at hmem
  | [a], hl, _, hall =>
    have ha := hall a (by simp)
    subst ha
    have := hl.spec (⟨0, 0, .search 1, 0, some (1, .found (some 10))⟩, .found none)
      (List.mem_singleton.2 rfl) 1 (.found (some 10)) rfl
    simp at this
  | a :: b :: rest, hl, _, hall =>
    have ha := hall a (by simp)
    have hb := hall b (by simp)
    have := hl.nodup
    rw [ha, hb] at this
    simp at this

end Example

end Gobptree.Lin
