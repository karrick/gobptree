/-
  One scheduler step of one thread (`runThread`): the first stretch (`resume`, or the first
  `startOp`) followed by the loop of operations.  What the invariants give the continuation
  about to be resumed is collected once (`ResumeReady`); where the tree and the park the step
  ends in come from is read off once (`own_step_src`, `step_source`).
-/
import Gobptree.Proofs.CSLoop
import Gobptree.Proofs.CSPark
import Gobptree.Proofs.CSFlat

namespace Gobptree.Conc
open Gobptree

variable {K V : Type}

def ResumeU (K V : Type) : Prop :=
  ∀ (P : Params K) (t : Nat) (s : St K V) (k : Kont K V) (H : List Lk) (hole : Option Nat),
    isDelK k = false → Pre P hole s →
    KontOk s.tree k → CursorOk s.tree (isHopK k) s.cursor → KontPre s.cursor k → Covers H s.cursor k →
    Post H hole s (resume P t s k).1 (resume P t s k).2 ∧ flowHole (resume P t s k).2 = none

def ResumeD (K V : Type) : Prop :=
  ∀ (P : Params K) (t : Nat) (s : St K V) (k : Kont K V) (H : List Lk),
    isDelK k = true → 4 ≤ s.tree.order →
    Pre P (kontHole k) s → KontOk s.tree k → KontPre s.cursor k → Covers H s.cursor k →
    Post H (flowHole (resume P t s k).2) s (resume P t s k).1 (resume P t s k).2

def ResumeLive (K V : Type) : Prop :=
  ∀ (P : Params K) (t : Nat) (s : St K V) (k : Kont K V) (p : Park K V), (resume P t s k).2 = .park p → parkLive p

/-- The assembly of a scheduler step takes the per-block results as hypotheses, so that it does
    not import their proofs.  They are discharged by `blocks_ok` (`CSFinal`); every theorem is used
    in the closed form, e.g. `step_cinv blocks_ok`. -/
structure Blocks (K V : Type) : Prop where
  start     : StartOpPost K V
  startLive : StartOpLive K V
  resU      : ResumeU K V
  resD      : ResumeD K V
  resLive   : ResumeLive K V

/-- the mutexes a thread's next step runs under: those it holds, and the one it waits for (the
    step begins with its grant) -/
def stepHeld (th : Thread K V) : List Lk :=
  match th.park with
  | .want l _ => th.held ++ [l]
  | _ => th.held

theorem resume_not_hop (P : Params K) (t : Nat) (s : St K V) (k : Kont K V) :
    flowIsHop (resume P t s k).2 = false := by
  cases hfl : (resume P t s k).2 with
  | park p => exact (resume_succ hfl).not_hop
  | _ => rfl

structure ThreadOut (T0 : Tree K V) (H : List Lk) (hole' : Option Nat) (th : Thread K V)
    (r : Thread K V × St K V × Bool) : Prop where
  alive  : r.2.2 = false
  tree   : TreeOk hole' r.2.1.tree
  frame  : FrameEq (keepOf H T0.nextId) T0.flat r.2.1.tree.flat
  nextId : T0.nextId ≤ r.2.1.tree.nextId
  root   : Lk.tree ∈ H ∨ (r.2.1.tree.rootId = T0.rootId ∧ r.2.1.tree.depth = T0.depth)
  order  : r.2.1.tree.order = T0.order
  sok    : ThreadSOk r.2.1.tree r.1
  disc   : DiscOk r.1
  extra  : ∀ x ∈ parkExtra r.2.1.tree r.1.park, T0.nextId ≤ x
  prog   : r.1.prog = th.prog

theorem mem_stepHeld {th : Thread K V} {l : Lk} : l ∈ stepHeld th ↔ l ∈ th.held ∨ parkWant th.park = some l := by
  unfold stepHeld
  cases th.park with
  | want l' k =>
    simp only [parkWant, List.mem_append, List.mem_singleton, Option.some.injEq]
    exact or_congr Iff.rfl eq_comm
  | _ => simp [parkWant]

theorem mem_stepHeld_of_held {th : Thread K V} {l : Lk} (h : l ∈ th.held) : l ∈ stepHeld th :=
  mem_stepHeld.2 (Or.inl h)

theorem stepHeld_eq_grant (th : Thread K V) (s0 : St K V) (t : Nat) (h0 : s0.held = th.held) :
    (s0.grant t th.park).held = stepHeld th := by
  unfold stepHeld
  cases th.park <;> rw [← h0] <;> rfl

structure ResumeReady (T : Tree K V) (th : Thread K V) (k : Kont K V) : Prop where
  kok  : KontOk T k
  cur  : CursorOk T (isHopK k) th.cursor
  pre  : KontPre th.cursor k
  cov  : Covers (stepHeld th) th.cursor k

theorem resume_ready {T : Tree K V} {th : Thread K V} {k : Kont K V} (hok : ThreadOk th) (hs : ThreadSOk T th)
    (hk : th.park.kont? = some k) : ResumeReady T th k := by
  have hp := parked_of hok hk
  refine ⟨parkKontOk_kont hk T ▸ hs.1, by rw [← isHop_kont hk hok.2.2]; exact hs.2, hp.pre, ?_⟩
  exact ⟨fun x hx => mem_stepHeld_of_held ((hp.held x).2 (List.mem_append_left _ hx)),
    fun x hx => mem_stepHeld.2 (Or.inr (hp.lock.symm.trans hx)),
    fun x hx => mem_stepHeld_of_held ((hp.held x).2 (List.mem_append_right _ hx))⟩

theorem threadOut_of_loop {T0 T : Tree K V} {H : List Lk} {hole' : Option Nat} {th : Thread K V} {fl : Flow K V}
    {r : Thread K V × St K V × Bool} (hout : LoopOut T T0.nextId th fl r) (htree : TreeOk hole' T)
    (hframe : FrameEq (keepOf H T0.nextId) T0.flat T.flat) (hN : T0.nextId ≤ T.nextId)
    (hroot : Lk.tree ∈ H ∨ (T.rootId = T0.rootId ∧ T.depth = T0.depth)) (horder : T.order = T0.order) :
    ThreadOut T0 H hole' th r := by
  obtain ⟨h1, h2, h3, h4, h5, _, h7⟩ := hout
  subst h2
  exact ⟨h1, htree, hframe, hN, hroot, horder, h3, h4, h5, h7⟩

theorem after_post (B : Blocks K V) (t : Nat) (th : Thread K V) (H : List Lk) (hole' : Option Nat)
    (s0 s : St K V) (fl : Flow K V) (pc : Nat) (hpost : Post H hole' s0 s fl)
    (hlive : ∀ p, fl = .park p → parkLive p) (hnh : flowIsHop fl = false)
    (hdisc : ∃ st', disciplined st' (th.prog.drop (pc + 1)) = true ∧ flowAbs st' fl s.cursor s.exhausted) :
    ThreadOut s0.tree H hole' th (threadLoop t th th.prog.length s fl pc) ∧
      parkHole (threadLoop t th th.prog.length s fl pc).1.park = flowHole fl := by
  have hinv : LoopInv s.tree s0.tree.nextId th s fl pc :=
    { tree := rfl
      nopanic := hpost.nopanic
      kont := fun p hp => ⟨(hpost.kont p hp).1, (hpost.kont p hp).2.1, (hpost.kont p hp).2.2, hlive p hp⟩
      cursor := by rw [hnh]; exact hpost.cursor
      disc := hdisc }
  have hout := loop_sinv B.start B.startLive t th s.tree hole' s0.tree.nextId hpost.tree th.prog.length s fl pc hinv
  exact ⟨threadOut_of_loop hout hpost.tree hpost.frame hpost.nextId hpost.root hpost.order, hout.hole⟩

theorem runThread_sinv (B : Blocks K V) (c : Config K V) (t : Nat) (th : Thread K V) (hole : Option Nat)
    (hpre : Pre c.P hole (stepSt c t th)) (hok : ThreadOk th) (hs : ThreadSOk c.tree th) (hd : DiscOk th)
    (hnf : th.park ≠ .finished)
    (hhole : isDelPark th.park = true → hole = parkHole th.park)
    (h4 : isDelPark th.park = true → 4 ≤ c.tree.order) :
    ∃ hole', ThreadOut c.tree (stepHeld th) hole' th (runThread c.P t th (stepSt c t th)) ∧
      (isDelPark th.park = true → hole' = parkHole (runThread c.P t th (stepSt c t th)).1.park) ∧
      (isDelPark th.park = false → hole' = hole ∧ parkHole (runThread c.P t th (stepSt c t th)).1.park = none) := by
  -- a thread at `start`: no Delete under way, no cursor, the whole program still to be run
  have hstart : th.park = .start →
      isDelPark th.park = false ∧ disciplined .N th.prog = true ∧ (stepSt c t th).cursor = none := fun hp => by
    unfold DiscOk at hd
    rw [hp] at hd ⊢
    exact ⟨rfl, hd⟩
  refine runThread_cases c.P t th (stepSt c t th) (fun r => ∃ hole', ThreadOut c.tree (stepHeld th) hole' th r ∧
      (isDelPark th.park = true → hole' = parkHole r.1.park) ∧
      (isDelPark th.park = false → hole' = hole ∧ parkHole r.1.park = none)) (fun hp => absurd hp hnf) ?_ ?_ ?_
  · intro hp _
    obtain ⟨hnd, _, hc⟩ := hstart hp
    exact ⟨hole, ⟨rfl, hpre.tree, FrameEq.refl _ _, Nat.le_refl _, Or.inr ⟨rfl, rfl⟩, rfl,
      ⟨trivial, by rw [show th.cursor = none from hc]; trivial⟩, trivial, (fun x hx => by cases hx), rfl⟩,
      (fun h => by rw [hnd] at h; cases h), fun _ => ⟨rfl, rfl⟩⟩
  · intro op hp hop
    obtain ⟨hnd, hdisc, hc⟩ := hstart hp
    obtain ⟨hinv, hh⟩ := startOp_loopInv B.start B.startLive t th c.tree.nextId hpre.tree
      (s := (stepSt c t th).note t (.inv 0)) (st := .N) (pc := 0) rfl
      (by rw [show ((stepSt c t th).note t (.inv 0)).cursor = none from hc]; trivial)
      (by show cursorLocks (stepSt c t th).cursor = []; rw [hc]; rfl) hdisc hop
    have hout := loop_sinv B.start B.startLive t th c.tree hole _ hpre.tree th.prog.length _ _ 0 hinv
    exact ⟨hole, threadOut_of_loop hout hpre.tree (FrameEq.refl _ _) (Nat.le_refl _) (Or.inr ⟨rfl, rfl⟩) rfl,
      (fun h => by rw [hnd] at h; cases h), fun _ => ⟨rfl, hout.hole.trans hh⟩⟩
  · intro k hk
    obtain ⟨st', hd1, hd2⟩ := discOk_kont hk hd
    have R : ResumeReady (stepSt c t th).tree th k := resume_ready hok hs hk
    have habs := resume_abs c.P t (stepSt c t th) k st' hd2 R.pre
    have hloop := fun hole' hpost => after_post B t th (stepHeld th) hole' (stepSt c t th) _ _ th.pc hpost
      (fun p hp' => B.resLive c.P t _ k p hp') (resume_not_hop c.P t _ k) ⟨st', hd1, habs⟩
    have hdp := isDelPark_kont hk
    cases hdel : isDelK k with
    | false =>
      obtain ⟨hpost, hfh⟩ := B.resU c.P t (stepSt c t th) k (stepHeld th) hole hdel hpre R.kok R.cur R.pre R.cov
      obtain ⟨hout, hh⟩ := hloop hole hpost
      exact ⟨hole, hout, (fun h => by rw [hdp, hdel] at h; cases h), fun _ => ⟨rfl, by rw [hh, hfh]⟩⟩
    | true =>
      have hhk : hole = kontHole k := by rw [hhole (hdp.trans hdel), parkHole_kont hk hok.2.2]
      obtain ⟨hout, hh⟩ := hloop _ (B.resD c.P t (stepSt c t th) k (stepHeld th) hdel (h4 (hdp.trans hdel)) (hhk ▸ hpre)
        R.kok R.pre R.cov)
      exact ⟨_, hout, fun _ => hh.symm, fun h => by rw [hdp, hdel] at h; cases h⟩

/-- where the tree, the position and the new park of a step come from.  First disjunct: a thread that
    has not started.  Second: a thread parked inside an operation runs the block `resume … k` of its
    continuation `k`, and ends up at the park the block ended in (same `pc`), or, the block having
    returned, finished or at the first park of a later operation. -/
theorem own_step_src {c c' : Config K V} {t : Nat} {th : Thread K V} {r : Thread K V × St K V × Bool}
    (S : Stepped c c' t th r) :
    (th.park = .start ∧ c'.tree = c.tree ∧
      (r.1.park = .finished ∨ ∃ s1 op, th.prog[r.1.pc]? = some op ∧ (startOp t s1 op).2 = .park r.1.park)) ∨
    (∃ k, th.park.kont? = some k ∧ c'.tree = (resume c.P t (stepSt c t th) k).1.tree ∧
      th.pc ≤ r.1.pc ∧
      (((resume c.P t (stepSt c t th) k).2 = .park r.1.park ∧ r.1.pc = th.pc) ∨
        ((∀ p, (resume c.P t (stepSt c t th) k).2 ≠ .park p) ∧ (r.1.park = .finished ∨
          (th.pc < r.1.pc ∧ ∃ s1 op, th.prog[r.1.pc]? = some op ∧ (startOp t s1 op).2 = .park r.1.park))))) := by
  rw [S.tree, S.run]
  refine runThread_cases c.P t th (stepSt c t th) (fun r =>
    (th.park = .start ∧ r.2.1.tree = c.tree ∧
      (r.1.park = .finished ∨ ∃ s1 op, th.prog[r.1.pc]? = some op ∧ (startOp t s1 op).2 = .park r.1.park)) ∨
    (∃ k, th.park.kont? = some k ∧ r.2.1.tree = (resume c.P t (stepSt c t th) k).1.tree ∧
      th.pc ≤ r.1.pc ∧
      (((resume c.P t (stepSt c t th) k).2 = .park r.1.park ∧ r.1.pc = th.pc) ∨
        ((∀ p, (resume c.P t (stepSt c t th) k).2 ≠ .park p) ∧ (r.1.park = .finished ∨
          (th.pc < r.1.pc ∧ ∃ s1 op, th.prog[r.1.pc]? = some op ∧ (startOp t s1 op).2 = .park r.1.park))))))
    (fun hp => absurd hp S.nf) (fun hs _ => Or.inl ⟨hs, rfl, Or.inl rfl⟩) ?_
    (fun k hk => Or.inr ⟨k, hk, threadLoop_tree .., threadLoop_src ..⟩)
  intro op hs hop
  obtain ⟨_, h⟩ := threadLoop_src t th th.prog.length (startOp t ((stepSt c t th).note t (.inv 0)) op).1
    (startOp t ((stepSt c t th).note t (.inv 0)) op).2 0
  refine Or.inl ⟨hs, by rw [threadLoop_tree, startOp_tree]; rfl, ?_⟩
  rcases h with ⟨hfl, hpc⟩ | ⟨_, h | ⟨_, h⟩⟩
  · exact Or.inr ⟨_, op, by rw [hpc]; exact hop, hfl⟩
  · exact Or.inl h
  · exact Or.inr h

theorem step_source {c c' : Config K V} {t : Nat} {th : Thread K V} {r : Thread K V × St K V × Bool}
    (S : Stepped c c' t th r) :
    (th.park = .start ∧ c'.tree = c.tree ∧ FreshPark t r.1.park) ∨
    ∃ k, th.park.kont? = some k ∧ c'.tree = (resume c.P t (stepSt c t th) k).1.tree ∧
      ParkFrom t (resume c.P t (stepSt c t th) k).2 r.1.park := by
  rcases own_step_src S with ⟨hs, htree, h⟩ | ⟨k, hk, htree, _, h⟩
  · exact Or.inl ⟨hs, htree, h.imp_right fun ⟨s1, op, _, e⟩ => ⟨s1, op, e⟩⟩
  · exact Or.inr ⟨k, hk, htree, .of_src (h.imp And.left (And.imp_right (Or.imp_right fun ⟨_, s1, op, _, e⟩ => ⟨s1, op, e⟩)))⟩

theorem Stepped.tree_start {c c' : Config K V} {t : Nat} {th : Thread K V} {r : Thread K V × St K V × Bool}
    (S : Stepped c c' t th r) (hp : th.park = .start) : c'.tree = c.tree := by
  rcases step_source S with h | ⟨k, hk, _⟩
  · exact h.2.1
  · rw [hp] at hk; cases hk

theorem Stepped.tree_resume {c c' : Config K V} {t : Nat} {th : Thread K V} {r : Thread K V × St K V × Bool}
    (S : Stepped c c' t th r) {k : Kont K V} (hk : th.park.kont? = some k) :
    c'.tree = (resume c.P t (stepSt c t th) k).1.tree := by
  rcases step_source S with h | ⟨k', hk', h, _⟩
  · rw [h.1] at hk; cases hk
  · cases hk.symm.trans hk'; exact h

end Gobptree.Conc
