/-
  A borrow or merge between two inner siblings `c1 c2` keeps or widens both intervals
  (`gbounds cl`) of every node below them: the plain one (`cl = false`) always, the clamped one
  (`cl = true`) provided the boundary `k2` is not below `c2`'s first separator (`SepLe`), which is
  what the separator invariant supplies.
-/
import Gobptree.Proofs.CKDelReb

namespace Gobptree.Conc
open Gobptree

variable {K V : Type} {lt : K → K → Bool}

theorem zip_cons_of_len {α β : Type} (rs : List α) (ks : List β) (h1 : rs.length = ks.length) (h2 : 1 ≤ rs.length) :
    ∃ r0 g0 Y, rs.zip ks = (r0, g0) :: Y ∧ rs.head? = some r0 := by
  cases rs with
  | nil => exact absurd h2 (Nat.not_succ_le_zero 0)
  | cons r0 rs =>
    cases ks with
    | nil => cases h1
    | cons g0 gs => exact ⟨r0, g0, rs.zip gs, rfl, rfl⟩

theorem firstG_self (cl : Bool) {C β : Type} (g : Option K → Option K → C → Option β) (hi : Option K) (s : K) (c : C)
    (Y : List (K × C)) : firstG cl g (some s) hi ((s, c) :: Y) = firstE g hi ((s, c) :: Y) := by
  rw [firstE_cons_or]
  cases cl <;> rfl

/-- **where the separator invariant is used**: in the pooled chain of two adjacent inner siblings
    every identity below them has the interval it had, or a wider one — the clamped interval as
    well, provided the boundary `k2` is not below the right sibling's first separator -/
theorem pool_inner_g (h : SWO lt) (cl : Bool) {d : Nat} (c1 c2 : Inner K (Node K V d)) (lo1 : Option K) (k2 : K)
    (nx : Option K) (hP1 : ParN (d + 1) c1) (hP2 : ParN (d + 1) c2)
    (hO2 : ∀ r0, c2.runts.head? = some r0 → lt r0 k2 = false)
    (hsep : cl = true → ∀ r0, c2.runts.head? = some r0 → lt k2 r0 = false)
    (x : Nat) (hx1 : x ≠ c1.id) (hx2 : x ≠ c2.id) :
    OW lt ((gbounds cl x (d + 1) lo1 (some k2) c1).or (gbounds cl x (d + 1) (some k2) nx c2))
      (firstG cl (gbounds cl x d) lo1 nx ((c1.runts ++ c2.runts).zip (c1.kids ++ c2.kids))) := by
  rw [gbounds_succ_ne cl x _ _ c1 (fun e => hx1 e.symm), gbounds_succ_ne cl x _ _ c2 (fun e => hx2 e.symm),
    List.zip_append hP1.1]
  obtain ⟨a0, y0, X, hX, _⟩ := zip_cons_of_len _ _ hP1.1 hP1.2.1
  obtain ⟨r0, g0, Y, hY, hr0⟩ := zip_cons_of_len _ _ hP2.1 hP2.2.1
  rw [hX, hY, firstG_append, firstE_cons_or]
  refine OW.or (firstG_mono h cl _ _ (fun e _ a b a' b' => gbounds_mono h cl x d e.2 a b a' b') (loLe_refl h _) (hO2 r0 hr0))
    (OW.or ?_ (OW.refl h _))
  refine gbounds_mono h cl x d g0 _ _ _ _ ?_ (hiLe_refl h _)
  cases cl with
  | false => exact loLe_refl h _
  | true => exact hsep rfl r0 hr0

theorem borrow_bnd_g (h : SWO lt) (cl : Bool) {d : Nat} (c1 c2 c1' c2' : Inner K (Node K V d)) (lo1 : Option K)
    (k2 s : K) (nx : Option K) (hP1 : ParN (d + 1) c1) (hP2 : ParN (d + 1) c2)
    (hO2 : ∀ r0, c2.runts.head? = some r0 → lt r0 k2 = false)
    (hsep : cl = true → ∀ r0, c2.runts.head? = some r0 → lt k2 r0 = false)
    (hid1 : c1'.id = c1.id) (hid2 : c2'.id = c2.id) (hP2' : ParN (d + 1) c2')
    (sh : BorrowShape (d := d + 1) c1 c2 c1' c2' s) (x : Nat) (hx1 : x ≠ c1.id) (hx2 : x ≠ c2.id) :
    OW lt ((gbounds cl x (d + 1) lo1 (some k2) c1).or (gbounds cl x (d + 1) (some k2) nx c2))
      ((gbounds cl x (d + 1) lo1 (some s) c1').or (gbounds cl x (d + 1) (some s) nx c2')) := by
  obtain ⟨hr, hk, hl1, _, hne, hs⟩ := sh
  refine (pool_inner_g h cl c1 c2 lo1 k2 nx hP1 hP2 hO2 hsep x hx1 hx2).trans h (OW.of_eq h ?_)
  rw [gbounds_succ_ne cl x _ _ c1' (fun e => hx1 (e.symm.trans hid1)),
    gbounds_succ_ne cl x _ _ c2' (fun e => hx2 (e.symm.trans hid2)), ← hr, ← hk, List.zip_append hl1]
  obtain ⟨a0, y0, X, hX, _⟩ := zip_cons_of_len _ _ hl1 (List.length_pos_iff.2 hne)
  obtain ⟨s', g0, Y, hY, hs'⟩ := zip_cons_of_len _ _ hP2'.1 hP2'.2.1
  cases hs.symm.trans hs'
  rw [hX, hY, firstG_append, firstG_self]
  rfl

theorem merge_bnd_g (h : SWO lt) (cl : Bool) {d : Nat} (c1 c2 m : Inner K (Node K V d)) (lo1 : Option K)
    (k2 : K) (nx : Option K) (hP1 : ParN (d + 1) c1) (hP2 : ParN (d + 1) c2)
    (hO2 : ∀ r0, c2.runts.head? = some r0 → lt r0 k2 = false)
    (hsep : cl = true → ∀ r0, c2.runts.head? = some r0 → lt k2 r0 = false)
    (hid : m.id = c1.id) (sh : MergeShape (d := d + 1) c1 c2 m) (x : Nat) (hx1 : x ≠ c1.id) (hx2 : x ≠ c2.id) :
    OW lt ((gbounds cl x (d + 1) lo1 (some k2) c1).or (gbounds cl x (d + 1) (some k2) nx c2))
      (gbounds cl x (d + 1) lo1 nx m) := by
  obtain ⟨hr, hk⟩ := sh
  rw [gbounds_succ_ne cl x _ _ m (fun e => hx1 (e.symm.trans hid)), hr, hk]
  exact pool_inner_g h cl c1 c2 lo1 k2 nx hP1 hP2 hO2 hsep x hx1 hx2

/-- the boundary above an inner right sibling is not below the sibling's first separator -/
def SepLe (lt : K → K → Bool) (k2 : K) : (d : Nat) → Node K V d → Prop
  | 0, _ => True
  | _ + 1, (c2 : Inner K _) => ∀ r0, c2.runts.head? = some r0 → lt k2 r0 = false

theorem borrow_widen (h : SWO lt) (cl : Bool) {d : Nat} (c1 c2 c1' c2' : Node K V d) (lo1 : Option K)
    (k1 k2 s : K) (nx nx0 : Option K) (hP1 : ParN d c1) (hP2 : ParN d c2) (hO2 : Ord lt d (some k2) nx0 c2)
    (hsep : cl = true → SepLe lt k2 d c2) (out : BorrowOut lt k1 k2 s nx0 c1 c2 c1' c2')
    (sh : BorrowShape c1 c2 c1' c2' s) (x : Nat) (hx1 : x ≠ Node.id c1) (hx2 : x ≠ Node.id c2) :
    OW lt ((gbounds cl x d lo1 (some k2) c1).or (gbounds cl x d (some k2) nx c2))
      ((gbounds cl x d lo1 (some s) c1').or (gbounds cl x d (some s) nx c2')) := by
  cases d with
  | zero =>
    rw [gbounds_zero_ne cl x _ _ c1 (fun e => hx1 e.symm), gbounds_zero_ne cl x _ _ c2 (fun e => hx2 e.symm),
      gbounds_zero_ne cl x _ _ c1' (fun e => hx1 (e.symm.trans out.id1)),
      gbounds_zero_ne cl x _ _ c2' (fun e => hx2 (e.symm.trans out.id2))]
    rfl
  | succ d =>
    exact borrow_bnd_g h cl c1 c2 c1' c2' lo1 k2 s nx hP1 hP2 hO2.1 hsep out.id1 out.id2 out.par2 sh x hx1 hx2

theorem merge_widen (h : SWO lt) (cl : Bool) {d : Nat} (c1 c2 m : Node K V d) (lo1 : Option K)
    (k1 k2 : K) (nx nx0 : Option K) (hP1 : ParN d c1) (hP2 : ParN d c2) (hO2 : Ord lt d (some k2) nx0 c2)
    (hsep : cl = true → SepLe lt k2 d c2) (out : MergeOut lt k1 k2 nx0 c1 c2 m) (sh : MergeShape c1 c2 m)
    (x : Nat) (hx1 : x ≠ Node.id c1) (hx2 : x ≠ Node.id c2) :
    OW lt ((gbounds cl x d lo1 (some k2) c1).or (gbounds cl x d (some k2) nx c2)) (gbounds cl x d lo1 nx m) := by
  cases d with
  | zero =>
    rw [gbounds_zero_ne cl x _ _ c1 (fun e => hx1 e.symm), gbounds_zero_ne cl x _ _ c2 (fun e => hx2 e.symm),
      gbounds_zero_ne cl x _ _ m (fun e => hx1 (e.symm.trans out.id))]
    rfl
  | succ d => exact merge_bnd_g h cl c1 c2 m lo1 k2 nx hP1 hP2 hO2.1 hsep out.id sh x hx1 hx2

theorem rebalance_widen_g (h : SWO lt) (P : Params K) (hp : PadOk P) (o : Nat) {d : Nat}
    (i : Inner K (Node K V d)) (index : Nat) (child : Node K V d) (hin : RebIn o i index child)
    (lo hi : Option K) (hO : Ord lt (d + 1) lo hi i) (hPar : ParN (d + 1) i) (cl : Bool)
    (hsep : cl = true → ∀ j k2 c2, i.runts[j]? = some k2 → i.kids[j]? = some c2 → index ≤ j → j ≤ index + 1 →
      SepLe lt k2 d c2)
    (i' : Inner K (Node K V d)) (small' : Bool)
    (heval : rebalance P {} (o / 2) i index child = .ok (i', small')) (lo2 hi2 : Option K) :
    ∀ x, x ≠ i.id → (∀ j k, i.kids[j]? = some k → index ≤ j + 1 → j ≤ index + 1 → x ≠ Node.id k) →
      OW lt (gbounds cl x (d + 1) lo2 hi2 i) (gbounds cl x (d + 1) lo2 hi2 i') := by
  obtain ⟨rA, rB, A, B, k1, k2, c1, c2, hr, hk, hl, hw1, hw2, hcase⟩ :=
    rebalance_ord_cases h P hp o i index child hin lo hi hO hPar heval
  have e1 : i.kids[A.length]? = some c1 := by rw [hk]; exact getElem?_pivot rfl c1
  have e2 : i.kids[A.length + 1]? = some c2 := by rw [hk]; exact getElem?_next rfl c1 c2
  obtain ⟨-, -, hO2, -⟩ := parent_split2 i lo hi rA rB A B k1 k2 c1 c2 hr hk hl hO
  have hP1 : ParN d c1 := hPar.2.2 c1 (List.mem_of_getElem? e1)
  have hP2 : ParN d c2 := hPar.2.2 c2 (List.mem_of_getElem? e2)
  have hs2 : cl = true → SepLe lt k2 d c2 := fun hc =>
    hsep hc (A.length + 1) k2 c2 (by rw [hr]; exact getElem?_next hl k1 k2) e2 hw2 (Nat.succ_le_succ hw1)
  intro x hx hx'
  have hne : i.id ≠ x := fun e => hx e.symm
  have hx1 : x ≠ Node.id c1 := hx' _ c1 e1 hw2 (Nat.le_succ_of_le hw1)
  have hx2 : x ≠ Node.id c2 := hx' _ c2 e2 (Nat.le_succ_of_le hw2) (Nat.succ_le_succ hw1)
  -- within the window `(k1, c1), (k2, c2)`, which becomes `(k1, c1'), (s, c2')` or `(k1, m)`
  rcases hcase with ⟨c1', c2', s, sh, out, rfl⟩ | ⟨m, sh, out, rfl⟩
  · refine (replace_entries_widen h i ⟨i.id, rA ++ k1 :: s :: rB, A ++ c1' :: c2' :: B⟩ rA rB k1 k1 A B c1 c1'
      [(k2, c2)] [(s, c2')] hl hr hk rfl rfl rfl (fun _ => rfl)).2 cl lo2 hi2 x hne ?_
    rw [winE_one, winE_one]
    exact borrow_widen h cl c1 c2 c1' c2' _ k1 k2 s _ _ hP1 hP2 hO2 hs2 out sh x hx1 hx2
  · refine (replace_entries_widen h i ⟨i.id, rA ++ k1 :: rB, A ++ m :: B⟩ rA rB k1 k1 A B c1 m
      [(k2, c2)] [] hl hr hk rfl rfl rfl (fun _ => rfl)).2 cl lo2 hi2 x hne ?_
    rw [winE_one, winE_nil]
    exact merge_widen h cl c1 c2 m _ k1 k2 _ _ hP1 hP2 hO2 hs2 out sh x hx1 hx2

end Gobptree.Conc
