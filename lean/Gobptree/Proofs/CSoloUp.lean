/-
  Insert / Update, sequential side: the node identities after a split (`maybeSplit_some_facts`),
  and that `upsertNode` keeps all identities pairwise distinct and below the allocation counter
  (`Tree.upsert_idsOk`).
-/
import Gobptree.Proofs.CSoloCtx
import Gobptree.Proofs.Ids

namespace Gobptree.Conc
open Gobptree

variable {K V : Type}

theorem maybeSplit_some_facts (o fresh : Nat) {d : Nat} (n l r : Node K V d)
    (h : Node.maybeSplit o fresh n = .ok (l, some r)) :
    Node.id l = Node.id n ∧ Node.id r = fresh ∧
      ∀ a, (idsOf l).count a + (idsOf r).count a ≤ (idsOf n).count a + (if fresh = a then 1 else 0) := by
  rcases Node.maybeSplit_inv o fresh h with ⟨-, e⟩ | ⟨-, -, rfl, e⟩
  · cases e
  cases e
  refine ⟨Node.id_put .., Node.id_make .., fun a => ?_⟩
  have hc := (enids_sublist (halves_sublist (Node.ents n) (o >>> 1))).count_le a
  rw [enids_append, List.count_append] at hc
  rw [idsOf_view, idsOf_view, idsOf_view n, Node.id_put, Node.id_make, Node.ents_put, Node.ents_make]
  simp only [List.count_cons, beq_iff_eq]
  omega

theorem count_fresh {tot tot' nid a : Nat} (h : tot ≤ 1 ∧ (0 < tot → a < nid))
    (hle : tot' ≤ tot + (if nid = a then 1 else 0)) : tot' ≤ 1 ∧ (0 < tot' → a < nid + 1) := by
  split at hle <;> omega

theorem IdInv.split {D d : Nat} {c : Ctx K V D (d + 1)} {pid : Nat} {r : List K} (r' : List K) {A B : List (Node K V d)}
    {x left right : Node K V d} {o nid : Nat}
    (h : IdInv (Ctx.kid c pid r A B) x nid) (hms : Node.maybeSplit o nid x = .ok (left, some right)) :
    IdInv (Ctx.kid c pid r' (A ++ [left]) B) right (nid + 1) ∧ IdInv (Ctx.kid c pid r' A (right :: B)) left (nid + 1) := by
  obtain ⟨-, -, hsplit⟩ := maybeSplit_some_facts _ _ _ _ _ hms
  refine ⟨fun a => count_fresh (h a) ?_, fun a => count_fresh (h a) ?_⟩
  · have h2 := hsplit a
    rw [count_ids_kid, count_ids_kid, List.flatMap_append, List.count_append, List.flatMap_cons, List.flatMap_nil,
      List.append_nil]
    omega
  · have h2 := hsplit a
    rw [count_ids_kid, count_ids_kid, List.flatMap_cons, List.count_append]
    omega

theorem IdInv.splitRoot {D : Nat} (rr : List K) {x left right : Node K V D} {o nid : Nat}
    (h : IdInv (Ctx.top : Ctx K V D D) x nid) (hms : Node.maybeSplit o nid x = .ok (left, some right)) :
    IdInv (Ctx.kid (Ctx.top : Ctx K V (D + 1) (D + 1)) (nid + 1) rr [left] []) right (nid + 2) ∧
      IdInv (Ctx.kid (Ctx.top : Ctx K V (D + 1) (D + 1)) (nid + 1) rr [] [right]) left (nid + 2) := by
  obtain ⟨-, -, hsplit⟩ := maybeSplit_some_facts _ _ _ _ _ hms
  have hpair : ∀ a, (idsOf left).count a + (idsOf right).count a ≤ 1 ∧
      (0 < (idsOf left).count a + (idsOf right).count a → a < nid + 1) := fun a =>
    count_fresh (h a) (by rw [count_ids_top, Nat.zero_add]; exact hsplit a)
  refine ⟨fun a => count_fresh (hpair a) ?_, fun a => count_fresh (hpair a) ?_⟩ <;>
  · rw [count_ids_kid, count_ids_top, List.flatMap_cons, List.flatMap_nil, List.append_nil, List.count_nil]
    omega

theorem upsertNode_idInv (P : Params K) (key : K) (f : Option V → V) :
    ∀ (d : Nat) {D : Nat} (c : Ctx K V D d) (x : Node K V d) (nid : Nat) (x' : Node K V d) (nid' : Nat) (cb : Option V),
      IdInv c x nid → upsertNode P key f d x nid = .ok (x', nid', cb) → IdInv c x' nid'
  | 0, _, c, x, nid, x', nid', cb, hinv, h => by
    obtain ⟨hl, hn⟩ := upsertNode_zero_inv P key f x nid x' nid' cb h
    subst hn
    have hid : (x' : Leaf K V).id = (x : Leaf K V).id := Leaf.upsert_id P x x' key f cb hl
    have e : idsOf (d := 0) x' = idsOf (d := 0) x := congrArg (fun i => [i]) hid
    intro a
    rw [e]
    exact hinv a
  | d + 1, _, c, p, nid, p', nid', cb, hinv, h => by
    obtain ⟨A, child, B, runts, hkids, -, -, hcase⟩ := upsertNode_succ_inv P key f p nid p' nid' cb h
    obtain ⟨pid, prunts, pkids⟩ := p
    simp only at hkids hcase
    subst hkids
    have hk : IdInv (Ctx.kid c pid runts A B) child nid := IdInv.kid_iff.2 hinv
    cases hcase with
    | nosplit c' hms hrec hp' =>
      subst hp'
      exact IdInv.kid_iff.1 (upsertNode_idInv P key f d _ child nid c' nid' cb hk hrec)
    | right left right pad rs c' hms hpad hrs hlt hrec hp' =>
      subst hp'
      exact IdInv.kid_iff.1 (upsertNode_idInv P key f d _ right (nid + 1) c' nid' cb (hk.split runts hms).1 hrec)
    | left left right pad rs c' hms hpad hrs hlt hrec hp' =>
      subst hp'
      exact IdInv.kid_iff.1 (upsertNode_idInv P key f d _ left (nid + 1) c' nid' cb (hk.split runts hms).2 hrec)

theorem Tree.upsert_idsOk (P : Params K) (key : K) (f : Option V → V) (t t' : Tree K V) (cb : Option V)
    (hids : IdsOk t) (h : t.upsert P key f = .ok (t', cb)) : IdsOk t' ∧ t'.order = t.order := by
  have hinv := idInv_top_iff.2 hids
  cases Tree.upsert_inv P key f t t' cb h with
  | nosplit r' nid' hms hrec ht' =>
    have h1 := upsertNode_idInv P key f _ Ctx.top _ _ r' nid' cb hinv hrec
    rw [ht']
    exact ⟨(idInv_top_iff (t := { t with root := r', nextId := nid' })).1 h1, rfl⟩
  | right left right ls rs c' nid' hms hls hrs hlt hrec ht' =>
    have h1 := upsertNode_idInv P key f _ _ right _ c' nid' cb
      (hinv.splitRoot [if P.lt key ls then key else ls, rs] hms).1 hrec
    have h2 := (IdInv.kid_iff (r' := [if P.lt key ls then key else ls, rs])).1 h1
    rw [ht']
    exact ⟨(idInv_top_iff (t := ⟨t.order, t.depth + 1, _, nid'⟩)).1 h2, rfl⟩
  | left left right ls rs c' nid' hms hls hrs hlt hrec ht' =>
    have h1 := upsertNode_idInv P key f _ _ left _ c' nid' cb
      (hinv.splitRoot [if P.lt key ls then key else ls, rs] hms).2 hrec
    have h2 := (IdInv.kid_iff (r' := [if P.lt key ls then key else ls, rs])).1 h1
    rw [ht']
    exact ⟨(idInv_top_iff (t := ⟨t.order, t.depth + 1, _, nid'⟩)).1 h2, rfl⟩

end Gobptree.Conc
