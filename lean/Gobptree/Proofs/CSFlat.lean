/-
  Flat-view machinery: `find`/`modify` by identity act on the flat view as a local list
  surgery.  (No invariant of the B+tree is used here except distinct identities.)
-/
import Gobptree.Proofs.CSFlatFacts
import Gobptree.Proofs.NodeView

namespace Gobptree.Conc
open Gobptree

variable {K V : Type}

theorem flat_zero (n : Node K V 0) : flat n = [((n : Leaf K V).id, shallow n)] := rfl

theorem flat_succ {d : Nat} (n : Node K V (d + 1)) :
    flat n = ((n : Inner K (Node K V d)).id, shallow n) :: (n : Inner K (Node K V d)).kids.flatMap (flat (d := d)) := rfl

theorem flat_mk {d : Nat} (id : Nat) (runts : List K) (kids : List (Node K V d)) :
    flat (d := d + 1) (Inner.mk id runts kids : Inner K (Node K V d)) =
      (id, shallow (d := d + 1) (Inner.mk id runts kids : Inner K (Node K V d))) :: kids.flatMap (flat (d := d)) := rfl

def idsOf {d : Nat} (n : Node K V d) : List Nat := (flat n).map Prod.fst

theorem idsOf_zero (l : Leaf K V) : idsOf (d := 0) l = [l.id] := rfl

theorem idsOf_succ {d : Nat} (i : Inner K (Node K V d)) :
    idsOf (d := d + 1) i = i.id :: i.kids.flatMap (idsOf (d := d)) := by
  show (flat (d := d + 1) i).map Prod.fst = _
  rw [flat_succ (d := d) i, List.map_cons, List.map_flatMap]
  rfl

theorem idsOf_mk {d : Nat} (id : Nat) (runts : List K) (kids : List (Node K V d)) :
    idsOf (d := d + 1) (Inner.mk id runts kids : Inner K (Node K V d)) = id :: kids.flatMap (idsOf (d := d)) :=
  idsOf_succ _

theorem id_mem_idsOf {d : Nat} (n : Node K V d) : Node.id n ∈ idsOf n := by
  obtain ⟨rest, h⟩ := flat_head n
  rw [idsOf, h]; exact List.mem_cons_self

theorem findNode_none (id : Nat) : ∀ (d : Nat) (n : Node K V d),
    findNode id d n = none ↔ id ∉ (flat n).map Prod.fst := by
  intro d
  induction d with
  | zero =>
    intro n
    show (if (n : Leaf K V).id = id then some (⟨0, n⟩ : AnyNode K V) else none) = none ↔ _
    by_cases h : (n : Leaf K V).id = id
    · simp [h, flat_zero]
    · simp [h, flat_zero]; exact fun e => h e.symm
  | succ d ih =>
    intro n
    show (if (n : Inner K (Node K V d)).id = id then some (⟨d + 1, n⟩ : AnyNode K V)
          else (n : Inner K (Node K V d)).kids.findSome? (findNode id d)) = none ↔ _
    by_cases h : (n : Inner K (Node K V d)).id = id
    · simp [h, flat_succ]
    · simp only [h, if_false, flat_succ, List.map_cons, List.mem_cons, not_or, List.findSome?_eq_none_iff]
      constructor
      · intro hk
        refine ⟨fun e => h e.symm, ?_⟩
        intro hm
        simp only [List.map_flatMap, List.mem_flatMap] at hm
        obtain ⟨c, hc, hm⟩ := hm
        exact (ih c).1 (hk c hc) hm
      · rintro ⟨_, hk⟩ c hc
        apply (ih c).2
        intro hm
        apply hk
        simp only [List.map_flatMap, List.mem_flatMap]
        exact ⟨c, hc, hm⟩

theorem modifyNode_absent (id : Nat) (f : (d : Nat) → Node K V d → Node K V d) :
    ∀ (d : Nat) (n : Node K V d), id ∉ (flat n).map Prod.fst → modifyNode id f d n = n := by
  intro d
  induction d with
  | zero =>
    intro n h
    have : (n : Leaf K V).id ≠ id := by
      intro e; apply h; simp [flat_zero, e]
    show (if (n : Leaf K V).id = id then f 0 n else n) = n
    simp [this]
  | succ d ih =>
    intro n h
    simp only [flat_succ, List.map_cons, List.mem_cons, not_or] at h
    have h1 : (n : Inner K (Node K V d)).id ≠ id := fun e => h.1 e.symm
    show (if (n : Inner K (Node K V d)).id = id then f (d + 1) n
          else ({ (n : Inner K (Node K V d)) with kids := (n : Inner K (Node K V d)).kids.map (modifyNode id f d) } : Inner K (Node K V d))) = n
    simp only [h1, ↓reduceIte]
    have : (n : Inner K (Node K V d)).kids.map (modifyNode id f d) = (n : Inner K (Node K V d)).kids := by
      conv => rhs; rw [← List.map_id (n : Inner K (Node K V d)).kids]
      apply List.map_congr_left
      intro c hc
      apply ih
      intro hm
      apply h.2
      simp only [List.map_flatMap, List.mem_flatMap]
      exact ⟨c, hc, hm⟩
    rw [this]
    rfl

theorem map_modify_absent (id : Nat) (f : (d : Nat) → Node K V d → Node K V d) {d : Nat}
    (A : List (Node K V d)) (hA : ∀ a ∈ A, id ∉ idsOf a) : A.map (modifyNode id f d) = A := by
  conv => rhs; rw [← List.map_id A]
  apply List.map_congr_left
  intro a ha
  exact modifyNode_absent id f d a (hA a ha)

theorem findNode_leaf (id : Nat) (l : Leaf K V) :
    findNode (V := V) id 0 l = if l.id = id then some ⟨0, l⟩ else none := rfl

theorem findNode_inner (id : Nat) {d : Nat} (i : Inner K (Node K V d)) :
    findNode id (d + 1) i = if i.id = id then some ⟨d + 1, i⟩ else i.kids.findSome? (findNode id d) := rfl

theorem modifyNode_inner (id : Nat) (f : (d : Nat) → Node K V d → Node K V d) {d : Nat} (i : Inner K (Node K V d)) :
    modifyNode id f (d + 1) i = if i.id = id then f (d + 1) i
      else (Inner.mk i.id i.runts (i.kids.map (modifyNode id f d)) : Inner K (Node K V d)) := rfl

theorem modifyNode_at (id : Nat) (f : (d : Nat) → Node K V d → Node K V d) :
    ∀ {d : Nat} (n : Node K V d), Node.id n = id → modifyNode id f d n = f d n
  | 0, n, h => if_pos h
  | _ + 1, n, h => if_pos h

theorem findNode_here (id : Nat) : ∀ {d : Nat} (n : Node K V d), Node.id n = id → findNode id d n = some ⟨d, n⟩
  | 0, _, he => if_pos he
  | _ + 1, _, he => if_pos he

theorem modifyNode_succ_ne (id : Nat) (f : (d : Nat) → Node K V d → Node K V d) {d : Nat}
    (i : Inner K (Node K V d)) (hne : i.id ≠ id) :
    modifyNode id f (d + 1) i =
      (Inner.mk i.id i.runts (i.kids.map (modifyNode id f d)) : Inner K (Node K V d)) :=
  (modifyNode_inner id f i).trans (if_neg hne)

/-- induction along the path from a node down to the node `findNode` returns
    (`findNode_rec` in CKZoomBase is this principle with `Nodup` of the identities and `ParN`
    carried along the path) -/
@[elab_as_elim]
theorem findNode_induct (id : Nat) {d' : Nat} {m : Node K V d'} {C : (d : Nat) → Node K V d → Prop}
    (here : Node.id m = id → C d' m)
    (below : ∀ {d : Nat} (i : Inner K (Node K V d)) (A : List (Node K V d)) (c : Node K V d)
      (B : List (Node K V d)), i.id ≠ id → i.kids = A ++ c :: B → findNode id d c = some ⟨d', m⟩ →
      (∀ a ∈ A, findNode id d a = none) → C d c → C (d + 1) i) :
    ∀ {d : Nat} (n : Node K V d), findNode id d n = some ⟨d', m⟩ → C d n := by
  intro d
  induction d with
  | zero =>
    intro (n : Leaf K V) h
    rw [findNode_leaf] at h
    by_cases hid : n.id = id
    · rw [if_pos hid] at h
      cases h
      exact here hid
    · rw [if_neg hid] at h
      cases h
  | succ d ih =>
    intro (n : Inner K (Node K V d)) h
    rw [findNode_inner] at h
    by_cases hid : n.id = id
    · rw [if_pos hid] at h
      cases h
      exact here hid
    · rw [if_neg hid] at h
      obtain ⟨A, c, B, hk, hc, hA⟩ := List.findSome?_eq_some_iff.1 h
      exact below n A c B hid hk hc hA (ih c hc)

/-- **context lemma.** The node found under an identity sits in the flat view as a
    contiguous segment; rewriting that identity replaces exactly this segment. -/
theorem find_modify_flat (id : Nat) : ∀ (d : Nat) (n : Node K V d) (d' : Nat) (m : Node K V d'),
    findNode id d n = some ⟨d', m⟩ →
    Node.id m = id ∧
    ∃ L R, flat n = L ++ flat m ++ R ∧ (∀ p ∈ L, p.1 ≠ id) ∧
      ∀ f : (d : Nat) → Node K V d → Node K V d, ((flat n).map Prod.fst).Nodup →
        Node.id (f d' m) = id →
        flat (modifyNode id f d n) = L ++ flat (f d' m) ++ R ∧
        Node.id (modifyNode id f d n) = Node.id n := by
  intro d n d' m h
  refine findNode_induct id ?_ ?_ n h
  · intro hid
    refine ⟨hid, [], [], (List.append_nil _).symm, fun _ hp => (List.not_mem_nil hp).elim, fun f _ hfid => ?_⟩
    rw [modifyNode_at id f m hid]
    exact ⟨(List.append_nil _).symm, hfid.trans hid.symm⟩
  · intro d i A c B hid hk hc hA ⟨hmid, L, R, hflat, hL, hmod⟩
    have hfi : flat (d := d + 1) i = (i.id, shallow (d := d + 1) i) :: (A.flatMap flat ++ (flat c ++ B.flatMap flat)) := by
      rw [flat_inner, hk, List.flatMap_append, List.flatMap_cons]
    refine ⟨hmid, (i.id, shallow (d := d + 1) i) :: A.flatMap flat ++ L, R ++ B.flatMap flat, ?_, ?_, ?_⟩
    · rw [hfi, hflat]
      simp only [List.append_assoc, List.cons_append]
    · intro p hp
      rcases List.mem_append.1 hp with hp | hp
      · rcases List.mem_cons.1 hp with rfl | hp
        · exact hid
        · obtain ⟨a, ha, hpa⟩ := List.mem_flatMap.1 hp
          exact fun e => (findNode_none id d a).1 (hA a ha) (List.mem_map.2 ⟨p, hpa, e⟩)
      · exact hL p hp
    · intro f hnd hfid
      -- the identity occurs below `c`, so by distinctness nowhere below `A` or `B`
      have hidc : id ∈ (flat c).map Prod.fst :=
        List.mem_map.2 ⟨_, hflat ▸ List.mem_append_left _ (List.mem_append_right _ (self_mem_flat m)), hmid⟩
      rw [hfi, List.map_cons, List.map_append, List.map_append, List.nodup_cons, List.nodup_append] at hnd
      obtain ⟨hndc, -, hcB⟩ := List.nodup_append.1 hnd.2.2.1
      have hAm : A.map (modifyNode id f d) = A :=
        map_modify_absent id f A fun a ha => (findNode_none id d a).1 (hA a ha)
      have hBm : B.map (modifyNode id f d) = B :=
        map_modify_absent id f B fun b hb hm => by
          obtain ⟨q, hq, e⟩ := List.mem_map.1 hm
          exact hcB id hidc id (List.mem_map.2 ⟨q, List.mem_flatMap.2 ⟨b, hb, hq⟩, e⟩) rfl
      have hmn : modifyNode id f (d + 1) i =
          (Inner.mk i.id i.runts (A ++ modifyNode id f d c :: B) : Inner K (Node K V d)) :=
        (modifyNode_inner id f i).trans ((if_neg hid).trans (by rw [hk, List.map_append, List.map_cons, hAm, hBm]))
      obtain ⟨hfc, hcid⟩ := hmod f hndc hfid
      have hsh : shallow (d := d + 1) (Inner.mk i.id i.runts (A ++ modifyNode id f d c :: B) : Inner K (Node K V d)) =
          shallow (d := d + 1) i := by
        show Shallow.mk (d + 1) i.runts [] none ((A ++ modifyNode id f d c :: B).map (Node.id (d := d))) =
          Shallow.mk (d + 1) i.runts [] none (i.kids.map (Node.id (d := d)))
        rw [hk, List.map_append, List.map_cons, List.map_append, List.map_cons, hcid]
      rw [hmn]
      refine ⟨?_, rfl⟩
      rw [flat_mk, hsh, List.flatMap_append, List.flatMap_cons, hfc]
      simp only [List.append_assoc, List.cons_append]



theorem lookup_append_of_not_mem {β : Type} (id : Nat) (L R : List (Nat × β)) (h : ∀ p ∈ L, p.1 ≠ id) :
    (L ++ R).lookup id = R.lookup id := by
  rw [List.lookup_append, List.lookup_eq_none_iff.2 (fun p hp => by simpa using (h p hp).symm), Option.none_or]

theorem lookup_none_of_not_mem {β : Type} (id : Nat) (L : List (Nat × β)) (h : id ∉ L.map Prod.fst) :
    L.lookup id = none :=
  List.lookup_eq_none_iff.2 fun p hp => bne_iff_ne.2 fun e => h (e ▸ List.mem_map_of_mem hp)

theorem look_eq_find (t : Tree K V) (id : Nat) :
    t.look id = (t.find id).map fun a => shallow a.n := by
  unfold Tree.look Tree.find Tree.flat
  cases h : findNode id t.depth t.root with
  | none =>
    rw [lookup_none_of_not_mem id _ ((findNode_none id _ _).1 h)]; rfl
  | some a =>
    obtain ⟨d', m⟩ := a
    obtain ⟨hmid, L, R, hflat, hL, _⟩ := find_modify_flat id _ _ d' m h
    obtain ⟨rest, hrest⟩ := flat_head m
    rw [hflat, List.append_assoc, lookup_append_of_not_mem id L _ hL, hrest, hmid]
    simp [List.lookup_cons]

theorem look_of_find {t : Tree K V} {id d : Nat} {m : Node K V d} (h : t.find id = some ⟨d, m⟩) :
    t.look id = some (shallow m) := by
  rw [look_eq_find, h]; rfl

theorem find_some_of_look {t : Tree K V} {id : Nat} {sh : Shallow K V} (h : t.look id = some sh) :
    ∃ a, t.find id = some a ∧ shallow a.n = sh ∧ Node.id a.n = id := by
  rw [look_eq_find] at h
  cases hf : t.find id with
  | none => rw [hf] at h; cases h
  | some a =>
    rw [hf] at h
    obtain ⟨d', m⟩ := a
    obtain ⟨hmid, _⟩ := find_modify_flat id _ _ d' m hf
    exact ⟨⟨d', m⟩, rfl, by simpa using h, hmid⟩

theorem look_eq_some_iff {t : Tree K V} (hn : t.ids.Nodup) (id : Nat) (sh : Shallow K V) :
    t.look id = some sh ↔ (id, sh) ∈ t.flat :=
  ⟨mem_of_lookup _ id sh, lookup_of_mem _ id sh hn⟩

theorem Tree.find_modify {t : Tree K V} {id d' : Nat} {m : Node K V d'} (h : t.find id = some ⟨d', m⟩) :
    Node.id m = id ∧
    ∃ L R, t.flat = L ++ flat m ++ R ∧
      ∀ f : (d : Nat) → Node K V d → Node K V d, t.ids.Nodup → Node.id (f d' m) = id →
        (t.modify id f).flat = L ++ flat (f d' m) ++ R ∧ (t.modify id f).rootId = t.rootId := by
  obtain ⟨hmid, L, R, hflat, _, hmod⟩ := find_modify_flat id _ _ d' m h
  exact ⟨hmid, L, R, hflat, fun f hn hf => hmod f hn hf⟩

theorem putInner_apply {d : Nat} (p' : Inner K (Node K V d)) (m : Node K V (d + 1)) :
    (fun d' (n : Node K V d') => if h : d' = d + 1 then h ▸ (p' : Node K V (d + 1)) else n) (d + 1) m = p' := by
  simp; rfl

theorem putInner_flat {t : Tree K V} {d : Nat} {p : Node K V (d + 1)} (p' : Inner K (Node K V d))
    (h : t.find p'.id = some ⟨d + 1, p⟩) (hn : t.ids.Nodup) :
    ∃ L R, t.flat = L ++ flat p ++ R ∧ (putInner t p').flat = L ++ flat (d := d + 1) p' ++ R ∧
      (putInner t p').rootId = t.rootId ∧ (putInner t p').depth = t.depth ∧
      (putInner t p').nextId = t.nextId ∧ (putInner t p').order = t.order := by
  obtain ⟨_, L, R, hflat, hmod⟩ := Tree.find_modify h
  have := hmod (fun d' n => if h : d' = d + 1 then h ▸ (p' : Node K V (d + 1)) else n) hn (by simp; rfl)
  rw [dif_pos rfl] at this
  exact ⟨L, R, hflat, this.1, this.2, rfl, rfl, rfl⟩

theorem putLeaf_flat {t : Tree K V} {l : Node K V 0} (l' : Leaf K V)
    (h : t.find l'.id = some ⟨0, l⟩) (hn : t.ids.Nodup) :
    ∃ L R, t.flat = L ++ flat l ++ R ∧ (putLeaf t l').flat = L ++ flat (d := 0) l' ++ R ∧
      (putLeaf t l').rootId = t.rootId ∧ (putLeaf t l').depth = t.depth ∧
      (putLeaf t l').nextId = t.nextId ∧ (putLeaf t l').order = t.order := by
  obtain ⟨_, L, R, hflat, hmod⟩ := Tree.find_modify h
  have := hmod (fun d n => match d, n with
    | 0, _ => (l' : Leaf K V)
    | _ + 1, n => n) hn rfl
  exact ⟨L, R, hflat, this.1, this.2, rfl, rfl, rfl⟩


theorem FrameEq.refl (keep : Nat → Bool) (l : List (Nat × Shallow K V)) : FrameEq keep l l := rfl

theorem FrameEq.trans {keep : Nat → Bool} {a b c : List (Nat × Shallow K V)}
    (h1 : FrameEq keep a b) (h2 : FrameEq keep b c) : FrameEq keep a c := Eq.trans h1 h2

theorem FrameEq.context {keep : Nat → Bool} (L R : List (Nat × Shallow K V)) {A A' : List (Nat × Shallow K V)}
    (h : FrameEq keep A A') : FrameEq keep (L ++ A ++ R) (L ++ A' ++ R) := by
  unfold FrameEq at *
  simp only [List.filter_append, h]

theorem FrameEq.mono {keep keep' : Nat → Bool} {a b : List (Nat × Shallow K V)}
    (hk : ∀ i, keep' i = true → keep i = true) (h : FrameEq keep a b) : FrameEq keep' a b := by
  unfold FrameEq at *
  have e : ∀ l : List (Nat × Shallow K V),
      l.filter (fun p => keep' p.1) = (l.filter (fun p => keep p.1)).filter (fun p => keep' p.1) := by
    intro l
    rw [List.filter_filter]
    apply List.filter_congr
    intro p _
    cases h1 : keep' p.1 with
    | false => simp
    | true => simp [hk p.1 h1]
  rw [e a, e b, h]

theorem FrameEq.lookup {keep : Nat → Bool} {a b : List (Nat × Shallow K V)} (h : FrameEq keep a b)
    (id : Nat) (hk : keep id = true) : a.lookup id = b.lookup id := by
  have key : ∀ l : List (Nat × Shallow K V), l.lookup id = (l.filter (fun p => keep p.1)).lookup id := by
    intro l
    induction l with
    | nil => rfl
    | cons x xs ih =>
      obtain ⟨i, sh⟩ := x
      rw [List.lookup_cons, List.filter_cons]
      by_cases e : id = i
      · subst e
        simp [hk, List.lookup_cons]
      · have hb : (id == i) = false := by simp; exact e
        rw [hb]
        cases hki : keep i with
        | true => simp only [hki, if_true, List.lookup_cons, hb]; exact ih
        | false => simp only [hki]; exact ih
  rw [key a, key b, h]

def enids : {d : Nat} → List (Ent K V d) → List Nat
  | 0, _ => []
  | d + 1, (es : List (Node K V d)) => es.flatMap (idsOf (d := d))

theorem idsOf_view {d : Nat} (n : Node K V d) : idsOf n = Node.id n :: enids (Node.ents n) := by
  cases d with
  | zero => rfl
  | succ d => exact idsOf_succ n

theorem enids_append {d : Nat} (a b : List (Ent K V d)) : enids (a ++ b) = enids a ++ enids b := by
  cases d with
  | zero => rfl
  | succ d => exact List.flatMap_append

theorem enids_sublist {d : Nat} {a b : List (Ent K V d)} (h : a.Sublist b) : (enids a).Sublist (enids b) := by
  cases d with
  | zero => exact List.Sublist.refl _
  | succ d => exact sublist_flatMap _ h

end Gobptree.Conc
