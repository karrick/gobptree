/-
  Concurrent KEY-ORDER invariant (on top of the structural invariant `CInv`).

  `Ord` is the ordering half of the sequential shape invariant `WF` (no occupancy clauses:
  those are carried by `CInv`): keys/separators strictly ascending, every key of a subtree
  inside the interval its parent assigns to it, child 0 bounded below by its parent's first
  separator as well.  `routeB` is the search path of a key, annotated with those intervals.
-/
import Gobptree.Proofs.WF
import Gobptree.Conc
import Gobptree.Proofs.CSDefs
import Gobptree.Spec

namespace Gobptree.Conc
open Gobptree

variable {K V : Type}

/-- ordering invariant of a node of height `d` whose keys must lie in `[lo, hi)` -/
def Ord (lt : K → K → Bool) : (d : Nat) → Option K → Option K → Node K V d → Prop
  | 0, lo, hi, (l : Leaf K V) =>
    Sorted lt l.keys ∧ ∀ k ∈ l.keys, leO lt lo k ∧ ltO lt k hi
  | d + 1, lo, hi, (i : Inner K (Node K V d)) =>
    (∀ k, i.runts.head? = some k → leO lt lo k) ∧
    Kids lt (fun a b c => Ord lt d a b c) hi (i.runts.zip i.kids)

def OrdTree (lt : K → K → Bool) (t : Tree K V) : Prop := Ord lt t.depth none none t.root

/-- upper end of the interval of kid `j`: the next separator, or the node's own upper end -/
def hiAt (runts : List K) (j : Nat) (hi : Option K) : Option K :=
  match runts[j + 1]? with
  | some s => some s
  | none => hi

/-- the search path of `key` from node `n` (identity and interval of every node visited) -/
def routeB (lt : K → K → Bool) (key : K) : (d : Nat) → Option K → Option K → Node K V d → List (Nat × Option K × Option K)
  | 0, lo, hi, (l : Leaf K V) => [(l.id, lo, hi)]
  | d + 1, lo, hi, (i : Inner K (Node K V d)) =>
    (i.id, lo, hi) ::
      (let j := searchLE lt key i.runts
       match i.runts[j]?, i.kids[j]? with
       | some s, some c => routeB lt key d (some s) (hiAt i.runts j hi) c
       | _, _ => [])

def _root_.Gobptree.Tree.routeB (lt : K → K → Bool) (t : Tree K V) (key : K) : List (Nat × Option K × Option K) :=
  Conc.routeB lt key t.depth none none t.root

/-- node `id` is on the search path of `key` -/
def OnRoute (lt : K → K → Bool) (t : Tree K V) (key : K) (id : Nat) : Prop :=
  ∃ lo hi, (id, lo, hi) ∈ t.routeB lt key

/-- node `id` is on the search path of `key` and `key` is not below the node's interval
    (what an Insert/Update has established of every node it has passed) -/
def InBounds (lt : K → K → Bool) (t : Tree K V) (key : K) (id : Nat) : Prop :=
  ∃ lo hi, (id, lo, hi) ∈ t.routeB lt key ∧ leO lt lo key

/-- the separators of node `id` -/
def keysOf (t : Tree K V) (id : Nat) : List K :=
  match t.look id with
  | some sh => sh.keys
  | none => []

/-- position of a parked thread with respect to the key of its operation -/
def KPos (lt : K → K → Bool) (t : Tree K V) : Kont K V → Prop
  | .roNode _ key (.node p) want =>
    OnRoute lt t key p ∧ t.kidAt p (searchLE lt key (keysOf t p)) = some want
  | .upRootSib key _ _ _ sib => InBounds lt t key sib
  | .upChild key _ _ parent index _ =>
    InBounds lt t key parent ∧ index = searchLE lt key (keysOf t parent)
  | .upSib key _ _ _ _ sib => InBounds lt t key sib
  | .upCallback key _ leaf arg =>
    InBounds lt t key leaf ∧ ∃ sh, t.look leaf = some sh ∧ arg = Spec.lookup lt (sh.keys.zip sh.vals) key
  | .delLeft key _ node index _ _ =>
    OnRoute lt t key node ∧ index = searchLE lt key (keysOf t node)
  | .delChild key _ node index _ _ _ =>
    OnRoute lt t key node ∧ index = searchLE lt key (keysOf t node)
  -- no clause: under the tree lock the thread waits for the root, which is on every route;
  -- `delRight` has already erased its key
  | _ => True

def parkKPos (lt : K → K → Bool) (t : Tree K V) : Park K V → Prop
  | .want _ k => KPos lt t k
  | .yielded k => KPos lt t k
  | _ => True

/-- parameters: the comparison is the given strict weak order -/
structure KParams (lt : K → K → Bool) (P : Params K) : Prop where
  swo : SWO lt
  lt  : P.lt = lt

/-- the key-order invariant of a configuration -/
structure KInv (lt : K → K → Bool) (c : Config K V) : Prop where
  ord : OrdTree lt c.tree
  pos : ∀ th ∈ c.threads, parkKPos lt c.tree th.park

end Gobptree.Conc
