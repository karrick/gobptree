/-
  List-level machinery for Delete's blocks: `Rw`, the description of one local rewrite
  of a window (a segment) of the flat view (which identities are written, which entries are
  new) from which every component of the structural invariant is derived; what a rewrite does to the
  leaf chain is settled on the view `(id, next)` of the window's leaves (`chain_of_view`).  `Rw` is the calculus of Delete's blocks: no
  allocation, order at least 4 (`TreeOk'`).  The blocks that may allocate, at any order
  from 2, use `MidOk`/`Step` (CSUpBase).
-/
import Gobptree.Proofs.CSFlat

namespace Gobptree.Conc
open Gobptree

variable {K V : Type}

theorem fst_mem {W : List (Nat × Shallow K V)} {e : Nat × Shallow K V} (h : e ∈ W) : e.1 ∈ W.map Prod.fst :=
  List.mem_map.2 ⟨e, h, rfl⟩

/-- `W ↦ W'` writes only identities in `wr` (all of which occur in `W`); the entries of `W'`
    are the entries listed in `new` and entries of `W` whose identity is not written -/
structure Rw (wr : List Nat) (new W W' : List (Nat × Shallow K V)) : Prop where
  ids   : ∃ M, (W'.map Prod.fst).Perm M ∧ M.Sublist (W.map Prod.fst)
  mem   : ∀ e ∈ W', e ∈ new ∨ (e ∈ W ∧ e.1 ∉ wr)
  wrsub : ∀ x ∈ wr, x ∈ W.map Prod.fst
  frame : ∀ keep : Nat → Bool, (∀ x ∈ wr, keep x = false) →
            W.filter (fun p => keep p.1) = W'.filter (fun p => keep p.1)
  chain : ∀ X Y, Chain (X ++ flatLeaves W ++ Y) → Chain (X ++ flatLeaves W' ++ Y)

theorem Rw.refl (W : List (Nat × Shallow K V)) : Rw [] [] W W :=
  ⟨⟨_, List.Perm.refl _, List.Sublist.refl _⟩, fun _ h => Or.inr ⟨h, by simp⟩, fun _ h => (by cases h),
   fun _ _ => rfl, fun _ _ h => h⟩

theorem Rw.mono {wr : List Nat} {new new' W W' : List (Nat × Shallow K V)} (h : Rw wr new W W')
    (hn : ∀ e ∈ new, e ∈ new') : Rw wr new' W W' :=
  ⟨h.ids, fun e he => (h.mem e he).imp (hn e) id, h.wrsub, h.frame, h.chain⟩

theorem Rw.append {wr1 wr2 : List Nat} {n1 n2 A A' B B' : List (Nat × Shallow K V)}
    (h1 : Rw wr1 n1 A A') (h2 : Rw wr2 n2 B B') (hn : ((A ++ B).map Prod.fst).Nodup) :
    Rw (wr1 ++ wr2) (n1 ++ n2) (A ++ B) (A' ++ B') := by
  obtain ⟨M1, p1, s1⟩ := h1.ids
  obtain ⟨M2, p2, s2⟩ := h2.ids
  rw [List.map_append, List.nodup_append] at hn
  obtain ⟨_, _, hdis⟩ := hn
  refine ⟨⟨M1 ++ M2, ?_, ?_⟩, ?_, ?_, ?_, ?_⟩
  · rw [List.map_append]; exact p1.append p2
  · rw [List.map_append]; exact s1.append s2
  · intro e he
    rcases List.mem_append.1 he with he | he
    · rcases h1.mem e he with h | ⟨h, hw⟩
      · exact Or.inl (List.mem_append_left _ h)
      · refine Or.inr ⟨List.mem_append_left _ h, ?_⟩
        intro hx
        rcases List.mem_append.1 hx with hx | hx
        · exact hw hx
        · exact hdis e.1 (fst_mem h) e.1 (h2.wrsub _ hx) rfl
    · rcases h2.mem e he with h | ⟨h, hw⟩
      · exact Or.inl (List.mem_append_right _ h)
      · refine Or.inr ⟨List.mem_append_right _ h, ?_⟩
        intro hx
        rcases List.mem_append.1 hx with hx | hx
        · exact hdis e.1 (h1.wrsub _ hx) e.1 (fst_mem h) rfl
        · exact hw hx
  · intro x hx
    rw [List.map_append]
    rcases List.mem_append.1 hx with hx | hx
    · exact List.mem_append_left _ (h1.wrsub x hx)
    · exact List.mem_append_right _ (h2.wrsub x hx)
  · intro keep hk
    rw [List.filter_append, List.filter_append,
      h1.frame keep (fun x hx => hk x (List.mem_append_left _ hx)),
      h2.frame keep (fun x hx => hk x (List.mem_append_right _ hx))]
  · intro X Y hc
    rw [flatLeaves_append] at hc ⊢
    have e1 : X ++ (flatLeaves A ++ flatLeaves B) ++ Y = X ++ flatLeaves A ++ (flatLeaves B ++ Y) := by
      simp [List.append_assoc]
    rw [e1] at hc
    have hc1 := h1.chain X _ hc
    have e2 : X ++ flatLeaves A' ++ (flatLeaves B ++ Y) = (X ++ flatLeaves A') ++ flatLeaves B ++ Y := by
      simp [List.append_assoc]
    rw [e2] at hc1
    have hc2 := h2.chain _ Y hc1
    simpa [List.append_assoc] using hc2

theorem Rw.context {wr : List Nat} {new W W' : List (Nat × Shallow K V)} (L R : List (Nat × Shallow K V))
    (h : Rw wr new W W') (hn : ((L ++ W ++ R).map Prod.fst).Nodup) :
    Rw wr new (L ++ W ++ R) (L ++ W' ++ R) := by
  have hn1 : ((L ++ W).map Prod.fst).Nodup := by
    rw [List.map_append, List.nodup_append] at hn
    exact hn.1
  have := ((Rw.refl L).append h hn1).append (Rw.refl R) hn
  simpa using this

theorem Rw.cons {wr : List Nat} {new W W' : List (Nat × Shallow K V)} (p : Nat × Shallow K V)
    (h : Rw wr new W W') (hn : ((p :: W).map Prod.fst).Nodup) : Rw wr new (p :: W) (p :: W') := by
  have := (Rw.refl [p]).append h hn
  simpa using this

/-- one entry is written in place: same height, and a leaf keeps its `next` -/
theorem Rw.single (id : Nat) (sh sh' : Shallow K V) (hh : sh'.height = sh.height)
    (hn : sh.height = 0 → sh'.next = sh.next) : Rw [id] [(id, sh')] [(id, sh)] [(id, sh')] := by
  refine ⟨⟨[id], List.Perm.refl _, List.Sublist.refl _⟩, fun e he => Or.inl he, ?_, ?_, ?_⟩
  · intro x hx; simpa using hx
  · intro keep hk
    have : keep id = false := hk id (by simp)
    simp [this]
  · by_cases h0 : sh.height = 0
    · refine chain_of_view _ _ ?_
      rw [chainView_cons_leaf _ _ _ h0, chainView_cons_leaf _ _ _ (hh.trans h0), hn h0]
      exact fun _ _ h => h
    · intro X Y hc
      rw [flatLeaves_cons_inner _ _ h0] at hc
      rw [flatLeaves_cons_inner _ _ (by simpa [hh] using h0)]
      exact hc

/-- an inner entry `b` changes its place among the other entries, which keep their order;
    it gets new fields (`nb = [(b, sb')]`) or disappears (`nb = []`). No leaf moves, so the
    chain is untouched, and a filter that drops `b` sees no difference. -/
theorem Rw.move (b : Nat) (sb : Shallow K V) (nb P1 P2 Q1 Q2 : List (Nat × Shallow K V))
    (hPQ : P1 ++ P2 = Q1 ++ Q2) (hb : sb.height ≠ 0)
    (hnb : nb = [] ∨ ∃ sb' : Shallow K V, nb = [(b, sb')] ∧ sb'.height ≠ 0)
    (hn : ((P1 ++ (b, sb) :: P2).map Prod.fst).Nodup) :
    Rw [b] nb (P1 ++ (b, sb) :: P2) (Q1 ++ (nb ++ Q2)) := by
  have hids : (nb.map Prod.fst).Sublist [b] := by
    rcases hnb with rfl | ⟨_, rfl, _⟩
    · exact List.nil_sublist _
    · exact List.Sublist.refl _
  have hfil : ∀ p : Nat × Shallow K V → Bool, p (b, sb) = false → (∀ e ∈ nb, p e = false) →
      (P1 ++ (b, sb) :: P2).filter p = (Q1 ++ (nb ++ Q2)).filter p := by
    intro p h1 h2
    have h3 : nb.filter p = [] := List.filter_eq_nil_iff.2 fun e he => by simp [h2 e he]
    simp only [List.filter_append, h3, List.nil_append, List.filter_cons_of_neg (Bool.eq_false_iff.1 h1)]
    rw [← List.filter_append, ← List.filter_append, hPQ]
  have hperm : ∀ A B : List (Nat × Shallow K V), (A ++ (nb ++ B)).Perm (nb ++ (A ++ B)) := fun A B => by
    rw [← List.append_assoc, ← List.append_assoc]; exact List.perm_append_comm.append_right B
  have hfresh : b ∉ (P1 ++ P2).map Prod.fst := by
    rw [List.map_append, List.map_cons] at hn
    rw [List.map_append]
    exact (List.nodup_cons.1 ((List.perm_middle.nodup_iff).1 hn)).1
  refine ⟨⟨(P1 ++ (nb ++ P2)).map Prod.fst, ?_, ?_⟩, ?_, ?_, ?_, ?_⟩
  · refine List.Perm.map _ ((hperm Q1 Q2).trans ?_)
    rw [← hPQ]
    exact (hperm P1 P2).symm
  · simp only [List.map_append, List.map_cons]
    exact (List.Sublist.refl _).append (hids.append (List.Sublist.refl _))
  · intro e he
    rw [List.mem_append, List.mem_append, or_left_comm, ← List.mem_append, ← hPQ] at he
    rcases he with he | he
    · exact Or.inl he
    · refine Or.inr ⟨?_, fun hx => hfresh ?_⟩
      · rcases List.mem_append.1 he with h | h
        · exact List.mem_append_left _ h
        · exact List.mem_append_right _ (List.mem_cons_of_mem _ h)
      · rw [← List.mem_singleton.1 hx]
        exact fst_mem he
  · intro x hx
    rw [List.mem_singleton.1 hx]
    exact fst_mem (e := (b, sb)) (List.mem_append_right _ List.mem_cons_self)
  · intro keep hk
    have hkb : keep b = false := hk b List.mem_cons_self
    refine hfil _ hkb fun e he => ?_
    rcases hnb with rfl | ⟨_, rfl, _⟩
    · cases he
    · rw [List.mem_singleton.1 he]; exact hkb
  · intro X Y hc
    have : flatLeaves (P1 ++ (b, sb) :: P2) = flatLeaves (Q1 ++ (nb ++ Q2)) := by
      refine hfil _ (beq_false_of_ne hb) fun e he => ?_
      rcases hnb with rfl | ⟨_, rfl, h⟩
      · cases he
      · rw [List.mem_singleton.1 he]; exact beq_false_of_ne h
    rw [← this]
    exact hc

/-- two inner siblings borrow or merge: the left one `a`, heading the window, is written in place; the
    right one `b` moves behind the kids it handed over, or disappears (`Rw.move`) -/
theorem Rw.shift (a b : Nat) (sa sa' sb : Shallow K V) (nb P1 P2 Q1 Q2 : List (Nat × Shallow K V))
    (hPQ : P1 ++ P2 = Q1 ++ Q2) (ha : sa.height ≠ 0) (ha' : sa'.height = sa.height) (hb : sb.height ≠ 0)
    (hnb : nb = [] ∨ ∃ sb' : Shallow K V, nb = [(b, sb')] ∧ sb'.height ≠ 0)
    (hn : (((a, sa) :: (P1 ++ (b, sb) :: P2)).map Prod.fst).Nodup) :
    Rw [a, b] ((a, sa') :: nb) ((a, sa) :: (P1 ++ (b, sb) :: P2)) ((a, sa') :: (Q1 ++ (nb ++ Q2))) :=
  (Rw.single a sa sa' ha' (fun h => absurd h ha)).append
    (Rw.move b sb nb P1 P2 Q1 Q2 hPQ hb hnb (List.nodup_cons.1 hn).2) hn

/-- a leaf `a` absorbs its right neighbour `b` and takes over its `next` -/
theorem Rw.mergeLeaf (a b : Nat) (sa sa' sb : Shallow K V)
    (ha : sa.height = 0) (ha' : sa'.height = 0) (hb : sb.height = 0) (hn : sa'.next = sb.next) :
    Rw [a, b] [(a, sa')] [(a, sa), (b, sb)] [(a, sa')] := by
  refine ⟨⟨_, List.Perm.refl _, ?_⟩, fun e he => Or.inl he, ?_, ?_, ?_⟩
  · simp only [List.map_cons, List.map_nil]
    exact List.Sublist.cons_cons _ (List.nil_sublist _)
  · intro x hx
    simp only [List.mem_cons, List.not_mem_nil, or_false] at hx
    rcases hx with rfl | rfl <;> simp
  · intro keep hk
    have h1 : keep a = false := hk a (by simp)
    have h2 : keep b = false := hk b (by simp)
    simp [h1, h2]
  · refine chain_of_view _ _ fun U W => ?_
    rw [chainView_cons_leaf _ _ _ ha, chainView_cons_leaf _ _ _ hb, chainView_cons_leaf _ _ _ ha', hn,
      chainView_nil, List.append_assoc, List.append_assoc]
    exact chainV_merge U W a b sa.next sb.next

theorem Rw.nodup {wr : List Nat} {new W W' : List (Nat × Shallow K V)} (h : Rw wr new W W')
    (hn : (W.map Prod.fst).Nodup) : (W'.map Prod.fst).Nodup := by
  obtain ⟨M, p, s⟩ := h.ids
  exact (p.nodup_iff).2 (hn.sublist s)

theorem Rw.idmem {wr : List Nat} {new W W' : List (Nat × Shallow K V)} (h : Rw wr new W W')
    (x : Nat) (hx : x ∈ W'.map Prod.fst) : x ∈ W.map Prod.fst := by
  obtain ⟨M, p, s⟩ := h.ids
  exact s.subset ((p.mem_iff).1 hx)

theorem Rw.chain_nil {wr : List Nat} {new W W' : List (Nat × Shallow K V)} (h : Rw wr new W W')
    (hc : Chain (flatLeaves W)) : Chain (flatLeaves W') := by
  simpa using h.chain [] [] (by simpa using hc)

theorem Rw.frameEq {wr : List Nat} {new W W' : List (Nat × Shallow K V)} (h : Rw wr new W W')
    (keep : Nat → Bool) (hk : ∀ x ∈ wr, keep x = false) : FrameEq keep W W' := h.frame keep hk

theorem Rw.lookup {wr : List Nat} {new W W' : List (Nat × Shallow K V)} (h : Rw wr new W W')
    (x : Nat) (hx : x ∉ wr) : W.lookup x = W'.lookup x := by
  apply FrameEq.lookup (h.frameEq (fun y => decide (y ∉ wr)) (by intro y hy; simp [hy])) x
  simp [hx]

end Gobptree.Conc
