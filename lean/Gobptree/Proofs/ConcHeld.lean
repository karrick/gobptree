/-
  Lock bookkeeping of the small-step model: what a parked thread holds is a function of
  where it is parked (`kontHeld`) and of its cursor (`cursorLocks`).  `FlowOk` says so of the
  outcome of a block; it is shown of every block through the case rules of ConcCases.lean and
  carried over a scheduler step (`runThread_ok`).  From this: nothing is held when an operation
  has returned (C09) and the coupling bound (C10).
-/
import Gobptree.Proofs.ConcCases
import Gobptree.Proofs.ConcCursorOps
import Gobptree.Proofs.ConcStep

namespace Gobptree.Conc
open Gobptree

variable {K V : Type}

def optLock : Option Nat → List Lk
  | some l => [.node l]
  | none => []

/-- what the pending `deleteKey` activations still hold (their unlocks are deferred): per
    activation the left sibling, if any, and the child it descended into, in the order of
    acquisition (the head of the list is the innermost activation) -/
def framesHeld : List Frame → List Lk
  | [] => []
  | fr :: rest => framesHeld rest ++ (optLock fr.left ++ [.node fr.child])

/-- locks a thread parked with continuation `k` holds (besides its cursor's leaf) -/
def kontHeld : Kont K V → List Lk
  | .roTree _ _ => []
  | .roNode _ _ hold _ => [hold]
  | .upTree _ _ _ => []
  | .upRoot _ _ _ _ => [.tree]
  | .upRootSib _ _ _ root _ => [.tree, .node root]
  | .upChild _ _ _ parent _ _ => [.node parent]
  | .upSib _ _ _ parent child _ => [.node parent, .node child]
  | .upCallback _ _ leaf _ => [.node leaf]
  | .delTree _ => []
  | .delRoot _ _ => [.tree]
  | .delLeft _ frames _ _ _ root => .tree :: .node root :: framesHeld frames
  | .delChild _ frames _ _ left _ root => .tree :: .node root :: (framesHeld frames ++ optLock left)
  | .delRight _ rest fr _ root => .tree :: .node root :: framesHeld (fr :: rest)
  | .hop _ _ => []
  | .paused => []

/-- the mutex a continuation acquires when it is resumed (`none`: it resumes from a yield) -/
def kontLock : Kont K V → Option Lk
  | .roTree _ _ => some .tree
  | .roNode _ _ _ want => some (.node want)
  | .upTree _ _ _ => some .tree
  | .upRoot _ _ _ r => some (.node r)
  | .upRootSib _ _ _ _ sib => some (.node sib)
  | .upChild _ _ _ _ _ child => some (.node child)
  | .upSib _ _ _ _ _ sib => some (.node sib)
  | .upCallback _ _ _ _ => none
  | .delTree _ => some .tree
  | .delRoot _ r => some (.node r)
  | .delLeft _ _ _ _ left _ => some (.node left)
  | .delChild _ _ _ _ _ child _ => some (.node child)
  | .delRight _ _ _ right _ => some (.node right)
  | .hop _ next => some (.node next)
  | .paused => none

def ParkLockOk : Park K V → Prop
  | .want l k => kontLock k = some l
  | .yielded k => kontLock k = none
  | _ => True

def parkHeld : Park K V → List Lk
  | .start => []
  | .want _ k => kontHeld k
  | .yielded k => kontHeld k
  | .finished => []

def KontPre (cur : Option (Option Nat × Int)) : Kont K V → Prop
  | .hop c _ => cursorLocks cur = [.node c]
  | .paused => True
  | _ => cursorLocks cur = []

def ParkPre (cur : Option (Option Nat × Int)) : Park K V → Prop
  | .want _ k => KontPre cur k
  | .yielded k => KontPre cur k
  | _ => True

theorem parkPre_kont {p : Park K V} {k : Kont K V} (h : p.kont? = some k) (c : Option (Option Nat × Int)) :
    ParkPre c p = KontPre c k := by
  cases p <;> cases h <;> rfl

theorem parkHeld_kont {p : Park K V} {k : Kont K V} (h : p.kont? = some k) : parkHeld p = kontHeld k := by
  cases p <;> cases h <;> rfl

/-- outcome of a block is consistent with the bookkeeping (up to the order in which
    the held list records the locks) -/
def FlowOk (s : St K V) : Flow K V → Prop
  | .park p => List.Perm s.held (cursorLocks s.cursor ++ parkHeld p) ∧ ParkPre s.cursor p ∧ ParkLockOk p
  | .done _ => List.Perm s.held (cursorLocks s.cursor)
  | .panic => True

@[simp] theorem acq_held (s : St K V) (t : Nat) (l : Lk) : (s.acq t l).held = s.held ++ [l] := rfl
@[simp] theorem rel_held (s : St K V) (t : Nat) (l : Lk) : (s.rel t l).held = s.held.erase l := rfl
@[simp] theorem acq_cursor (s : St K V) (t : Nat) (l : Lk) : (s.acq t l).cursor = s.cursor := rfl
@[simp] theorem rel_cursor (s : St K V) (t : Nat) (l : Lk) : (s.rel t l).cursor = s.cursor := rfl
@[simp] theorem note_held (s : St K V) (t : Nat) (n : Note K V) : (s.note t n).held = s.held := rfl
@[simp] theorem note_cursor (s : St K V) (t : Nat) (n : Note K V) : (s.note t n).cursor = s.cursor := rfl
@[simp] theorem acq_tree (s : St K V) (t : Nat) (l : Lk) : (s.acq t l).tree = s.tree := rfl
@[simp] theorem rel_tree (s : St K V) (t : Nat) (l : Lk) : (s.rel t l).tree = s.tree := rfl
@[simp] theorem note_tree (s : St K V) (t : Nat) (n : Note K V) : (s.note t n).tree = s.tree := rfl

theorem perm_erase {l rest : List Lk} {a : Lk} (h : List.Perm l (a :: rest)) : List.Perm (l.erase a) rest := by
  have := h.erase a
  simpa using this

theorem perm_acq {l l' : List Lk} (a : Lk) (h : List.Perm l l') : List.Perm (l ++ [a]) (l' ++ [a]) :=
  h.append_right [a]

theorem FlowOk.park_of {s : St K V} {p : Park K V} (hc : cursorLocks s.cursor = [])
    (hh : List.Perm s.held (parkHeld p)) (hpre : ParkPre s.cursor p) (hl : ParkLockOk p) : FlowOk s (.park p) :=
  ⟨by rw [hc]; exact hh, hpre, hl⟩

theorem FlowOk.done_of {s : St K V} {r : Res K V} (hc : cursorLocks s.cursor = []) (hh : List.Perm s.held []) :
    FlowOk s (.done r) := by
  show List.Perm s.held (cursorLocks s.cursor)
  rw [hc]; exact hh

theorem roArrive_ok (P : Params K) (t : Nat) (s : St K V) (sc : Bool) (key : K) (hold : Lk) (n : Nat)
    (hh : List.Perm s.held [hold, .node n]) (hc : cursorLocks s.cursor = []) :
    FlowOk (roArrive P t s sc key hold n).1 (roArrive P t s sc key hold n).2 :=
  have h1 : List.Perm (s.held.erase hold) [.node n] := perm_erase hh
  roArrive_cases P t s sc key hold n (Q := fun r => FlowOk r.1 r.2) trivial (fun _ _ => h1)
    (fun _ => .done_of hc (perm_erase h1)) (fun _ => .park_of hc h1 hc rfl)

theorem upLeaf_ok (P : Params K) (t : Nat) (s : St K V) (key : K) (f : Option V → V) (y : Option Bool) (n : Nat)
    (l : Leaf K V) (hh : List.Perm s.held [.node n]) (hc : cursorLocks s.cursor = []) :
    FlowOk (upLeaf P t s key f y n l).1 (upLeaf P t s key f y n l).2 :=
  upLeaf_cases P t s key f y n l (Q := fun r => FlowOk r.1 r.2) trivial (fun _ _ => .park_of hc hh hc rfl)
    (fun _ _ _ => .done_of hc (perm_erase hh)) (fun _ _ => .done_of hc (perm_erase hh))

theorem upContinue_ok (P : Params K) (t : Nat) (s : St K V) (key : K) (f : Option V → V) (y : Option Bool) (n : Nat)
    (hh : List.Perm s.held [.node n]) (hc : cursorLocks s.cursor = []) :
    FlowOk (upContinue P t s key f y n).1 (upContinue P t s key f y n).2 :=
  upContinue_cases P t s key f y n (Q := fun r => FlowOk r.1 r.2) trivial
    (fun l => upLeaf_ok P t s key f y n l hh hc) (fun _ _ => .park_of hc hh hc rfl)

theorem putInner_cursor_irrelevant : True := trivial

theorem upChildArrive_ok (P : Params K) (t : Nat) (s : St K V) (key : K) (f : Option V → V) (y : Option Bool)
    (parent index child : Nat)
    (hh : List.Perm s.held [.node parent, .node child]) (hc : cursorLocks s.cursor = []) :
    FlowOk (upChildArrive P t s key f y parent index child).1 (upChildArrive P t s key f y parent index child).2 :=
  upChildArrive_cases P t s key f y parent index child (Q := fun r => FlowOk r.1 r.2) trivial
    (fun _ _ _ _ _ => upContinue_ok P t _ key f y child (perm_erase hh) hc) (fun _ _ _ _ _ _ => .park_of hc hh hc rfl)

theorem upRootArrive_ok (P : Params K) (t : Nat) (s : St K V) (key : K) (f : Option V → V) (y : Option Bool)
    (root : Nat)
    (hh : List.Perm s.held [.tree, .node root]) (hc : cursorLocks s.cursor = []) :
    FlowOk (upRootArrive P t s key f y root).1 (upRootArrive P t s key f y root).2 :=
  upRootArrive_cases P t s key f y root (Q := fun r => FlowOk r.1 r.2) trivial
    (fun _ _ => upContinue_ok P t _ key f y root (perm_erase hh) hc) (fun _ _ _ _ _ => .park_of hc hh hc rfl)

@[simp] theorem relOpt_tree (t : Nat) (s : St K V) (o : Option Nat) : (relOpt t s o).tree = s.tree := by
  cases o <;> rfl

@[simp] theorem relOpt_cursor (t : Nat) (s : St K V) (o : Option Nat) : (relOpt t s o).cursor = s.cursor := by
  cases o <;> rfl

@[simp] theorem frameUnlock_tree (t : Nat) (s : St K V) (fr : Frame) (r : Option Nat) :
    (frameUnlock t s fr r).tree = s.tree := by
  simp [frameUnlock]

@[simp] theorem frameUnlock_cursor (t : Nat) (s : St K V) (fr : Frame) (r : Option Nat) :
    (frameUnlock t s fr r).cursor = s.cursor := by
  simp [frameUnlock]

theorem relOpt_held (t : Nat) (s : St K V) (o : Option Nat) (base : List Lk)
    (hh : List.Perm s.held (base ++ optLock o)) :
    List.Perm (relOpt t s o).held base := by
  cases o with
  | none => simpa [relOpt, optLock] using hh
  | some r => exact perm_erase (hh.trans (List.perm_append_singleton _ _))

theorem frameUnlock_held (t : Nat) (s : St K V) (fr : Frame) (right : Option Nat) (base : List Lk)
    (hh : List.Perm s.held (base ++ (optLock fr.left ++ [.node fr.child]) ++ optLock right)) :
    List.Perm (frameUnlock t s fr right).held base := by
  unfold frameUnlock
  have h1 := relOpt_held t s right _ hh
  have h2 : List.Perm ((relOpt t s right).rel t (.node fr.child)).held (base ++ optLock fr.left) := by
    refine perm_erase (h1.trans ?_)
    rw [← List.append_assoc]
    exact List.perm_append_singleton _ _
  exact relOpt_held t _ fr.left _ h2

theorem delFinish_ok (t : Nat) (s : St K V) (small : Bool) (root : Nat)
    (hh : List.Perm s.held [.tree, .node root]) (hc : cursorLocks s.cursor = []) :
    FlowOk (delFinish t s small root).1 (delFinish t s small root).2 :=
  delFinish_cases t s small root (Q := fun r => FlowOk r.1 r.2) fun _ _ =>
    .done_of hc (perm_erase (perm_erase (hh.trans (List.Perm.swap _ _ _))))

theorem delUnwind_ok (P : Params K) (t : Nat) (key : K) (root : Nat) :
    ∀ (frames : List Frame) (s : St K V) (small : Bool),
      List.Perm s.held (.tree :: .node root :: framesHeld frames) → cursorLocks s.cursor = [] →
      FlowOk (delUnwind P t s key frames small root).1 (delUnwind P t s key frames small root).2 := by
  intro frames
  induction frames with
  | nil =>
    intro s small hh hc
    rw [delUnwind_nil]
    exact delFinish_ok t s small root hh hc
  | cons fr rest ih =>
    intro s small hh hc
    have hbase : List.Perm s.held ((.tree :: .node root :: framesHeld rest) ++ (optLock fr.left ++ [.node fr.child]) ++ optLock none) := by
      rw [optLock, List.append_nil]; exact hh
    exact delUnwind_cons_cases P t s key fr rest small root (Q := fun r => FlowOk r.1 r.2) trivial
      (fun tr small' _ =>
        ih _ small' (frameUnlock_held t ({ s with tree := tr } : St K V) fr none _ hbase)
          (by rw [frameUnlock_cursor]; exact hc))
      (fun _ => .park_of hc hh hc rfl)

theorem delRightArrive_ok (P : Params K) (t : Nat) (s : St K V) (key : K) (rest : List Frame) (fr : Frame)
    (right root : Nat)
    (hh : List.Perm s.held (.tree :: .node root :: framesHeld (fr :: rest) ++ [.node right]))
    (hc : cursorLocks s.cursor = []) :
    FlowOk (delRightArrive P t s key rest fr right root).1 (delRightArrive P t s key rest fr right root).2 :=
  have hbase : List.Perm s.held ((.tree :: .node root :: framesHeld rest) ++ (optLock fr.left ++ [.node fr.child]) ++ optLock (some right)) :=
    hh
  delRightArrive_cases P t s key rest fr right root (Q := fun r => FlowOk r.1 r.2) trivial fun tr small' _ =>
    delUnwind_ok P t key root rest _ small' (frameUnlock_held t ({ s with tree := tr } : St K V) fr (some right) _ hbase)
      (by rw [frameUnlock_cursor]; exact hc)

theorem delGo_ok (P : Params K) (t : Nat) (s : St K V) (key : K) (frames : List Frame) (n root : Nat)
    (hh : List.Perm s.held (.tree :: .node root :: framesHeld frames)) (hc : cursorLocks s.cursor = []) :
    FlowOk (delGo P t s key frames n root).1 (delGo P t s key frames n root).2 :=
  delGo_cases P t s key frames n root (Q := fun r => FlowOk r.1 r.2) trivial
    (fun _ small => delUnwind_ok P t key root frames _ small hh hc) (fun _ _ => .park_of hc hh hc rfl)
    (fun _ _ => .park_of hc (by simpa [parkHeld, kontHeld, optLock] using hh) hc rfl)

theorem resume_ok (P : Params K) (t : Nat) (s : St K V) (k : Kont K V)
    (hh : List.Perm s.held (cursorLocks s.cursor ++ kontHeld k)) (hpre : KontPre s.cursor k) :
    FlowOk (resume P t s k).1 (resume P t s k).2 := by
  cases k
  -- with an open cursor only the hop and the pause run
  case hop cur next =>
    rw [show cursorLocks s.cursor = [.node cur] from hpre] at hh
    exact perm_erase (perm_acq (.node next) hh)
  case paused => exact hh.trans (List.append_nil _ ▸ .refl _)
  all_goals
    have hc : cursorLocks s.cursor = [] := hpre
    rw [hc] at hh
  case roTree sc key => exact .park_of hc (perm_acq .tree hh) hc rfl
  case roNode sc key hold want => exact roArrive_ok P t _ sc key hold want (perm_acq (.node want) hh) hc
  case upTree key f y => exact .park_of hc (perm_acq .tree hh) hc rfl
  case upRoot key f y r => exact upRootArrive_ok P t _ key f y r (perm_acq (.node r) hh) hc
  case upRootSib key f y root sib =>
    have h3 : List.Perm (s.held ++ [.node sib]) [.node root, .tree, .node sib] :=
      (perm_acq (.node sib) hh).trans (List.Perm.swap _ _ _)
    exact upContinue_ok P t _ key f y sib (perm_erase (perm_erase h3)) hc
  case upChild key f y parent index child =>
    exact upChildArrive_ok P t _ key f y parent index child (perm_acq (.node child) hh) hc
  case upSib key f y parent child sib =>
    have h3 : List.Perm (s.held ++ [.node sib]) [.node child, .node parent, .node sib] :=
      (perm_acq (.node sib) hh).trans (List.Perm.swap _ _ _)
    exact upContinue_ok P t _ key f y sib (perm_erase (perm_erase h3)) hc
  case upCallback key f leaf arg =>
    exact resume_upCallback_cases P t s key f leaf arg (Q := fun r => FlowOk r.1 r.2) trivial
      (fun _ => .done_of hc (perm_erase hh))
  case delTree key => exact .park_of hc (perm_acq .tree hh) hc rfl
  case delRoot key r => exact delGo_ok P t _ key [] r r (perm_acq (.node r) hh) hc
  case delLeft key frames node index left root =>
    exact resume_delLeft_cases P t s key frames node index left root (Q := fun r => FlowOk r.1 r.2) trivial
      (fun _ => .park_of hc (perm_acq (.node left) hh) hc rfl)
  case delChild key frames node index left child root =>
    refine delGo_ok P t _ key _ child root ?_ hc
    have := perm_acq (.node child) hh
    simpa [kontHeld, framesHeld] using this
  case delRight key rest fr right root =>
    exact delRightArrive_ok P t _ key rest fr right root (perm_acq (.node right) hh) hc

theorem CursorOut.ok {t : Nat} {s : St K V} {op : COp K V} {r : St K V × Flow K V} (h : CursorOut t s op r)
    (hh : List.Perm s.held (cursorLocks s.cursor)) : FlowOk r.1 r.2 := by
  cases h with
  | skip => exact hh
  | scanEnd hcur => exact perm_erase (by rw [hcur] at hh; exact hh)
  | scanHop hcur => exact ⟨by rw [hcur] at hh; exact hh, rfl, rfl⟩
  | scanNext hcur => rw [hcur] at hh; exact hh
  | pair => exact hh
  | closeNone => exact hh
  | close hcur =>
    rename_i leaf? _
    rw [hcur] at hh
    cases leaf? with
    | none => exact hh
    | some leaf => exact perm_erase hh
  | _ => trivial

/-- case rule for `startOp`: a map operation (the five with a `firstKont`) panics on misuse or parks at
    `rootMutex`; `Scan`, `Pair` and `Close` end in one of the outcomes `CursorOut` lists; `pause` yields -/
theorem startOp_cases {Q : St K V × Flow K V → Prop} (t : Nat) (s : St K V) (op : COp K V)
    (hpanic : ∀ k, firstKont op = some k → misuse s = true → Q (s, .panic))
    (hpoint : ∀ k, firstKont op = some k → cursorLocks s.cursor = [] → Q (s, .park (.want .tree k)))
    (hcur : op = .scan ∨ op = .pair ∨ op = .close → ∀ r, CursorOut t s op r → Q r)
    (hpause : op = .pause → Q (s, .park (.yielded .paused))) : Q (startOp t s op) := by
  cases hk : firstKont op with
  | some k =>
    rw [startOp_point t s hk]
    split
    · rename_i hm
      exact hpanic k hk hm
    · rename_i hm
      exact hpoint k hk ((misuse_false_iff s).1 (Bool.eq_false_iff.2 hm))
  | none =>
    rcases firstKont_none hk with rfl | rfl | rfl | rfl
    · exact hcur (.inl rfl) _ (startOp_scan t s)
    · exact hcur (.inr (.inl rfl)) _ (startOp_pair t s)
    · exact hcur (.inr (.inr rfl)) _ (startOp_close t s)
    · exact hpause rfl

theorem startOp_ok (t : Nat) (s : St K V) (op : COp K V)
    (hh : List.Perm s.held (cursorLocks s.cursor)) :
    FlowOk (startOp t s op).1 (startOp t s op).2 :=
  startOp_cases t s op (Q := fun r => FlowOk r.1 r.2) (fun _ _ _ => trivial)
    (fun k hk hc => by
      rw [hc] at hh
      rcases firstKont_cases hk with ⟨_, _, _, rfl⟩ | ⟨_, _, rfl⟩ | ⟨_, _, rfl⟩ <;> exact .park_of hc hh hc rfl)
    (fun _ _ h => h.ok hh) (fun _ => ⟨hh.trans (List.append_nil _ ▸ .refl _), trivial, rfl⟩)

def ThreadOk (th : Thread K V) : Prop :=
  List.Perm th.held (cursorLocks th.cursor ++ parkHeld th.park) ∧ ParkPre th.cursor th.park ∧ ParkLockOk th.park

theorem runThread_ok (P : Params K) (t : Nat) (th : Thread K V) (s0 : St K V)
    (h0 : s0.held = th.held) (hc0 : s0.cursor = th.cursor) (hinv : ThreadOk th)
    (hd : (runThread P t th s0).2.2 = false) : ThreadOk (runThread P t th s0).1 := by
  obtain ⟨hh, hpre, hl⟩ := hinv
  rw [← h0, ← hc0] at hh
  rw [← hc0] at hpre
  refine runThread_induct P t th s0 (fun s fl _ => FlowOk s fl) (fun r => r.2.2 = false → ThreadOk r.1)
    (fun _ _ _ h _ => h) (fun _ _ _ hd => by cases hd)
    (fun _ _ _ h _ _ => by simpa [ThreadOk, FlowOk, parkHeld, ParkPre, ParkLockOk] using h)
    (fun _ _ _ op h _ => startOp_ok t _ op h) ?_ ?_ ?_ ?_ hd
  · intro _ _; exact ⟨by rw [← h0, ← hc0]; exact hh, by rw [← hc0]; exact hpre, hl⟩
  · intro hp _ _; rw [hp] at hh; exact ⟨by rw [← h0, ← hc0]; exact hh, trivial, trivial⟩
  · intro op hp _; rw [hp] at hh; exact startOp_ok t _ op (by simpa [parkHeld] using hh)
  · intro k hk
    rw [parkHeld_kont hk] at hh
    rw [parkPre_kont hk] at hpre
    exact resume_ok P t s0 k hh hpre

end Gobptree.Conc
