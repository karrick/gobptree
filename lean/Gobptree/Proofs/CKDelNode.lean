/-
  The three sibling operations (`adoptFromRight`, `adoptFromLeft`, `absorbRight`) on two
  adjacent `Ord` kids pool the keys and entries of both nodes and cut the pool
  at a new place (borrow) or not at all (merge): whatever holds of the pooled chain holds of
  every cut of it.  A leaf is read as a chain too (`leaf_chain`), whose entries, the values,
  are asked nothing: so one proof serves both heights.
-/
import Gobptree.Proofs.CKDelBounds
import Gobptree.Proofs.Split
import Gobptree.Proofs.CSUpNode

namespace Gobptree.Conc
open Gobptree

variable {K V : Type} {lt : K → K → Bool}

/-- outcome of a borrow between adjacent kids `c1` (separator `k1`) and `c2` (separator `k2`,
    upper end `nx`): the new separator of the right-hand node is `s` -/
structure BorrowOut (lt : K → K → Bool) {d : Nat} (k1 k2 s : K) (nx : Option K)
    (c1 c2 c1' c2' : Node K V d) : Prop where
  id1 : Node.id c1' = Node.id c1
  id2 : Node.id c2' = Node.id c2
  ord1 : Ord lt d (some k1) (some s) c1'
  ord2 : Ord lt d (some s) nx c2'
  lt1 : lt k1 s = true
  lt2 : ltO lt s nx
  par1 : ParN d c1'
  par2 : ParN d c2'
  pairs : Node.pairs c1' ++ Node.pairs c2' = Node.pairs c1 ++ Node.pairs c2

/-- outcome of a merge of adjacent kids `a` (separator `k1`) and `b` (separator `k2`) -/
structure MergeOut (lt : K → K → Bool) {d : Nat} (k1 k2 : K) (nx : Option K)
    (a b m : Node K V d) : Prop where
  id : Node.id m = Node.id a
  ord : Ord lt d (some k1) nx m
  par : ParN d m
  pairs : Node.pairs m = Node.pairs a ++ Node.pairs b

theorem head?_append_cons {α : Type} (a : List α) (x : α) (b c : List α) :
    (a ++ x :: b).head? = (a ++ x :: c).head? := by
  cases a <;> rfl

/-! ### what this layer reads of an entry -/

def EOrd (lt : K → K → Bool) : (d : Nat) → Option K → Option K → Ent K V d → Prop
  | 0 => fun _ _ _ => True
  | d + 1 => fun a b (c : Node K V d) => Ord lt d a b c

def EPar : (d : Nat) → Ent K V d → Prop
  | 0 => fun _ => True
  | d + 1 => fun (c : Node K V d) => ParN d c

theorem EOrd_mono_hi (h : SWO lt) : ∀ (d : Nat) (a b b' : Option K) (e : Ent K V d),
    hiLe lt b b' → EOrd lt d a b e → EOrd lt d a b' e
  | 0, _, _, _, _, _, _ => trivial
  | _ + 1, _, _, _, _, hb, hr => Ord_mono_hi h hb hr

theorem Ord_view (h : SWO lt) : ∀ {d : Nat} (lo hi : Option K) (n : Node K V d),
    (Node.keys n).length = (Node.ents n).length →
    (Ord lt d lo hi n ↔ (∀ k, (Node.keys n).head? = some k → leO lt lo k) ∧
      Kids lt (EOrd lt d) hi ((Node.keys n).zip (Node.ents n)))
  | 0, lo, hi, (l : Leaf K V), hl => leaf_chain h hi l.keys l.vals lo hl
  | _ + 1, _, _, _, _ => Iff.rfl

theorem ParN_view : ∀ {d : Nat} (n : Node K V d),
    ParN d n ↔ (d ≠ 0 → (Node.keys n).length = (Node.ents n).length ∧ 1 ≤ (Node.keys n).length) ∧
      ∀ e ∈ Node.ents n, EPar d e
  | 0, _ => ⟨fun _ => ⟨fun h => absurd rfl h, fun _ _ => trivial⟩, fun _ => trivial⟩
  | d + 1, _ => ⟨fun ⟨a, b, c⟩ => ⟨fun _ => ⟨a, b⟩, c⟩, fun ⟨a, c⟩ => ⟨(a (Nat.succ_ne_zero d)).1, (a (Nat.succ_ne_zero d)).2, c⟩⟩

theorem nextLo_zip {C : Type} (nx : Option K) (rs : List K) (ks : List C) (b : K) (hh : rs.head? = some b)
    (hl : rs.length = ks.length) : nextLo nx (rs.zip ks) = some b := by
  cases rs with
  | nil => cases hh
  | cons a rs =>
    cases ks with
    | nil => cases hl
    | cons y ks => cases hh; rfl

theorem Kids_glue {C : Type} {R : Option K → Option K → C → Prop} (h : SWO lt)
    (hR : ∀ a b b' c, hiLe lt b b' → R a b c → R a b' c) {k2 : K} {nx : Option K} {X Y : List (K × C)}
    (hX : Kids lt R (some k2) X) (hY : Kids lt R nx Y) (hb : hiLe lt (some k2) (nextLo nx Y)) :
    Kids lt R nx (X ++ Y) :=
  (Kids_append nx X Y).2 ⟨Kids_mono_hi h hR hb X hX, hY⟩

theorem head_bound {C : Type} (h : SWO lt) {ks : List K} {es : List C} {nx : Option K} {k2 : K}
    (hh : ∀ k, ks.head? = some k → lt k k2 = false) (hl : ks.length = es.length) (hn : ltO lt k2 nx) :
    hiLe lt (some k2) (nextLo nx (ks.zip es)) := by
  cases ks with
  | nil => cases nx with
    | none => trivial
    | some u => exact h.asymm hn
  | cons b t =>
    cases es with
    | nil => cases hl
    | cons y es => exact hh b rfl

theorem pool_any (h : SWO lt) {d : Nat} (c1 c2 : Node K V d) (k1 k2 : K) (nx : Option K)
    (hO1 : Ord lt d (some k1) (some k2) c1) (hO2 : Ord lt d (some k2) nx c2) (h12 : lt k1 k2 = true)
    (L1 : (Node.keys c1).length = (Node.ents c1).length) (L2 : (Node.keys c2).length = (Node.ents c2).length)
    (hb : hiLe lt (some k2) (nextLo nx ((Node.keys c2).zip (Node.ents c2)))) :
    (∀ a, (Node.keys c1 ++ Node.keys c2).head? = some a → lt a k1 = false) ∧
    Kids lt (EOrd lt d) nx ((Node.keys c1 ++ Node.keys c2).zip (Node.ents c1 ++ Node.ents c2)) := by
  obtain ⟨hh1, hK1⟩ := (Ord_view h _ _ c1 L1).1 hO1
  obtain ⟨hh2, hK2⟩ := (Ord_view h _ _ c2 L2).1 hO2
  rw [List.zip_append L1]
  refine ⟨fun a ha => ?_, Kids_glue (R := EOrd lt d) h (EOrd_mono_hi h d) hK1 hK2 hb⟩
  -- an empty `c1` (a leaf Delete has emptied) leaves the head to `c2`, above `k2 > k1`
  cases hc1 : Node.keys c1 with
  | nil => rw [hc1] at ha; exact h.le_of_lt (h.lt_of_lt_of_le h12 (hh2 a ha))
  | cons b t => rw [hc1] at ha hh1; exact hh1 a ha

/-- `x', y'` hold the keys and entries of `x, y`, cut at another place; identities stay -/
structure Recut {d : Nat} (x y x' y' : Node K V d) : Prop where
  idx : Node.id x' = Node.id x
  idy : Node.id y' = Node.id y
  keys : Node.keys x' ++ Node.keys y' = Node.keys x ++ Node.keys y
  ents : Node.ents x' ++ Node.ents y' = Node.ents x ++ Node.ents y
  len : (Node.keys x').length = (Node.ents x').length

/-- every cut of the pool with a non-empty left part is a borrow, whichever way it went -/
theorem borrow_any (h : SWO lt) {d : Nat} (c1 c2 c1' c2' : Node K V d) (k1 k2 s : K) (nx : Option K)
    (hO1 : Ord lt d (some k1) (some k2) c1) (hO2 : Ord lt d (some k2) nx c2) (h12 : lt k1 k2 = true)
    (L1 : (Node.keys c1).length = (Node.ents c1).length) (L2 : (Node.keys c2).length = (Node.ents c2).length)
    (hb : hiLe lt (some k2) (nextLo nx ((Node.keys c2).zip (Node.ents c2))))
    (hP1 : ParN d c1) (hP2 : ParN d c2) (rc : Recut c1 c2 c1' c2')
    (hne : Node.keys c1' ≠ []) (hs : (Node.keys c2').head? = some s) :
    BorrowOut lt k1 k2 s nx c1 c2 c1' c2' := by
  obtain ⟨hid1, hid2, hr, hk, hl1⟩ := rc
  obtain ⟨hhead, hpool⟩ := pool_any h c1 c2 k1 k2 nx hO1 hO2 h12 L1 L2 hb
  have hl2 : (Node.keys c2').length = (Node.ents c2').length := by
    have e1 := congrArg List.length hr
    have e2 := congrArg List.length hk
    simp only [List.length_append] at e1 e2
    rw [hl1, L1, L2, ← e2] at e1
    exact Nat.add_left_cancel e1
  have hnl : nextLo nx ((Node.keys c2').zip (Node.ents c2')) = some s := nextLo_zip nx _ _ s hs hl2
  rw [← hr, ← hk, List.zip_append hl1] at hpool
  obtain ⟨hK1, hK2⟩ := (Kids_append nx _ _).1 hpool
  rw [hnl] at hK1
  obtain ⟨a, t, hat⟩ := List.exists_cons_of_ne_nil hne
  have ha1 : lt a k1 = false := hhead a (by rw [← hr, hat]; rfl)
  have has : lt a s = true := by
    obtain ⟨y, hy⟩ := mem_zip_of_mem_left (Node.keys c1') (Node.ents c1') hl1 a (by rw [hat]; exact List.mem_cons_self)
    exact Kids_keys_lt h (some s) _ hK1 (a, y) hy
  have hmem : ∀ y, y ∈ Node.ents c1' ++ Node.ents c2' → EPar d y := by
    intro y hy
    rw [hk] at hy
    exact (List.mem_append.1 hy).elim (((ParN_view c1).1 hP1).2 y) (((ParN_view c2).1 hP2).2 y)
  refine ⟨hid1, hid2, (Ord_view h _ _ c1' hl1).2 ⟨fun k hk' => by rw [hat] at hk'; cases hk'; exact ha1, hK1⟩,
    (Ord_view h _ _ c2' hl2).2 ⟨fun k hk' => by rw [hs] at hk'; cases hk'; exact h.irrefl _, hK2⟩,
    h.lt_of_le_of_lt ha1 has, ?_,
    (ParN_view c1').2 ⟨fun _ => ⟨hl1, List.length_pos_iff.2 hne⟩, fun y hy => hmem y (List.mem_append_left _ hy)⟩,
    (ParN_view c2').2 ⟨fun _ => ⟨hl2, ?_⟩, fun y hy => hmem y (List.mem_append_right _ hy)⟩, ?_⟩
  · obtain ⟨y, hy⟩ := mem_zip_of_mem_left (Node.keys c2') (Node.ents c2') hl2 s (List.mem_of_mem_head? hs)
    exact Kids_keys_lt h nx _ hK2 (s, y) hy
  · cases hrs : Node.keys c2' with
    | nil => rw [hrs] at hs; cases hs
    | cons _ _ => exact Nat.succ_le_succ (Nat.zero_le _)
  · rw [pairs_view, pairs_view, pairs_view, pairs_view, ← epairs_append _ _ _ _ hl1, ← epairs_append _ _ _ _ L1, hr, hk]

theorem merge_any (h : SWO lt) {d : Nat} (c1 c2 m : Node K V d) (k1 k2 : K) (nx : Option K)
    (hO1 : Ord lt d (some k1) (some k2) c1) (hO2 : Ord lt d (some k2) nx c2) (h12 : lt k1 k2 = true)
    (L1 : (Node.keys c1).length = (Node.ents c1).length) (L2 : (Node.keys c2).length = (Node.ents c2).length)
    (hb : hiLe lt (some k2) (nextLo nx ((Node.keys c2).zip (Node.ents c2))))
    (hP1 : ParN d c1) (hP2 : ParN d c2) (hid : Node.id m = Node.id c1)
    (hr : Node.keys m = Node.keys c1 ++ Node.keys c2) (hk : Node.ents m = Node.ents c1 ++ Node.ents c2) :
    MergeOut lt k1 k2 nx c1 c2 m := by
  obtain ⟨hhead, hpool⟩ := pool_any h c1 c2 k1 k2 nx hO1 hO2 h12 L1 L2 hb
  rw [← hr, ← hk] at hpool
  rw [← hr] at hhead
  have hlm : (Node.keys m).length = (Node.ents m).length := by
    rw [hr, hk, List.length_append, List.length_append, L1, L2]
  refine ⟨hid, (Ord_view h _ _ m hlm).2 ⟨hhead, hpool⟩, (ParN_view m).2 ⟨fun h0 => ⟨hlm, ?_⟩, ?_⟩, ?_⟩
  · rw [hr, List.length_append]; exact Nat.le_trans (((ParN_view c1).1 hP1).1 h0).2 (Nat.le_add_right _ _)
  · intro y hy
    rw [hk] at hy
    exact (List.mem_append.1 hy).elim (((ParN_view c1).1 hP1).2 y) (((ParN_view c2).1 hP2).2 y)
  · rw [pairs_view, pairs_view, pairs_view, hr, hk, epairs_append _ _ _ _ L1]

/-! ### what the separator layer reads of a borrow or merge between inner nodes -/

def BorrowShape : {d : Nat} → Node K V d → Node K V d → Node K V d → Node K V d → K → Prop
  | 0, _, _, _, _, _ => True
  | _ + 1, (c1 : Inner K _), (c2 : Inner K _), (c1' : Inner K _), (c2' : Inner K _), s =>
    c1'.runts ++ c2'.runts = c1.runts ++ c2.runts ∧ c1'.kids ++ c2'.kids = c1.kids ++ c2.kids ∧
    c1'.runts.length = c1'.kids.length ∧ c1'.runts.head? = c1.runts.head? ∧ c1'.runts ≠ [] ∧
    c2'.runts.head? = some s

def MergeShape : {d : Nat} → Node K V d → Node K V d → Node K V d → Prop
  | 0, _, _, _ => True
  | _ + 1, (c1 : Inner K _), (c2 : Inner K _), (m : Inner K _) =>
    m.runts = c1.runts ++ c2.runts ∧ m.kids = c1.kids ++ c2.kids

theorem Recut.shape : ∀ {d : Nat} {c1 c2 c1' c2' : Node K V d} {s : K}, Recut c1 c2 c1' c2' →
    Node.keys c1' ≠ [] → (Node.keys c2').head? = some s → (d ≠ 0 → Node.keys c1 ≠ []) → BorrowShape c1 c2 c1' c2' s
  | 0, _, _, _, _, _, _, _, _, _ => trivial
  | d + 1, c1, c2, c1', c2', s, rc, hne, hs, h1 => by
    refine ⟨rc.keys, rc.ents, rc.len, ?_, hne, hs⟩
    obtain ⟨a, t, hat⟩ := List.exists_cons_of_ne_nil hne
    obtain ⟨b, u, hbu⟩ := List.exists_cons_of_ne_nil (h1 (Nat.succ_ne_zero d))
    have e := rc.keys
    rw [hat, hbu] at e
    show (Node.keys c1').head? = (Node.keys c1).head?
    rw [hat, hbu]
    exact congrArg some (List.cons.inj e).1

theorem MergeShape.of_pool : ∀ {d : Nat} {c1 c2 m : Node K V d}, Node.keys m = Node.keys c1 ++ Node.keys c2 →
    Node.ents m = Node.ents c1 ++ Node.ents c2 → MergeShape c1 c2 m
  | 0, _, _, _, _, _ => trivial
  | _ + 1, _, _, _, hr, hk => ⟨hr, hk⟩

theorem adoptFromRight_pair (h : SWO lt) {d : Nat} (c r : Node K V d) (k1 k2 : K) (nx : Option K)
    (hOc : Ord lt d (some k1) (some k2) c) (hOr : Ord lt d (some k2) nx r) (h12 : lt k1 k2 = true)
    (hc : Par (shallow c)) (hr : Par (shallow r)) (hPc : ParN d c) (hPr : ParN d r) (h2 : 2 ≤ Node.count r) :
    ∃ c' r' s, Node.adoptFromRight c r = .ok (c', r') ∧ Node.smallest r' = .ok s ∧
      BorrowShape c r c' r' s ∧ BorrowOut lt k1 k2 s nx c r c' r' := by
  have Lc := (par_view c).1 hc
  have Lr := ((par_view r).1 hr).1
  rw [Node.count_eq_keys] at h2
  obtain ⟨k, s, ks, hk⟩ := exists_cons_cons h2
  obtain ⟨e, es, he⟩ := List.exists_cons_of_length_pos (l := Node.ents r) (Lr ▸ Nat.lt_of_lt_of_le Nat.zero_lt_two h2)
  have hb : hiLe lt (some k2) (nextLo nx ((Node.keys r).zip (Node.ents r))) := by
    rw [hk, he]; exact ((Ord_view h _ _ r Lr).1 hOr).1 k (by rw [hk]; rfl)
  have rc : Recut c r (Node.put c (Node.keys c ++ [k]) (Node.ents c ++ [e]) (Node.nxt c)) (Node.put r (s :: ks) es (Node.nxt r)) := by
    refine ⟨Node.id_put .., Node.id_put .., ?_, ?_, ?_⟩
    · rw [Node.keys_put, Node.keys_put, hk, List.append_assoc]; rfl
    · rw [Node.ents_put, Node.ents_put, he, List.append_assoc]; rfl
    · rw [Node.keys_put, Node.ents_put, List.length_append, List.length_append, Lc.1]; rfl
  have hne : Node.keys (Node.put c (Node.keys c ++ [k]) (Node.ents c ++ [e]) (Node.nxt c)) ≠ [] := by
    rw [Node.keys_put]; exact List.append_ne_nil_of_right_ne_nil _ (List.cons_ne_nil _ _)
  have hs : (Node.keys (Node.put r (s :: ks) es (Node.nxt r))).head? = some s := by rw [Node.keys_put]; rfl
  exact ⟨_, _, s, Node.adoptFromRight_cons c r hk he, Node.smallest_of_keys _ s ks (Node.keys_put ..),
    rc.shape hne hs (fun h0 => List.ne_nil_of_length_pos (Lc.2 h0)),
    borrow_any h c r _ _ k1 k2 s nx hOc hOr h12 Lc.1 Lr hb hPc hPr rc hne hs⟩

theorem adoptFromLeft_pair (h : SWO lt) (P : Params K) (hp : PadOk P) {d : Nat} (l c : Node K V d) (k1 k2 : K)
    (nx : Option K) (hOl : Ord lt d (some k1) (some k2) l) (hOc : Ord lt d (some k2) nx c) (h12 : lt k1 k2 = true)
    (h2n : ltO lt k2 nx) (hl : Par (shallow l)) (hc : Par (shallow c)) (hPl : ParN d l) (hPc : ParN d c)
    (h2 : 2 ≤ Node.count l) (h1 : 1 ≤ Node.count c) :
    ∃ l' c' s, Node.adoptFromLeft P l c = .ok (l', c') ∧ Node.smallest c' = .ok s ∧
      BorrowShape l c l' c' s ∧ BorrowOut lt k1 k2 s nx l c l' c' := by
  have Ll := (par_view l).1 hl
  have Lc := ((par_view c).1 hc).1
  rw [Node.count_eq_keys] at h2 h1
  obtain ⟨ks, s, hk, hkl⟩ := snoc_of_length_pos (Node.keys l) (Nat.le_of_succ_le h2)
  obtain ⟨es, e, he, hel⟩ := snoc_of_length_pos (Node.ents l) (Ll.1 ▸ Nat.le_of_succ_le h2)
  obtain ⟨r0, rk, hr⟩ := List.exists_cons_of_length_pos h1
  have hlen : ks.length = es.length := Nat.succ.inj (hkl.trans (Ll.1.trans hel.symm))
  have hks : ks ≠ [] := List.ne_nil_of_length_pos (Nat.le_of_succ_le_succ (Nat.le_trans h2 (Nat.le_of_eq hkl.symm)))
  have hb : hiLe lt (some k2) (nextLo nx ((Node.keys c).zip (Node.ents c))) :=
    head_bound h ((Ord_view h _ _ c Lc).1 hOc).1 Lc h2n
  have rc : Recut l c (Node.put l ks es (Node.nxt l)) (Node.put c (s :: Node.keys c) (e :: Node.ents c) (Node.nxt c)) := by
    refine ⟨Node.id_put .., Node.id_put .., ?_, ?_, ?_⟩
    · rw [Node.keys_put, Node.keys_put, hk, List.append_assoc]; rfl
    · rw [Node.ents_put, Node.ents_put, he, List.append_assoc]; rfl
    · rw [Node.keys_put, Node.ents_put]; exact hlen
  have hne : Node.keys (Node.put l ks es (Node.nxt l)) ≠ [] := by rw [Node.keys_put]; exact hks
  have hs : (Node.keys (Node.put c (s :: Node.keys c) (e :: Node.ents c) (Node.nxt c))).head? = some s := by
    rw [Node.keys_put]; rfl
  exact ⟨_, _, s, Node.adoptFromLeft_snoc P hp l c hk he hlen hr, Node.smallest_of_keys _ s _ (Node.keys_put ..),
    rc.shape hne hs (fun h0 => List.ne_nil_of_length_pos (Ll.2 h0)),
    borrow_any h l c _ _ k1 k2 s nx hOl hOc h12 Ll.1 Lc hb hPl hPc rc hne hs⟩

theorem absorbRight_pair (h : SWO lt) {d : Nat} (a b : Node K V d) (k1 k2 : K) (nx : Option K)
    (hOa : Ord lt d (some k1) (some k2) a) (hOb : Ord lt d (some k2) nx b) (h12 : lt k1 k2 = true) (h2n : ltO lt k2 nx)
    (ha : Par (shallow a)) (hb : Par (shallow b)) (hPa : ParN d a) (hPb : ParN d b)
    (hnx : (shallow a).height = 0 → (shallow a).next = some (Node.id b)) :
    ∃ m, Node.absorbRight a b = .ok m ∧ MergeShape a b m ∧ MergeOut lt k1 k2 nx a b m := by
  have La := ((par_view a).1 ha).1
  have Lb := ((par_view b).1 hb).1
  exact ⟨_, Node.absorbRight_eq a b (fun h0 => by subst h0; exact hnx rfl),
    MergeShape.of_pool (Node.keys_put ..) (Node.ents_put ..),
    merge_any h a b _ k1 k2 nx hOa hOb h12 La Lb (head_bound h ((Ord_view h _ _ b Lb).1 hOb).1 Lb h2n) hPa hPb
      (Node.id_put ..) (Node.keys_put ..) (Node.ents_put ..)⟩

end Gobptree.Conc
