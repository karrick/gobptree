/-
  Key-order block lemma for every continuation except Delete's (`resume_kpost_U`).
-/
import Gobptree.Proofs.CKUpChild

namespace Gobptree.Conc
open Gobptree

variable {K V : Type} {lt : K → K → Bool}

theorem kres_sib (P : Params K) (hK : KParams lt P) (hpad : PadOk P) (t : Nat) (s : St K V) (key : K)
    (f : Option V → V) (y : Option Bool) (sib : Nat) (a b : Lk) (H : List Lk) {hole : Option Nat}
    (hok : TreeOk hole s.tree) (hord : OrdTree lt s.tree) (hin : InBounds lt s.tree key sib) :
    KRes lt t key f H s (upContinue P t (((s.acq t (.node sib)).rel t a).rel t b) key f y sib).1
      (upContinue P t (((s.acq t (.node sib)).rel t a).rel t b) key f y sib).2 := by
  refine KRes.continue P hK hpad y sib (s1 := ((s.acq t (.node sib)).rel t a).rel t b) hok hord hin rfl ?_
    (Stable.refl H _)
  intro arg ha
  have ha' : CbIn t arg (Ev.rel t b :: Ev.rel t a :: Ev.acq t (Lk.node sib) :: s.evs) := ha
  rw [cbIn_rel, cbIn_rel, cbIn_acq] at ha'
  exact ha'

theorem resume_kpost_U : ResumeKU K V := by
  intro lt P t s k H hole hnd hK hpre hk hc hkp hcov hord hpos
  obtain ⟨hheld, hlock, _⟩ := hcov
  have hok := hpre.tree
  cases k with
  | roTree sc key =>
    exact kpost_unchanged t _ H s _ _ hord rfl (fun h => h) (fun p hp => by cases hp; trivial)
  | roNode sc key hold want =>
    exact roNode_kpost P hK t s sc key hold want H hok hord hk hpos
  | upTree key f y =>
    exact kpost_unchanged t _ H s _ _ hord rfl (fun h => h) (fun p hp => by cases hp; trivial)
  | upRoot key f y r =>
    have hres := upRootArrive_kres P hK t (s.acq t (.node r)) key f y r H hole ⟨hok, hpre.order, hpre.pad⟩ hord hk
      (hheld _ List.mem_cons_self) (hlock _ rfl)
    obtain ⟨h1, h2, h3, h4⟩ := KRes.of_acq _ hres
    exact ⟨⟨h1, h2, h3⟩, h4⟩
  | upRootSib key f y root sib =>
    obtain ⟨h1, h2, h3, h4⟩ := kres_sib P hK hpre.pad t s key f y sib (.node root) .tree H hok hord hpos
    exact ⟨⟨h1, h2, h3⟩, h4⟩
  | upChild key f y parent index child =>
    have hres := upChildArrive_kres P hK t (s.acq t (.node child)) key f y parent index child H hole
      ⟨hok, hpre.order, hpre.pad⟩ hord hk hpos (hheld _ List.mem_cons_self) (hlock _ rfl)
    obtain ⟨h1, h2, h3, h4⟩ := KRes.of_acq _ hres
    exact ⟨⟨h1, h2, h3⟩, h4⟩
  | upSib key f y parent child sib =>
    obtain ⟨h1, h2, h3, h4⟩ := kres_sib P hK hpre.pad t s key f y sib (.node child) (.node parent) H hok hord hpos
    exact ⟨⟨h1, h2, h3⟩, h4⟩
  | upCallback key f leaf arg =>
    exact upCallback_kpost P hK hpre.pad t s key f leaf arg H hok hord hk hpos
  | delTree key => cases hnd
  | delRoot key r => cases hnd
  | delLeft key frames node index left root => cases hnd
  | delChild key frames node index left child root => cases hnd
  | delRight key rest fr right root => cases hnd
  | hop cur next =>
    exact kpost_unchanged t _ H s _ _ hord rfl (fun h => h) (fun p hp => by cases hp)
  | paused =>
    exact kpost_unchanged t _ H s _ _ hord rfl (fun h => h) (fun p hp => by cases hp)

end Gobptree.Conc

#print axioms Gobptree.Conc.resume_kpost_U
