/-
  The three sibling operations of Delete's rebalancing (borrow from the right, borrow
  from the left, merge) on well-formed, linked siblings: the results are well formed,
  linked, and hold the same pairs.  What each computes is NodeView's; `WF`, `Linked` and
  `firstId` say different things of a leaf and of an inner node, so each height is treated
  on nodes written out.
-/
import Gobptree.Proofs.NodeView
import Gobptree.Proofs.WFLemmas2
import Gobptree.Proofs.Split
import Gobptree.Proofs.Leaf

namespace Gobptree

variable {K V : Type} {lt : K → K → Bool}

theorem WF_set_m {o d m m' : Nat} {lo hi : Option K} {n : Node K V d}
    (hw : WF lt o d m lo hi n) (hm : m' ≤ Node.count n) : WF lt o d m' lo hi n := by
  cases d with
  | zero => obtain ⟨a, b, c, _, f⟩ := hw; exact ⟨a, b, c, hm, f⟩
  | succ d => obtain ⟨a, b, _, e, f, g⟩ := hw; exact ⟨a, b, hm, e, f, g⟩

theorem absorbRight_leaf_eval (lid rid : Nat) (lk rk : List K) (lv rv : List V) (rn : Option Nat) :
    Node.absorbRight (V := V) (d := 0) (Leaf.mk lid lk lv (some rid)) (Leaf.mk rid rk rv rn) =
      .ok (Leaf.mk lid (lk ++ rk) (lv ++ rv) rn : Leaf K V) :=
  Node.absorbRight_eq (d := 0) _ _ fun _ => rfl

theorem absorbRight_inner_eval {d : Nat} (lid rid : Nat) (lr rr : List K) (lk rk : List (Node K V d)) :
    Node.absorbRight (V := V) (d := d + 1) (Inner.mk lid lr lk) (Inner.mk rid rr rk) =
      .ok (Inner.mk lid (lr ++ rr) (lk ++ rk) : Inner K (Node K V d)) :=
  Node.absorbRight_eq (d := d + 1) _ _ nofun

/-- `left.adoptFromRight(right)`; the hypothesis `lo1 ≤ kr` is only used when `left` is an empty leaf -/
theorem adoptFromRight_ok' (h : SWO lt) {o d : Nat} {lo1 hi2 : Option K} {kr : K} {ml : Nat}
    (left right : Node K V d) (hlo : leO lt lo1 kr)
    (hl : WF lt o d ml lo1 (some kr) left) (hr : WF lt o d (o / 2) (some kr) hi2 right)
    (hrc : 2 ≤ Node.count right) (hlc : Node.count left < o)
    (after : Option Nat)
    (hLl : Linked d (some (Node.firstId right)) left) (hLr : Linked d after right) :
    ∃ (left' right' : Node K V d) (s : K),
      Node.adoptFromRight left right = .ok (left', right') ∧ Node.smallest right' = .ok s ∧
      WF lt o d 0 lo1 (some s) left' ∧ WF lt o d 0 (some s) hi2 right' ∧
      Node.count left' = Node.count left + 1 ∧ Node.count right' + 1 = Node.count right ∧
      Node.pairs left' ++ Node.pairs right' = Node.pairs left ++ Node.pairs right ∧
      lt s kr = false ∧ ltO lt s hi2 ∧
      Linked d (some (Node.firstId right')) left' ∧ Linked d after right' ∧
      Node.firstId left' = Node.firstId left := by
  cases d with
  | zero =>
    obtain ⟨lid, lk, lv, ln⟩ := (left : Leaf K V)
    obtain ⟨rid, rkeys, rvals, rn⟩ := (right : Leaf K V)
    obtain ⟨la, lb, -, -, lf⟩ := hl
    obtain ⟨ra, rb, rc, -, rf⟩ := hr
    obtain ⟨k0, s, rk, rfl⟩ := exists_cons_cons (l := rkeys) hrc
    obtain ⟨v0, v1, rv, rfl⟩ := exists_cons_cons (l := rvals) (Nat.le_trans hrc (Nat.le_of_eq rb))
    dsimp only at la lb lf ra rb rc rf
    obtain ⟨hk0r, hra'⟩ := List.pairwise_cons.mp ra
    have hk0 : lt k0 kr = false := (rf k0 (List.mem_cons_self ..)).1
    have hk0s : lt k0 s = true := hk0r s (List.mem_cons_self ..)
    have hlk0 : ∀ k ∈ lk, lt k k0 = true := fun k hk => h.lt_of_lt_of_le (lf k hk).2 hk0
    refine ⟨_, _, s, adoptFromRight_leaf_eval lid rid lk (s :: rk) lv (v1 :: rv) k0 v0 ln rn, rfl,
      ⟨sorted_append_singleton la hlk0, ?_, ?_, Nat.zero_le _, ?_⟩,
      ⟨hra', Nat.succ.inj rb, Nat.le_of_succ_le rc, Nat.zero_le _, ?_⟩,
      List.length_append, rfl, ?_, h.le_of_lt (h.lt_of_le_of_lt hk0 hk0s),
      (rf s (List.mem_cons_of_mem _ (List.mem_cons_self ..))).2, hLl, hLr, rfl⟩
    · rw [List.length_append, List.length_append]; exact congrArg (· + 1) lb
    · rw [List.length_append]; exact hlc
    · intro k hk
      rcases List.mem_append.mp hk with hm | hm
      · exact ⟨(lf k hm).1, h.trans _ _ _ (hlk0 k hm) hk0s⟩
      · rw [List.mem_singleton.mp hm]; exact ⟨leO_trans h hlo hk0, hk0s⟩
    · intro k hk
      refine ⟨?_, (rf k (List.mem_cons_of_mem _ hk)).2⟩
      rcases List.mem_cons.mp hk with e | hm
      · rw [e]; exact h.irrefl _
      · exact h.le_of_lt ((List.pairwise_cons.mp hra').1 k hm)
    · show (lk ++ [k0]).zip (lv ++ [v0]) ++ (s :: rk).zip (v1 :: rv) =
        lk.zip lv ++ (k0 :: s :: rk).zip (v0 :: v1 :: rv)
      rw [List.zip_append lb, List.append_assoc]; rfl
  | succ d =>
    obtain ⟨lid, lrunts, lkids⟩ := (left : Inner K (Node K V d))
    obtain ⟨rid, rrunts, rkids⟩ := (right : Inner K (Node K V d))
    obtain ⟨la, -, -, le, lf, lg⟩ := hl
    obtain ⟨ra, rb, -, -, rf, rg⟩ := hr
    obtain ⟨k0, k1, rr, rfl⟩ := exists_cons_cons (l := rrunts) hrc
    obtain ⟨c0, c1, rk, rfl⟩ := exists_cons_cons (l := rkids) (Nat.le_trans hrc (Nat.le_of_eq ra))
    obtain ⟨l0, lr, rfl⟩ := List.exists_cons_of_length_pos (l := lrunts) le
    obtain ⟨cl0, lk, rfl⟩ := List.exists_cons_of_length_pos (l := lkids) (Nat.lt_of_lt_of_eq le la)
    dsimp only at la lf lg ra rb rf rg
    rw [List.zip_cons_cons, List.zip_cons_cons] at rg
    obtain ⟨wc0, hk01, rg'⟩ := rg
    have hk0 : lt k0 kr = false := rf k0 rfl
    obtain ⟨hL0, hLr'⟩ := hLr
    refine ⟨_, _, k1, adoptFromRight_inner_eval lid rid (l0 :: lr) (k1 :: rr) (cl0 :: lk) (c1 :: rk) k0 c0, rfl,
      ⟨?_, ?_, Nat.zero_le _, ?_, lf, ?_⟩,
      ⟨Nat.succ.inj ra, Nat.le_of_succ_le rb, Nat.zero_le _, Nat.le_add_left 1 _,
        fun k hk => by cases hk; exact h.irrefl _, rg'⟩,
      List.length_append, rfl, ?_, h.le_of_lt (h.lt_of_le_of_lt hk0 hk01),
      Kids_keys_lt h hi2 _ rg' (k1, c1) (List.mem_cons_self ..), ?_, hLr', rfl⟩
    · rw [List.length_append, List.length_append]; exact congrArg (· + 1) la
    · rw [List.length_append]; exact hlc
    · rw [List.length_append]; exact Nat.le_add_left 1 _
    · show Kids lt (RWF lt o d) (some k1) (((l0 :: lr) ++ [k0]).zip ((cl0 :: lk) ++ [c0]))
      rw [List.zip_append la, Kids_append]
      exact ⟨Kids_mono_hi (R := RWF lt o d) h
        (fun a b b' c hb hr => WF_mono_hi h hb hr) (hi := some kr) (hi' := some k0) hk0 _ lg, wc0, hk01, trivial⟩
    · show ((cl0 :: lk) ++ [c0]).flatMap (Node.pairs (d := d)) ++ (c1 :: rk).flatMap (Node.pairs (d := d)) =
        (cl0 :: lk).flatMap (Node.pairs (d := d)) ++ (c0 :: c1 :: rk).flatMap (Node.pairs (d := d))
      simp only [List.flatMap_append, List.flatMap_cons, List.flatMap_nil, List.append_assoc, List.append_nil]
    · show LinkedKids (Linked (K := K) (V := V) d) (Node.firstId (d := d)) (some (Node.firstId c1)) ((cl0 :: lk) ++ [c0])
      rw [LinkedKids_append]
      exact ⟨hLl, hL0, trivial⟩

theorem adoptFromLeft_ok (h : SWO lt) (P : Params K) (hP : P.lt = lt) (hpad : ∀ k, P.pad (some k) ≠ none)
    {o d : Nat} {lo1 hi2 : Option K} {k : K} {mr : Nat}
    (left right : Node K V d)
    (hl : WF lt o d (o / 2) lo1 (some k) left) (hr : WF lt o d mr (some k) hi2 right)
    (hlc : 2 ≤ Node.count left) (hrc1 : 1 ≤ Node.count right) (hrc : Node.count right < o)
    (after : Option Nat)
    (hLl : Linked d (some (Node.firstId right)) left) (hLr : Linked d after right) :
    ∃ (left' right' : Node K V d) (s : K),
      Node.adoptFromLeft P left right = .ok (left', right') ∧ Node.smallest right' = .ok s ∧
      WF lt o d 0 lo1 (some s) left' ∧ WF lt o d 0 (some s) hi2 right' ∧
      Node.count left' + 1 = Node.count left ∧ Node.count right' = Node.count right + 1 ∧
      Node.pairs left' ++ Node.pairs right' = Node.pairs left ++ Node.pairs right ∧
      lt s k = true ∧ (∀ kl, lo1 = some kl → lt kl s = true) ∧
      Linked d (some (Node.firstId right')) left' ∧ Linked d after right' ∧
      Node.firstId left' = Node.firstId left := by
  subst hP
  cases d with
  | zero =>
    obtain ⟨lid, lkeys, lvals, ln⟩ := (left : Leaf K V)
    obtain ⟨rid, rkeys, rvals, rn⟩ := (right : Leaf K V)
    obtain ⟨a, b, c, -, f⟩ := hl
    obtain ⟨a', b', -, -, f'⟩ := hr
    obtain ⟨ks, s, rfl, -⟩ := snoc_of_length_pos lkeys (Nat.le_of_succ_le hlc)
    obtain ⟨vs, v, rfl, -⟩ := snoc_of_length_pos lvals (Nat.le_trans (Nat.le_of_succ_le hlc) (Nat.le_of_eq b))
    obtain ⟨r0, rk, rfl⟩ := List.exists_cons_of_length_pos (l := rkeys) hrc1
    dsimp only at a b c f a' b' f'
    rw [List.length_append] at c
    have hlc' : 2 ≤ (ks ++ [s]).length := hlc
    rw [List.length_append] at hlc'
    obtain ⟨k0, ks', rfl⟩ := List.exists_cons_of_length_pos (l := ks) (Nat.le_of_succ_le_succ hlc')
    have hlen : (k0 :: ks').length = vs.length := by
      rw [List.length_append, List.length_append] at b; exact Nat.add_right_cancel b
    obtain ⟨aL, -, hLs⟩ := List.pairwise_append.mp a
    have hsk : P.lt s k = true := (f s (List.mem_append_right _ (List.mem_cons_self ..))).2
    have hsr : ∀ x ∈ r0 :: rk, P.lt s x = true := fun x hx => h.lt_of_lt_of_le hsk (f' x hx).1
    refine ⟨_, _, s, adoptFromLeft_leaf_eval P hpad lid rid (k0 :: ks') rk s r0 vs rvals v ln rn hlen, rfl,
      ⟨aL, hlen, Nat.le_of_succ_le c, Nat.zero_le _, fun x hx =>
        ⟨(f x (List.mem_append_left _ hx)).1, hLs x hx s (List.mem_cons_self ..)⟩⟩,
      ⟨List.pairwise_cons.mpr ⟨hsr, a'⟩, congrArg (· + 1) b', hrc, Nat.zero_le _, ?_⟩,
      (List.length_append (as := k0 :: ks') (bs := [s])).symm, rfl, ?_, hsk, ?_, hLl, hLr, rfl⟩
    · intro x hx
      rcases List.mem_cons.mp hx with e | hm
      · rw [e]
        exact ⟨h.irrefl _, ltO_of_lt h (hsr r0 (List.mem_cons_self ..)) (f' r0 (List.mem_cons_self ..)).2⟩
      · exact ⟨h.le_of_lt (hsr x hm), (f' x hm).2⟩
    · show (k0 :: ks').zip vs ++ (s :: r0 :: rk).zip (v :: rvals) =
        ((k0 :: ks') ++ [s]).zip (vs ++ [v]) ++ (r0 :: rk).zip rvals
      rw [List.zip_append hlen, List.append_assoc]; rfl
    · intro kl hkl
      subst hkl
      exact h.lt_of_le_of_lt (f k0 (List.mem_cons_self ..)).1 (hLs k0 (List.mem_cons_self ..) s (List.mem_cons_self ..))
  | succ d =>
    obtain ⟨lid, lrunts, lkids⟩ := (left : Inner K (Node K V d))
    obtain ⟨rid, rrunts, rkids⟩ := (right : Inner K (Node K V d))
    obtain ⟨a, b, -, -, f, g⟩ := hl
    obtain ⟨a', -, -, e', f', g'⟩ := hr
    obtain ⟨rs, s, rfl, -⟩ := snoc_of_length_pos lrunts (Nat.le_of_succ_le hlc)
    obtain ⟨cs, cl, rfl, -⟩ := snoc_of_length_pos lkids (Nat.le_trans (Nat.le_of_succ_le hlc) (Nat.le_of_eq a))
    obtain ⟨r0, rr, rfl⟩ := List.exists_cons_of_length_pos (l := rrunts) e'
    obtain ⟨c0, cr, rfl⟩ := List.exists_cons_of_length_pos (l := rkids) (Nat.lt_of_lt_of_eq e' a')
    dsimp only at a b f g a' f' g'
    rw [List.length_append] at b
    have hlc' : 2 ≤ (rs ++ [s]).length := hlc
    rw [List.length_append] at hlc'
    have hlen : rs.length = cs.length := by
      rw [List.length_append, List.length_append] at a; exact Nat.add_right_cancel a
    obtain ⟨k0, rs', rfl⟩ := List.exists_cons_of_length_pos (l := rs) (Nat.le_of_succ_le_succ hlc')
    obtain ⟨c1, cs', rfl⟩ := List.exists_cons_of_length_pos (l := cs) (hlen ▸ Nat.le_of_succ_le_succ hlc')
    -- left's chain ends in `(s, cl)`; right's starts with `(r0, c0)`
    rw [List.zip_append hlen, Kids_append] at g
    obtain ⟨gL, gcl, hsk, -⟩ := g
    have hr0k : P.lt r0 k = false := f' r0 rfl
    rw [Linked, LinkedKids_append] at hLl
    obtain ⟨hLcs, hLcl, -⟩ := hLl
    refine ⟨_, _, s, adoptFromLeft_inner_eval P hpad lid rid (k0 :: rs') rr s r0 (c1 :: cs') (c0 :: cr) cl hlen, rfl,
      ⟨hlen, Nat.le_of_succ_le b, Nat.zero_le _, Nat.le_add_left 1 _, f, gL⟩,
      ⟨congrArg (· + 1) a', hrc, Nat.zero_le _, Nat.le_add_left 1 _, fun x hx => by cases hx; exact h.irrefl _, ?_⟩,
      (List.length_append (as := k0 :: rs') (bs := [s])).symm, rfl, ?_, hsk, ?_, hLcs, ⟨hLcl, hLr⟩, rfl⟩
    · show Kids P.lt (RWF P.lt o d) hi2 ((s, cl) :: (r0 :: rr).zip (c0 :: cr))
      exact ⟨WF_mono_hi h (hi := some k) (hi' := some r0) hr0k gcl, h.lt_of_lt_of_le hsk hr0k, g'⟩
    · show (c1 :: cs').flatMap (Node.pairs (d := d)) ++ (cl :: c0 :: cr).flatMap (Node.pairs (d := d)) =
        ((c1 :: cs') ++ [cl]).flatMap (Node.pairs (d := d)) ++ (c0 :: cr).flatMap (Node.pairs (d := d))
      simp only [List.flatMap_append, List.flatMap_cons, List.flatMap_nil, List.append_assoc, List.append_nil]
    · intro kl hkl
      subst hkl
      exact h.lt_of_le_of_lt (f k0 rfl) (Kids_keys_lt h (some s) _ gL (k0, c1) (List.mem_cons_self ..))

/-- `left.absorbRight(right)` under the two facts the parent's `Kids` chain supplies,
    `lo1 ≤ k` and `k < hi2`; the siblings need not be non-empty, so it also covers the
    empty leaf that Delete produces for orders 2 and 3. -/
theorem absorbRight_ok_of_bounds (h : SWO lt) {o d : Nat} {lo1 hi2 : Option K} {k : K} {ml mr : Nat}
    (left right : Node K V d)
    (hl : WF lt o d ml lo1 (some k) left) (hr : WF lt o d mr (some k) hi2 right)
    (hsum : Node.count left + Node.count right ≤ o)
    (hlk : leO lt lo1 k) (hkh : ltO lt k hi2)
    (after : Option Nat)
    (hLl : Linked d (some (Node.firstId right)) left) (hLr : Linked d after right) :
    ∃ left' : Node K V d,
      Node.absorbRight left right = .ok left' ∧ WF lt o d 0 lo1 hi2 left' ∧
      Node.count left' = Node.count left + Node.count right ∧
      Node.pairs left' = Node.pairs left ++ Node.pairs right ∧
      Linked d after left' ∧ Node.firstId left' = Node.firstId left := by
  cases d with
  | zero =>
    obtain ⟨lid, lk, lv, ln⟩ := (left : Leaf K V)
    obtain ⟨rid, rk, rv, rn⟩ := (right : Leaf K V)
    obtain ⟨sl, lenl, -, -, bl⟩ := hl
    obtain ⟨sr, lenr, -, -, br⟩ := hr
    dsimp only at sl lenl bl sr lenr br
    cases (hLl : ln = some rid)
    refine ⟨_, absorbRight_leaf_eval lid rid lk rk lv rv rn,
      ⟨List.pairwise_append.mpr ⟨sl, sr, fun a ha b hb => h.lt_of_lt_of_le (bl a ha).2 (br b hb).1⟩,
        ?_, ?_, Nat.zero_le _, ?_⟩,
      List.length_append, List.zip_append lenl, hLr, rfl⟩
    · rw [List.length_append, List.length_append, lenl, lenr]
    · rw [List.length_append]; exact hsum
    · intro x hx
      rcases List.mem_append.mp hx with hxl | hxr
      · exact ⟨(bl x hxl).1, ltO_of_lt h (bl x hxl).2 hkh⟩
      · exact ⟨leO_trans h hlk (br x hxr).1, (br x hxr).2⟩
  | succ d =>
    obtain ⟨lid, lrunts, lkids⟩ := (left : Inner K (Node K V d))
    obtain ⟨rid, rrunts, rkids⟩ := (right : Inner K (Node K V d))
    obtain ⟨lenl, -, -, nel, hdl, kl⟩ := hl
    obtain ⟨lenr, -, -, ner, hdr, kr⟩ := hr
    obtain ⟨l0, lr, rfl⟩ := List.exists_cons_of_length_pos (l := lrunts) nel
    obtain ⟨cl0, lk, rfl⟩ := List.exists_cons_of_length_pos (l := lkids) (Nat.lt_of_lt_of_eq nel lenl)
    obtain ⟨r0, rr, rfl⟩ := List.exists_cons_of_length_pos (l := rrunts) ner
    obtain ⟨c0, rk, rfl⟩ := List.exists_cons_of_length_pos (l := rkids) (Nat.lt_of_lt_of_eq ner lenr)
    dsimp only at lenl hdl kl lenr hdr kr
    refine ⟨_, absorbRight_inner_eval lid rid (l0 :: lr) (r0 :: rr) (cl0 :: lk) (c0 :: rk),
      ⟨?_, ?_, Nat.zero_le _, ?_, hdl, ?_⟩, List.length_append, List.flatMap_append, ?_, rfl⟩
    · rw [List.length_append, List.length_append, lenl, lenr]
    · rw [List.length_append]; exact hsum
    · rw [List.length_append]; exact Nat.le_trans nel (Nat.le_add_right _ _)
    · show Kids lt (RWF lt o d) hi2 (((l0 :: lr) ++ (r0 :: rr)).zip ((cl0 :: lk) ++ (c0 :: rk)))
      rw [List.zip_append lenl, Kids_append]
      exact ⟨Kids_mono_hi (R := RWF lt o d) h
        (fun a b b' c hb hw => WF_mono_hi h hb hw) (hi := some k) (hi' := some r0) (hdr r0 rfl) _ kl, kr⟩
    · show LinkedKids (Linked d) (Node.firstId (d := d)) after ((cl0 :: lk) ++ (c0 :: rk))
      rw [LinkedKids_append]
      exact ⟨hLl, hLr⟩

end Gobptree
