/-
  Every tree left behind by ANY completed concurrent execution is a valid initial tree: the
  hypotheses of the concurrent theorems are closed under running programs to completion.
-/
import Gobptree.Proofs.CFinal2

namespace Gobptree.Conc
open Gobptree

variable {K V : Type}

/-- no operation is in flight (every thread has not started or has finished); `Quiescent` of
    `Props/C08` asks in addition that no cursor is open -/
def AtRest (c : Config K V) : Prop := ∀ th ∈ c.threads, th.park = .start ∨ th.park = .finished

/-- a continuation that holds no mutex: the first acquisition of an operation (`rootMutex`
    not yet granted), or a client pause.  (`hop` holds nothing by itself but presupposes the
    cursor's leaf, see `idle_of_held_nil`.) -/
def IdleKont : Kont K V → Prop
  | .roTree _ _ => True
  | .upTree _ _ _ => True
  | .delTree _ => True
  | .paused => True
  | _ => False

def IdlePark : Park K V → Prop
  | .start => True
  | .finished => True
  | .want l k => l = .tree ∧ IdleKont k ∧ k ≠ .paused
  | .yielded k => k = .paused

theorem parkHole_of_idle {p : Park K V} (h : IdlePark p) : parkHole p = none := by
  cases p with
  | start => rfl
  | finished => rfl
  | yielded k => rfl
  | want l k =>
    obtain ⟨_, hi, _⟩ := h
    cases k <;> first | rfl | exact absurd hi id

theorem parkWit_of_idle {p : Park K V} (h : IdlePark p) (r : Nat) (x : K) : ¬ parkWit p r x := by
  intro hw
  obtain ⟨l, f, y, child, rfl⟩ := parkWit_inv hw
  exact h.2.1

/-- the two relaxations of the in-flight invariant — the hole of a Delete parked at `delRight`,
    the lowered separator of an Insert/Update parked at `upChild … r 0 …` — belong to threads in
    flight: if every thread is idle the tree satisfies the full quiescent shape invariant -/
theorem idle_tree_ok (lt : K → K → Bool) (c : Config K V) (h : KFInv lt c)
    (hidle : ∀ th ∈ c.threads, IdlePark th.park) :
    TreeOk none c.tree ∧ OrdTree lt c.tree ∧ SepTree lt c.tree := by
  have hhole : holeOf c.threads = none :=
    holeOf_all_none _ fun b hb => parkHole_of_idle (hidle b hb)
  refine ⟨by have := h.cinv.s.tree; rw [hhole] at this; exact this, h.kinv.ord, ?_⟩
  refine ISepW.mono ?_ ((isep_iff lt c).1 h.isep)
  rintro r x ⟨th, hth, hw⟩
  exact absurd hw (parkWit_of_idle (hidle th hth) r x)

theorem atRest_idle (c : Config K V) (hq : AtRest c) : ∀ th ∈ c.threads, IdlePark th.park := by
  intro th hth
  rcases hq th hth with e | e <;> rw [e] <;> trivial

theorem rest_tree_ok (lt : K → K → Bool) (c : Config K V) (h : KFInv lt c) (hq : AtRest c) :
    TreeOk none c.tree ∧ OrdTree lt c.tree ∧ SepTree lt c.tree :=
  idle_tree_ok lt c h (atRest_idle c hq)

theorem reachable_P (P : Params K) (tree : Tree K V) (progs : List (List (COp K V))) (c : Config K V)
    (hr : Reachable (Config.init P tree progs) c) : c.P = P := by
  induction hr with
  | refl => rfl
  | @step c1 c2 t _ hs ih =>
    obtain ⟨_, _, S⟩ := step_stepped hs
    rw [S.P]; exact ih

theorem reachable_rest_tree_ok (lt : K → K → Bool) (P : Params K) (tree : Tree K V) (progs : List (List (COp K V)))
    (hkp : KParams lt P) (ht : TreeOk none tree) (hord : OrdTree lt tree) (hsep : SepTree lt tree)
    (ho : tree.order = P.order) (hp : PadOk P) (hd : Disciplined progs) (hdel : 4 ≤ tree.order ∨ NoDelete progs)
    (c : Config K V) (hr : Reachable (Config.init P tree progs) c) (hq : AtRest c) :
    TreeOk none c.tree ∧ OrdTree lt c.tree ∧ SepTree lt c.tree ∧ c.tree.order = P.order :=
  let h := reachable_kfinv' lt P tree progs hkp ht hord hsep ho hp hd hdel c hr
  let r := rest_tree_ok lt c h hq
  ⟨r.1, r.2.1, r.2.2, by rw [h.cinv.s.order, reachable_P P tree progs c hr]⟩

end Gobptree.Conc
#print axioms Gobptree.Conc.reachable_rest_tree_ok
