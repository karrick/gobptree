/-
  Mutual exclusion: the owner table and the threads' held lists agree, and no mutex
  is owned twice — in every reachable configuration.

  Method: after the one acquisition at its start, the code of a step only RELEASES
  (`RelOnly`, a projection of the effect `Eff` of ConcFlow.lean); the stepping thread's view of
  the owner table (`ViewOk`) survives an acquisition of a free mutex and any releases.
-/
import Gobptree.Proofs.ConcReach
import Gobptree.Proofs.ConcFlow

namespace Gobptree.Conc
open Gobptree

variable {K V : Type}

def eraseAllO (t : Nat) (o : List (Lk × Nat)) (ls : List Lk) : List (Lk × Nat) :=
  ls.foldl (fun o l => o.erase (l, t)) o

def eraseAllH (h : List Lk) (ls : List Lk) : List Lk :=
  ls.foldl (fun h l => h.erase l) h

def RelOnly (t : Nat) (s s' : St K V) : Prop :=
  ∃ ls, s'.owner = eraseAllO t s.owner ls ∧ s'.held = eraseAllH s.held ls

theorem RelOnly.refl (t : Nat) (s : St K V) : RelOnly t s s := ⟨[], rfl, rfl⟩

theorem RelOnly.of_eq {t : Nat} {s s1 s' : St K V} (h : RelOnly t s s1)
    (ho : s'.owner = s1.owner) (hh : s'.held = s1.held) : RelOnly t s s' := by
  obtain ⟨ls, h1, h2⟩ := h
  exact ⟨ls, by rw [ho, h1], by rw [hh, h2]⟩

theorem RelOnly.rel {t : Nat} {s s1 : St K V} (l : Lk) (h : RelOnly t s s1) : RelOnly t s (s1.rel t l) := by
  obtain ⟨ls, h1, h2⟩ := h
  refine ⟨ls ++ [l], ?_, ?_⟩
  · show s1.owner.erase (l, t) = _
    rw [h1]; simp [eraseAllO, List.foldl_append]
  · show s1.held.erase l = _
    rw [h2]; simp [eraseAllH, List.foldl_append]

theorem RelOnly.note {t : Nat} {s s1 : St K V} (n : Note K V) (h : RelOnly t s s1) : RelOnly t s (s1.note t n) :=
  h.of_eq rfl rfl

theorem RelOnly.setTree {t : Nat} {s s1 : St K V} (tr : Tree K V) (h : RelOnly t s s1) :
    RelOnly t s { s1 with tree := tr } := h.of_eq rfl rfl

theorem RelOnly.setCursor {t : Nat} {s s1 : St K V} (c : Option (Option Nat × Int)) (e : Bool)
    (h : RelOnly t s s1) : RelOnly t s { s1 with cursor := c, exhausted := e } := h.of_eq rfl rfl

theorem RelOnly.setCursor' {t : Nat} {s s1 : St K V} (c : Option (Option Nat × Int))
    (h : RelOnly t s s1) : RelOnly t s { s1 with cursor := c } := h.of_eq rfl rfl

theorem RelOnly.acq_then {t : Nat} {s s' : St K V} (l : Lk) (h : RelOnly t (s.acq t l) s') :
    RelOnly t (s.acq t l) s' := h

theorem Eff.relOnly {cw : Bool} {t : Nat} {s s' : St K V} (h : Eff cw t s s') : RelOnly t s s' := by
  induction h with
  | refl => exact .refl t s
  | rel l _ ih => exact ih.rel l
  | note n _ ih => exact ih.note n
  | setTree tr _ ih => exact ih.setTree tr
  | setCursor _ c e _ ih => exact ih.setCursor c e

theorem eraseAll_facts (t : Nat) (ls : List Lk) :
    ∀ (o : List (Lk × Nat)) (h : List Lk), (∀ l, o.count (l, t) = h.count l) →
      (∀ l, (eraseAllO t o ls).count (l, t) = (eraseAllH h ls).count l) ∧
      (∀ l t', t' ≠ t → (eraseAllO t o ls).count (l, t') = o.count (l, t')) ∧
      List.Sublist (eraseAllO t o ls) o := by
  induction ls with
  | nil => intro o h hc; exact ⟨hc, fun _ _ _ => rfl, List.Sublist.refl _⟩
  | cons a ls ih =>
    intro o h hc
    have hc' : ∀ l, (o.erase (a, t)).count (l, t) = (h.erase a).count l := by
      intro l
      by_cases hl : l = a
      · subst hl
        rw [List.count_erase_self, List.count_erase_self, hc]
      · rw [List.count_erase_of_ne (by intro e; exact hl (Prod.mk.inj e).1),
          List.count_erase_of_ne hl, hc]
    obtain ⟨h1, h2, h3⟩ := ih (o.erase (a, t)) (h.erase a) hc'
    refine ⟨h1, ?_, h3.trans (List.erase_sublist)⟩
    intro l t' ht'
    rw [show eraseAllO t o (a :: ls) = eraseAllO t (o.erase (a, t)) ls from rfl, h2 l t' ht',
      List.count_erase_of_ne (by intro e; exact ht' (Prod.mk.inj e).2)]

def heldOf (c : Config K V) (t : Nat) : List Lk :=
  match c.threads[t]? with
  | some th => th.held
  | none => []

theorem mem_heldOf {c : Config K V} {t : Nat} {l : Lk} (h : l ∈ heldOf c t) :
    ∃ th, c.threads[t]? = some th ∧ l ∈ th.held := by
  unfold heldOf at h
  cases hj : c.threads[t]? with
  | none => rw [hj] at h; cases h
  | some b => rw [hj] at h; exact ⟨b, rfl, h⟩

def OwnerOk (c : Config K V) : Prop :=
  (∀ l t, c.owner.count (l, t) = (heldOf c t).count l) ∧ (c.owner.map Prod.fst).Nodup

theorem OwnerOk.mem_iff {c : Config K V} (ho : OwnerOk c) (l : Lk) (t : Nat) :
    (l, t) ∈ c.owner ↔ l ∈ heldOf c t := by
  rw [← List.count_pos_iff, ← List.count_pos_iff, ho.1 l t]

theorem holder_held (c : Config K V) (ho : OwnerOk c) (l : Lk) (t : Nat) (h : c.holder l = some t) :
    ∃ th, c.threads[t]? = some th ∧ l ∈ th.held := by
  obtain ⟨p, hf, rfl⟩ := Option.map_eq_some_iff.mp h
  have hp1 : p.1 = l := by simpa using List.find?_some hf
  exact mem_heldOf ((ho.mem_iff l p.2).mp (hp1 ▸ List.mem_of_find?_eq_some hf))

theorem heldOf_eq {c : Config K V} {t : Nat} {th : Thread K V} (hth : c.threads[t]? = some th) :
    heldOf c t = th.held := by
  unfold heldOf; rw [hth]

theorem heldOf_set_same (c c' : Config K V) (t : Nat) (th th' : Thread K V) (hth : c.threads[t]? = some th)
    (hc' : c'.threads = c.threads.set t th') : heldOf c' t = th'.held :=
  heldOf_eq (by rw [hc', List.getElem?_set_self (List.getElem?_eq_some_iff.mp hth).1])

theorem heldOf_set_other (c c' : Config K V) (t t' : Nat) (th' : Thread K V) (hne : t' ≠ t)
    (hc' : c'.threads = c.threads.set t th') : heldOf c' t' = heldOf c t' := by
  unfold heldOf
  rw [hc', List.getElem?_set_ne (Ne.symm hne)]

/-- `s` as thread `t` sees the locks while it steps from `c` -/
def ViewOk (c : Config K V) (t : Nat) (s : St K V) : Prop :=
  (∀ l, s.owner.count (l, t) = s.held.count l) ∧
  (∀ l t', t' ≠ t → s.owner.count (l, t') = (heldOf c t').count l) ∧
  (s.owner.map Prod.fst).Nodup

theorem OwnerOk.view {c : Config K V} (ho : OwnerOk c) {t : Nat} {th : Thread K V}
    (hth : c.threads[t]? = some th) : ViewOk c t (stepSt c t th) :=
  ⟨fun l => (ho.1 l t).trans (by rw [heldOf_eq hth]; rfl), fun l t' _ => ho.1 l t', ho.2⟩

theorem ViewOk.acq {c : Config K V} {t : Nat} {s : St K V} (h : ViewOk c t s) {l : Lk}
    (hfree : ∀ p ∈ s.owner, p.1 ≠ l) : ViewOk c t (s.acq t l) := by
  obtain ⟨h1, h2, h3⟩ := h
  refine ⟨fun l' => ?_, fun l' t' ht' => ?_, ?_⟩
  · show ((l, t) :: s.owner).count (l', t) = (s.held ++ [l]).count l'
    rw [List.count_cons, List.count_append, h1 l', List.count_singleton]
    by_cases e : l = l' <;> simp [e]
  · show ((l, t) :: s.owner).count (l', t') = _
    rw [List.count_cons_of_ne (fun e => ht' (Prod.mk.inj e).2.symm), h2 l' t' ht']
  · show (l :: s.owner.map Prod.fst).Nodup
    refine List.nodup_cons.mpr ⟨fun hm => ?_, h3⟩
    obtain ⟨p, hp, e⟩ := List.mem_map.mp hm
    exact hfree p hp e

theorem ViewOk.rels {c : Config K V} {t : Nat} {s s' : St K V} (h : ViewOk c t s) (hr : RelOnly t s s') :
    ViewOk c t s' := by
  obtain ⟨ls, ho, hh⟩ := hr
  obtain ⟨f1, f2, f3⟩ := eraseAll_facts t ls s.owner s.held h.1
  unfold ViewOk
  rw [ho, hh]
  exact ⟨f1, fun l t' ht' => (f2 l t' ht').trans (h.2.1 l t' ht'), h.2.2.sublist (f3.map Prod.fst)⟩

theorem ViewOk.ownerOk {c c' : Config K V} {t : Nat} {s : St K V} (h : ViewOk c t s) {th th' : Thread K V}
    (hth : c.threads[t]? = some th) (hthreads : c'.threads = c.threads.set t th')
    (hown : c'.owner = s.owner) (hheld : th'.held = s.held) : OwnerOk c' := by
  refine ⟨fun l t' => ?_, by rw [hown]; exact h.2.2⟩
  rw [hown]
  by_cases ht' : t' = t
  · subst ht'
    rw [heldOf_set_same c c' t' th th' hth hthreads, hheld]
    exact h.1 l
  · rw [heldOf_set_other c c' t t' th' ht' hthreads]
    exact h.2.1 l t' ht'

theorem holder_isNone {c : Config K V} {l : Lk} (h : (c.holder l).isNone = true) : ∀ p ∈ c.owner, p.1 ≠ l := by
  intro p hp e
  rw [Config.holder, Option.isNone_iff_eq_none, Option.map_eq_none_iff, List.find?_eq_none] at h
  exact absurd e (by simpa using h p hp)

theorem owner_step (c c' : Config K V) (t : Nat) (hs : c.step t = some c') (ho : OwnerOk c) (hok : ConfigOk c) :
    OwnerOk c' := by
  obtain ⟨th, r, S⟩ := step_stepped hs
  obtain ⟨he, hheld⟩ := runThread_eff c.P t th (stepSt c t th) (hok th S.mem).2.2 rfl
  rw [← S.run] at he hheld
  have hv : ViewOk c t ((stepSt c t th).grant t th.park) := by
    have hv := ho.view S.get
    have hen := S.enabled
    unfold Thread.enabled at hen
    cases hp : th.park with
    | want l k => rw [hp] at hen; exact hv.acq (holder_isNone hen)
    | _ => exact hv
  exact (hv.rels he.relOnly).ownerOk S.get S.threads S.owner hheld

theorem heldOf_init (P : Params K) (tree : Tree K V) (progs : List (List (COp K V))) (t : Nat) :
    heldOf (Config.init P tree progs) t = [] := by
  unfold heldOf
  cases h : (Config.init P tree progs).threads[t]? with
  | none => rfl
  | some th =>
    obtain ⟨p, _, rfl⟩ := mem_init_threads (List.mem_of_getElem? h)
    rfl

theorem init_owner (P : Params K) (tree : Tree K V) (progs : List (List (COp K V))) :
    OwnerOk (Config.init P tree progs) :=
  ⟨fun l t => by rw [heldOf_init]; rfl, List.nodup_nil⟩

/-- mutual exclusion, for every reachable configuration in which no thread panicked -/
theorem reachable_owner (c0 c : Config K V) (h0 : ConfigOk c0) (ho : OwnerOk c0)
    (hr : Reachable c0 c) (hd : c.dead = false) : OwnerOk c :=
  hr.invariant (fun c => c.dead = false → OwnerOk c) (fun _ => ho)
    (fun c1 c2 t hr1 ih hs hd =>
      have hd1 := step_dead c1 c2 t hs hd
      owner_step c1 c2 t hs (ih hd1) (reachable_ok c0 c1 h0 hr1 hd1)) hd

end Gobptree.Conc
