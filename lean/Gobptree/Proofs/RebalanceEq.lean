/-
  What `rebalance` computes: it succeeds in exactly four ways (borrow from the right
  sibling, borrow from the left one, merge into the left one, absorb the right one),
  each chosen under its own guards.  Every layer that reasons about Delete reads the
  function through `rebalance_cases` (from a successful call to the case) and
  `rebalance_of` (from the case to the call).
-/
import Gobptree.Proofs.Except
import Gobptree.Proofs.Slice
import Gobptree.Ops

namespace Gobptree

variable {K V : Type}

theorem ite_none_inv {α : Type} {c : Prop} [Decidable c] {o : Option α} {x : α}
    (h : (if c then o else none) = none) (ho : o = some x) : ¬ c := by
  intro hc; rw [if_pos hc, ho] at h; cases h

/-- If the sibling position exists (`has`), a sibling is there and holds at most `m` entries:
    it cannot lend (`m = minSize`), or is empty (`m = 0`). -/
def NoLend (m : Nat) {d : Nat} (has : Prop) (sib : Option (Node K V d)) : Prop :=
  has → ∃ x, sib = some x ∧ Node.count x ≤ m

inductive Rebalanced (P : Params K) (vr : Variant) (m : Nat) {d : Nat} (i : Inner K (Node K V d)) (idx : Nat)
    (child : Node K V d) : Inner K (Node K V d) → Bool → Prop
  | borrowRight (right c' r' : Node K V d) (k : K) :
      idx + 1 < i.runts.length → i.kids[idx + 1]? = some right → m < Node.count right →
      Node.adoptFromRight child right = .ok (c', r') → Node.smallest r' = .ok k →
      Rebalanced P vr m i idx child
        (Inner.mk i.id (i.runts.set (idx + 1) k) ((i.kids.set idx c').set (idx + 1) r')) false
  | borrowLeft (left l' c' : Node K V d) (runts' : List K) :
      NoLend m (idx + 1 < i.runts.length) i.kids[idx + 1]? →
      0 < idx → i.kids[idx - 1]? = some left → m < Node.count left →
      Node.adoptFromLeft P left child = .ok (l', c') →
      (if vr.noRefreshLeft then runts' = i.runts
       else ∃ k, Node.smallest c' = .ok k ∧ idx < i.runts.length ∧ runts' = i.runts.set idx k) →
      Rebalanced P vr m i idx child (Inner.mk i.id runts' ((i.kids.set (idx - 1) l').set idx c')) false
  | mergeLeft (left l' : Node K V d) :
      NoLend m (idx + 1 < i.runts.length) i.kids[idx + 1]? →
      0 < idx → i.kids[idx - 1]? = some left → Node.count left ≤ m → 0 < Node.count left →
      Node.absorbRight left child = .ok l' → idx < i.runts.length → idx < i.kids.length →
      Rebalanced P vr m i idx child
        (Inner.mk i.id (deleteIdiom i.runts idx) (deleteIdiom (i.kids.set (idx - 1) l') idx))
        (decide ((deleteIdiom i.runts idx).length < m))
  | mergeRight (right c' : Node K V d) :
      idx + 1 < i.runts.length → i.kids[idx + 1]? = some right → Node.count right ≤ m → Node.count right ≠ 0 →
      NoLend 0 (0 < idx) i.kids[idx - 1]? →
      Node.absorbRight child right = .ok c' → idx + 1 < i.kids.length →
      Rebalanced P vr m i idx child
        (Inner.mk i.id (deleteIdiom i.runts (idx + 1)) (deleteIdiom (i.kids.set idx c') (idx + 1)))
        (decide ((deleteIdiom i.runts (idx + 1)).length < m))

theorem rebalance_cases (P : Params K) (vr : Variant) (m : Nat) {d : Nat}
    (i i' : Inner K (Node K V d)) (idx : Nat) (child : Node K V d) (s : Bool)
    (h : rebalance P vr m i idx child = .ok (i', s)) : Rebalanced P vr m i idx child i' s := by
  -- `throw_bind` drops the continuations that `do` copies after each `throw`; the `if`s are then
  -- decided by hand (`by_cases`), since `split` on an `if` of this term is slow to check; only the
  -- `match`es are split
  simp only [rebalance, throw_bind] at h
  generalize hr : (if decide (idx + 1 < i.runts.length) = true then i.kids[idx+1]? else none) = right? at h
  generalize hl : (if idx > 0 then i.kids[idx-1]? else none) = left? at h
  have hR : ∀ r, right? = some r → idx + 1 < i.runts.length ∧ i.kids[idx+1]? = some r := fun r e => by
    obtain ⟨a, b⟩ := Option.ite_none_right_eq_some.1 (hr.trans e); exact ⟨of_decide_eq_true a, b⟩
  have hL : ∀ l, left? = some l → 0 < idx ∧ i.kids[idx-1]? = some l := fun l e => Option.ite_none_right_eq_some.1 (hl.trans e)
  by_cases g1 : decide (idx + 1 < i.runts.length) = true ∧ right?.isNone = true
  · rw [if_pos g1] at h; cases h
  rw [if_neg g1] at h
  split at h
  · rename_i right hsel
    obtain ⟨hc, e⟩ := Option.ite_none_right_eq_some.1 hsel
    subst e
    obtain ⟨⟨c', r'⟩, hA, h⟩ := bind_ok h
    obtain ⟨k, hS, h⟩ := bind_ok h
    by_cases g2 : i.runts.length ≤ idx + 1
    · rw [if_pos g2] at h; cases h
    rw [if_neg g2] at h
    cases h
    exact .borrowRight right c' r' k (hR _ rfl).1 (hR _ rfl).2 hc hA hS
  · rename_i hselR
    have hno : NoLend m (idx + 1 < i.runts.length) i.kids[idx + 1]? := fun hlt => by
      cases hq : right? with
      | none => exact absurd ⟨decide_eq_true hlt, by rw [hq]; rfl⟩ g1
      | some r => subst hq; exact ⟨r, (hR r rfl).2, Nat.le_of_not_lt (ite_none_inv hselR rfl)⟩
    by_cases g2 : idx > 0 ∧ left?.isNone = true
    · rw [if_pos g2] at h; cases h
    rw [if_neg g2] at h
    split at h
    · rename_i left hsel
      obtain ⟨hc, e⟩ := Option.ite_none_right_eq_some.1 hsel
      subst e
      obtain ⟨⟨l', c'⟩, hA, h⟩ := bind_ok h
      obtain ⟨runts', hS, h⟩ := bind_ok h
      cases h
      refine .borrowLeft left l' c' runts' hno (hL _ rfl).1 (hL _ rfl).2 hc hA ?_
      by_cases hv : vr.noRefreshLeft = true
      · rw [if_pos hv] at hS ⊢; cases hS; rfl
      · rw [if_neg hv] at hS ⊢
        obtain ⟨k, hk, hS⟩ := bind_ok hS
        by_cases g3 : i.runts.length ≤ idx
        · rw [if_pos g3] at hS; cases hS
        rw [if_neg g3] at hS; cases hS
        exact ⟨k, hk, Nat.lt_of_not_le g3, rfl⟩
    · rename_i hselL
      split at h
      · rename_i left hsel
        obtain ⟨hc, e⟩ := Option.ite_none_right_eq_some.1 hsel
        subst e
        obtain ⟨l', hA, h⟩ := bind_ok h
        by_cases g3 : i.runts.length ≤ idx ∨ i.kids.length ≤ idx
        · rw [if_pos g3] at h; cases h
        rw [if_neg g3] at h
        cases h
        exact .mergeLeft left l' hno (hL _ rfl).1 (hL _ rfl).2 (Nat.le_of_not_lt (ite_none_inv hselL rfl)) hc hA
          (by omega) (by omega)
      · rename_i hselL0
        have hnoL : NoLend 0 (0 < idx) i.kids[idx - 1]? := fun hpos => by
          cases hq : left? with
          | none => exact absurd ⟨hpos, by rw [hq]; rfl⟩ g2
          | some l => subst hq; exact ⟨l, (hL l rfl).2, Nat.le_of_not_lt (ite_none_inv hselL0 rfl)⟩
        cases hq : right? with
        | none => rw [hq] at h; cases h
        | some right =>
          subst hq
          dsimp only at h
          by_cases g3 : Node.count right = 0
          · rw [if_pos g3] at h; cases h
          rw [if_neg g3] at h
          obtain ⟨c', hA, h⟩ := bind_ok h
          by_cases g4 : i.runts.length ≤ idx + 1 ∨ i.kids.length ≤ idx + 1
          · rw [if_pos g4] at h; cases h
          rw [if_neg g4] at h
          cases h
          exact .mergeRight right c' (hR _ rfl).1 (hR _ rfl).2 (Nat.le_of_not_lt (ite_none_inv hselR rfl)) g3 hnoL hA
            (by omega)

theorem rebalance_of {P : Params K} {vr : Variant} {m : Nat} {d : Nat}
    {i i' : Inner K (Node K V d)} {idx : Nat} {child : Node K V d} {s : Bool}
    (h : Rebalanced P vr m i idx child i' s) : rebalance P vr m i idx child = .ok (i', s) := by
  cases h with
  | borrowRight right c' r' k hidx hright hcount hadopt hs =>
    simp only [rebalance, throw_bind, hidx, decide_true, if_true, hright, Option.isNone_some, and_false, if_false,
      hcount, ok_bind, hadopt, hs, Bool.false_eq_true, Nat.not_le.2 hidx]
    rfl
  | borrowLeft left l' c' runts' hno hpos hleft hcount hadopt hrunts =>
    have hrun : (if vr.noRefreshLeft = true then pure i.runts else do
        let k ← Node.smallest c'
        if i.runts.length ≤ idx then throw .indexOutOfRange else pure (i.runts.set idx k) : R (List K)) = .ok runts' := by
      by_cases hv : vr.noRefreshLeft = true
      · rw [if_pos hv] at hrunts ⊢; rw [hrunts]; rfl
      · rw [if_neg hv] at hrunts ⊢
        obtain ⟨k, hk, hlt, e⟩ := hrunts
        rw [hk, e]
        exact if_neg (Nat.not_le.2 hlt)
    by_cases hR : idx + 1 < i.runts.length
    · obtain ⟨right, hright, hrc⟩ := hno hR
      simp only [rebalance, throw_bind, hR, decide_true, if_true, hright, Option.isNone_some, and_false, if_false,
        Nat.not_lt.2 hrc, hpos, hleft, hcount, ok_bind, hadopt, Bool.false_eq_true]
      rw [hrun]; rfl
    · simp only [rebalance, throw_bind, hR, decide_false, Option.isNone_none, false_and, if_false, if_true,
        Option.isNone_some, and_false, hpos, hleft, hcount, ok_bind, hadopt, Bool.false_eq_true, Nat.not_lt_zero]
      rw [hrun]; rfl
  | mergeLeft left l' hno hpos hleft hle hcount habsorb hidx hidxk => 
    by_cases hR : idx + 1 < i.runts.length
    · obtain ⟨right, hright, hrc⟩ := hno hR
      simp only [rebalance, throw_bind, hR, decide_true, if_true, hright, Option.isNone_some, and_false, if_false,
        Nat.not_lt.2 hrc, Nat.not_lt.2 hle, hpos, hleft, hcount, ok_bind, habsorb, Bool.false_eq_true,
        Nat.not_le.2 hidx, Nat.not_le.2 hidxk, or_self]
      rfl
    · simp only [rebalance, throw_bind, hR, decide_false, if_true, Option.isNone_none, false_and, if_false,
        Nat.not_lt.2 hle, hpos, hleft, hcount, ok_bind, habsorb, Bool.false_eq_true,
        Nat.not_le.2 hidx, Nat.not_le.2 hidxk, or_self, Nat.not_lt_zero]
      rfl
  | mergeRight right c' hidx hright hle hcount hno habsorb hidxk =>
    by_cases hL : 0 < idx
    · obtain ⟨left, hleft, hlc⟩ := hno hL
      have hl0 : Node.count left = 0 := Nat.le_zero.1 hlc
      simp only [rebalance, throw_bind, hidx, decide_true, if_true, hright, Option.isNone_some, and_false, if_false,
        Nat.not_lt.2 hle, hl0, hL, hleft, hcount, ok_bind, habsorb, Bool.false_eq_true,
        Nat.not_le.2 hidx, Nat.not_le.2 hidxk, or_self, Nat.not_lt_zero]
      rfl
    · simp only [rebalance, throw_bind, hidx, decide_true, if_true, hright, Option.isNone_some, and_false, if_false,
        Nat.not_lt.2 hle, hL, hcount, ok_bind, habsorb, Bool.false_eq_true,
        Nat.not_le.2 hidx, Nat.not_le.2 hidxk, or_self, Nat.not_lt_zero, false_and]
      rfl

theorem split_two {α : Type} (l : List α) (j : Nat) (x y : α) (h : l[j]? = some x)
    (h2 : l[j + 1]? = some y) : ∃ a b, l = a ++ x :: y :: b ∧ a.length = j := by
  obtain ⟨hi, rfl⟩ := List.getElem?_eq_some_iff.1 h
  obtain ⟨hi2, rfl⟩ := List.getElem?_eq_some_iff.1 h2
  refine ⟨l.take j, l.drop (j + 1 + 1), ?_, length_take_of_lt l j hi⟩
  rw [← List.drop_eq_getElem_cons hi2]
  exact self_form l j hi

/-- `rebalance` on a window: the children are `a ++ x₀ :: y₀ :: b`, the child under repair stands
    for `x₀` or for `y₀`, and the window `[x, y]` is re-cut by a borrow or replaced by its merge;
    the separator concerned is the one at `a.length + 1`.  Four branches, two cases. -/
theorem rebalance_two (P : Params K) (vr : Variant) (m : Nat) {d : Nat}
    (i i' : Inner K (Node K V d)) (idx : Nat) (child c : Node K V d) (s : Bool)
    (h : rebalance P vr m i idx child = .ok (i', s)) (hc : i.kids[idx]? = some c) :
    i'.id = i.id ∧ ∃ a b x y,
      (i.kids = a ++ c :: y :: b ∧ x = child ∧ idx = a.length ∨
       i.kids = a ++ x :: c :: b ∧ y = child ∧ idx = a.length + 1) ∧
      ((∃ x' y', (Node.adoptFromRight x y = .ok (x', y') ∨ Node.adoptFromLeft P x y = .ok (x', y')) ∧
          i'.kids = a ++ x' :: y' :: b ∧ s = false) ∨
       (∃ z, Node.absorbRight x y = .ok z ∧ i'.kids = a ++ z :: b ∧
          i'.runts = deleteIdiom i.runts (a.length + 1) ∧ s = decide (i'.runts.length < m))) := by
  cases rebalance_cases P vr m i i' idx child s h with
  | borrowRight right c' r' k _ hright _ hadopt _ =>
    obtain ⟨a, b, hab, rfl⟩ := split_two _ _ _ _ hc hright
    refine ⟨rfl, a, b, child, right, .inl ⟨hab, rfl, rfl⟩, .inl ⟨c', r', .inl hadopt, ?_, rfl⟩⟩
    show (i.kids.set a.length c').set (a.length + 1) r' = _
    rw [hab, set_pivot rfl, set_next rfl]
  | borrowLeft left l' c' runts' _ hpos hleft _ hadopt _ =>
    obtain ⟨j, rfl⟩ : ∃ j, idx = j + 1 := ⟨idx - 1, (Nat.succ_pred_eq_of_pos hpos).symm⟩
    obtain ⟨a, b, hab, rfl⟩ := split_two _ _ _ _ hleft hc
    refine ⟨rfl, a, b, left, child, .inr ⟨hab, rfl, rfl⟩, .inl ⟨l', c', .inr hadopt, ?_, rfl⟩⟩
    show (i.kids.set (a.length + 1 - 1) l').set (a.length + 1) c' = _
    rw [Nat.add_sub_cancel, hab, set_pivot rfl, set_next rfl]
  | mergeLeft left l' _ hpos hleft _ _ habs _ _ =>
    obtain ⟨j, rfl⟩ : ∃ j, idx = j + 1 := ⟨idx - 1, (Nat.succ_pred_eq_of_pos hpos).symm⟩
    obtain ⟨a, b, hab, rfl⟩ := split_two _ _ _ _ hleft hc
    refine ⟨rfl, a, b, left, child, .inr ⟨hab, rfl, rfl⟩, .inr ⟨l', habs, ?_, rfl, rfl⟩⟩
    show deleteIdiom (i.kids.set (a.length + 1 - 1) l') (a.length + 1) = _
    rw [Nat.add_sub_cancel, hab, set_pivot rfl, deleteIdiom_next rfl]
  | mergeRight right c' _ hright _ _ _ habs _ =>
    obtain ⟨a, b, hab, rfl⟩ := split_two _ _ _ _ hc hright
    refine ⟨rfl, a, b, child, right, .inl ⟨hab, rfl, rfl⟩, .inr ⟨c', habs, ?_, rfl, rfl⟩⟩
    show deleteIdiom (i.kids.set a.length c') (a.length + 1) = _
    rw [hab, set_pivot rfl, deleteIdiom_next rfl]

/-! `deleteNode` on an inner node: the key routes to one child; what the call on that child returns is
written back, or handed to `rebalance` when it reports "too small". -/

theorem deleteNode_inner_none (P : Params K) (vr : Variant) (m : Nat) (key : K) {d : Nat} (i : Inner K (Node K V d))
    (hk : i.kids[searchLE P.lt key i.runts]? = none) :
    deleteNode P vr m key (d + 1) i = .error .indexOutOfRange := by
  simp only [deleteNode, hk]
  rfl

theorem deleteNode_inner (P : Params K) (vr : Variant) (m : Nat) (key : K) {d : Nat} (i : Inner K (Node K V d))
    {child : Node K V d} (hk : i.kids[searchLE P.lt key i.runts]? = some child) :
    deleteNode P vr m key (d + 1) i =
      (deleteNode P vr m key d child >>= fun v =>
        if !v.2 then
          pure (((⟨i.id, i.runts, i.kids.set (searchLE P.lt key i.runts) v.1⟩ : Inner K (Node K V d)) : Node K V (d + 1)), false)
        else rebalance P vr m i (searchLE P.lt key i.runts) v.1) := by
  simp only [deleteNode, hk]
  rfl

/-- a successful `Tree.delete`: `deleteNode` on the root, then the root collapse when the root reports
    "too small" and has at most one entry left -/
theorem Tree.delete_ok_inv (P : Params K) (vr : Variant) (t t' : Tree K V) (key : K) (h : t.delete P vr key = .ok t') :
    ∃ root' small, deleteNode P vr (if vr.minFull then t.order else t.order >>> 1) key t.depth t.root = .ok (root', small) ∧
      if !small ∨ Node.count root' > 1 then t' = { t with root := root' }
      else collapseRoot t.order t.nextId t.depth root' = .ok t' := by
  obtain ⟨⟨root', small⟩, hD, h1⟩ := bind_ok (show (deleteNode P vr _ key t.depth t.root >>= _) = .ok t' from h)
  refine ⟨root', small, hD, ?_⟩
  dsimp only at h1
  by_cases hc : !small ∨ Node.count root' > 1
  · rw [if_pos hc] at h1 ⊢
    cases h1; rfl
  · rw [if_neg hc] at h1 ⊢
    exact h1

end Gobptree
