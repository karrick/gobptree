/-
  Interface for the key-order block lemmas: what one stretch of a continuation does to the
  ordering invariant, to the abstract map, and to the positions of the other threads.
-/
import Gobptree.Proofs.CKDefs
import Gobptree.Proofs.CSBlock

namespace Gobptree.Conc
open Gobptree

variable {K V : Type}

/-- the flow ends a Delete's descent: the key has been removed from its leaf -/
def postLeaf : Flow K V → Prop
  | .done _ => True
  | .park (.want _ (.delRight _ _ _ _ _)) => True
  | _ => False

/-- abstract effect of one stretch of continuation `k` run by thread `t` -/
def AbsEffect (lt : K → K → Bool) (t : Nat) (k : Kont K V) (s s' : St K V) (fl : Flow K V) : Prop :=
  match k with
  | .roNode false key _ _ =>
    s'.tree.abs = s.tree.abs ∧ ∀ v, fl = .done (.found v) → v = Spec.lookup lt s.tree.abs key
  | .upRoot key f _ _ | .upRootSib key f _ _ _ | .upChild key f _ _ _ _ | .upSib key f _ _ _ _ =>
    (∀ r, fl = .done r → s'.tree.abs = Spec.update lt s.tree.abs key f) ∧
    (∀ p, fl = .park p → s'.tree.abs = s.tree.abs) ∧
    (∀ arg, Ev.note t (.cb arg) ∈ s'.evs → Ev.note t (.cb arg) ∈ s.evs ∨ arg = Spec.lookup lt s.tree.abs key)
  | .upCallback key f _ arg =>
    s'.tree.abs = Spec.update lt s.tree.abs key f ∧ arg = Spec.lookup lt s.tree.abs key
  | .delRoot key _ | .delChild key _ _ _ _ _ _ =>
    (postLeaf fl → s'.tree.abs = Spec.erase lt s.tree.abs key) ∧
    (¬ postLeaf fl → s'.tree.abs = s.tree.abs)
  | _ => s'.tree.abs = s.tree.abs

/-- positions of nodes the stepping thread does not hold survive the stretch -/
def StableRoutes (lt : K → K → Bool) (H : List Lk) (t t' : Tree K V) : Prop :=
  ∀ key id, id < t.nextId → Lk.node id ∉ H →
    (OnRoute lt t key id → OnRoute lt t' key id) ∧ (InBounds lt t key id → InBounds lt t' key id)

/-- for a Delete's stretch: only the positions of threads that are inside their node's
    interval are guaranteed (a reader clamped to child 0 with a key below the interval may be
    re-routed by a borrow or merge; excluded by the separator invariant `ISep`) -/
def StableBounds (lt : K → K → Bool) (H : List Lk) (t t' : Tree K V) : Prop :=
  ∀ key id, id < t.nextId → Lk.node id ∉ H → InBounds lt t key id → InBounds lt t' key id

structure KPost (lt : K → K → Bool) (t : Nat) (k : Kont K V) (s s' : St K V) (fl : Flow K V) : Prop where
  ord  : OrdTree lt s'.tree
  eff  : AbsEffect lt t k s s' fl
  kpos : ∀ p, fl = .park p → parkKPos lt s'.tree p

/-- Search / NewScanner / Insert / Update / hop / pause -/
def ResumeKU (K V : Type) : Prop :=
  ∀ (lt : K → K → Bool) (P : Params K) (t : Nat) (s : St K V) (k : Kont K V) (H : List Lk) (hole : Option Nat),
    isDelK k = false → KParams lt P → Pre P hole s → KontOk s.tree k →
    CursorOk s.tree (isHopK k) s.cursor → KontPre s.cursor k → Covers H s.cursor k →
    OrdTree lt s.tree → KPos lt s.tree k →
    KPost lt t k s (resume P t s k).1 (resume P t s k).2 ∧
    StableRoutes lt H s.tree (resume P t s k).1.tree

/-- Delete -/
def ResumeKD (K V : Type) : Prop :=
  ∀ (lt : K → K → Bool) (P : Params K) (t : Nat) (s : St K V) (k : Kont K V) (H : List Lk),
    isDelK k = true → 4 ≤ s.tree.order → KParams lt P → Pre P (kontHole k) s → KontOk s.tree k →
    KontPre s.cursor k → Covers H s.cursor k →
    OrdTree lt s.tree → KPos lt s.tree k →
    KPost lt t k s (resume P t s k).1 (resume P t s k).2 ∧
    StableBounds lt H s.tree (resume P t s k).1.tree

end Gobptree.Conc
