/-
  Three facts about the result monad `R` for reading a `do` block without unfolding `bind`.
  `throw_bind` matters most: `do` copies the rest of the block after every `throw`, and
  rewriting with it as the function is unfolded keeps the term at the size of the source.
-/
import Gobptree.Node

namespace Gobptree

theorem throw_bind {α β : Type} (e : Panic) (f : α → R β) : (throw e >>= f) = throw e := rfl

theorem ok_bind {α β : Type} (a : α) (f : α → R β) : (Except.ok a >>= f) = f a := rfl

theorem bind_ok {α β : Type} {x : R α} {f : α → R β} {b : β} (h : x >>= f = .ok b) :
    ∃ a, x = .ok a ∧ f a = .ok b := by
  cases x with
  | error e => cases h
  | ok a => exact ⟨a, rfl, h⟩

end Gobptree
