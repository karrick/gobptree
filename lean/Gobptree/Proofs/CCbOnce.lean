/-
  Property C05, every schedule: the callback of an Update is invoked exactly once.

  Counting invariant over the log of every reachable configuration of disciplined clients:
  the number of callback notes of a thread equals the number of its Updates that have
  returned, plus one if the thread is currently parked inside an Update's callback.
  (An Insert runs the same code with `yields = none` and logs no callback note.)
  Needs only `CInv` (no operation panics), no key-order results.
-/
import Gobptree.Proofs.CLin

namespace Gobptree.Conc
open Gobptree

variable {K V : Type}

def cbCount (c : Config K V) (t : Nat) : Nat :=
  (c.log.filter fun e => match e with | .note t' (.cb _) => t' == t | _ => false).length

def updReturned (c : Config K V) (t : Nat) : Nat :=
  (c.log.filter fun e => match e with
    | .note t' (.ret idx _) => t' == t && (match (progOf c t)[idx]? with | some (.upd _ _ _) => true | _ => false)
    | _ => false).length

def inCallback (th : Thread K V) : Nat :=
  match th.park with
  | .yielded (.upCallback _ _ _ _) => 1
  | _ => 0

def isUpdB : Option (COp K V) → Bool
  | some (.upd _ _ _) => true
  | _ => false

def retB (progs : Nat → List (COp K V)) (t : Nat) : Ev K V → Bool
  | .note t' (.ret idx _) => t' == t && isUpdB (progs t)[idx]?
  | _ => false

def retU (progs : Nat → List (COp K V)) (t : Nat) (evs : List (Ev K V)) : Nat := evs.countP (retB progs t)

theorem cbCount_eq (c : Config K V) (t : Nat) : cbCount c t = cbN t c.log := by
  unfold cbCount cbN
  rw [List.countP_eq_length_filter]
  congr 2

theorem updReturned_eq (c : Config K V) (t : Nat) : updReturned c t = retU (progOf c) t c.log := by
  unfold updReturned retU
  rw [List.countP_eq_length_filter]
  congr 2

theorem retU_of_quiet (progs : Nat → List (COp K V)) (t t' : Nat) {new : List (Ev K V)}
    (hq : new.all (quietB t) = true) : retU progs t' new = 0 := by
  refine List.countP_eq_zero.2 fun e he => ?_
  have hqe := List.all_eq_true.1 hq e he
  cases e with
  | note t'' n =>
    cases n with
    | cb a => exact Bool.false_ne_true
    | inv i => cases hqe
    | ret i r => cases hqe
  | acq t'' l => exact Bool.false_ne_true
  | rel t'' l => exact Bool.false_ne_true
  | dec t'' l => exact Bool.false_ne_true

theorem retU_quiet (progs : Nat → List (COp K V)) (t t' : Nat) (evs : List (Ev K V))
    (new : List (Ev K V)) (hq : new.all (quietB t) = true) : retU progs t' (new ++ evs) = retU progs t' evs :=
  (List.countP_append ..).trans (by rw [show List.countP _ new = 0 from retU_of_quiet progs t t' hq, Nat.zero_add]; rfl)

def ParkForP (prog : List (COp K V)) (pc : Nat) : Park K V → Prop
  | .start => pc = 0
  | .finished => True
  | .want _ k => ∃ cop, prog[pc]? = some cop ∧ KontFor cop k
  | .yielded k => ∃ cop, prog[pc]? = some cop ∧ KontFor cop k

theorem updK_for {cop : COp K V} {k : Kont K V} (h : KontFor cop k) : updK k = isUpdB (some cop) := by
  unfold updK
  rw [kontFor_iff.1 h]
  cases cop <;> rfl

theorem retU_ret (progs : Nat → List (COp K V)) (t pc : Nat) (r : Res K V) (evs : List (Ev K V)) :
    retU progs t (Ev.note t (.ret pc r) :: evs) = b2n (isUpdB (progs t)[pc]?) + retU progs t evs := by
  rw [retU, List.countP_cons, Nat.add_comm]
  show (if (t == t && isUpdB (progs t)[pc]?) = true then 1 else 0) + _ = _
  rw [beq_self_eq_true, Bool.true_and]; rfl

theorem Eff.others {cw : Bool} {t : Nat} {s s' : St K V} (h : Eff cw t s s') (progs : Nat → List (COp K V)) {t' : Nat}
    (hne : t' ≠ t) : cbN t' s'.evs = cbN t' s.evs ∧ retU progs t' s'.evs = retU progs t' s.evs := by
  induction h with
  | refl => exact ⟨rfl, rfl⟩
  | rel l _ ih => exact ih
  | setTree tr _ ih => exact ih
  | setCursor hc cur e _ ih => exact ih
  | @note s1 n _ ih =>
    refine ⟨Eq.trans ?_ ih.1, Eq.trans ?_ ih.2⟩
    · refine List.countP_cons_of_neg ?_
      cases n <;> first | exact Bool.false_ne_true | (show ¬ (t == t') = true; rw [beq_false_of_ne (Ne.symm hne)]; exact Bool.false_ne_true)
    · refine List.countP_cons_of_neg ?_
      cases n <;> first | exact Bool.false_ne_true | (show ¬ (t == t' && _) = true; rw [beq_false_of_ne (Ne.symm hne)]; exact Bool.false_ne_true)

section Loop

variable (progs : Nat → List (COp K V)) (t : Nat)

def LoopC (prog : List (COp K V)) (s : St K V) (fl : Flow K V) (pc : Nat) : Prop :=
  match fl with
  | .panic => True
  | .park p => cbN t s.evs = retU progs t s.evs + parkCb p ∧ ParkForP prog pc p
  | .done _ => cbN t s.evs = retU progs t s.evs + b2n (isUpdB prog[pc]?)

variable {progs t}

theorem begin_cb {prog : List (COp K V)} {s : St K V} {j : Nat} {cop : COp K V}
    (hcb : cbN t s.evs = retU progs t s.evs) (hcop : prog[j]? = some cop) :
    LoopC progs t prog (startOp t (s.note t (.inv j)) cop).1 (startOp t (s.note t (.inv j)) cop).2 j := by
  obtain ⟨new, e, q, fl⟩ := startOp_tr t (s.note t (.inv j)) cop
  have h1 : cbN t (startOp t (s.note t (.inv j)) cop).1.evs = cbN t s.evs := by
    rw [e, cbN_silent _ _ _ q]; rfl
  have h2 : retU progs t (startOp t (s.note t (.inv j)) cop).1.evs = retU progs t s.evs := by
    rw [e, retU_quiet _ _ _ _ _ (quiet_of_silent t q)]; rfl
  unfold LoopC
  revert fl
  cases (startOp t (s.note t (.inv j)) cop).2 with
  | panic => intro _; trivial
  | done r =>
    intro fl
    have hn : opOf cop = none := fl
    have : isUpdB (some cop) = false := by cases cop <;> first | rfl | cases hn
    simp only [h1, h2, hcop, this, b2n]
    exact hcb
  | park p =>
    intro fl
    obtain ⟨k, hk, hkf, hcn, _⟩ := fl
    refine ⟨by simp only [h1, h2, parkCb_zero_of hk hcn]; exact hcb, ?_⟩
    rcases Park.kont?_eq_some.1 hk with rfl | ⟨l, rfl⟩ <;> exact ⟨cop, hcop, hkf⟩

theorem LoopC.ret {prog : List (COp K V)} (hprog : prog = progs t) {s : St K V} {r : Res K V} {pc : Nat}
    (hl : LoopC progs t prog s (.done r) pc) :
    cbN t (s.note t (.ret pc r)).evs = retU progs t (s.note t (.ret pc r)).evs := by
  show cbN t s.evs = retU progs t (Ev.note t (.ret pc r) :: s.evs)
  rw [retU_ret, ← hprog]
  have : cbN t s.evs = retU progs t s.evs + b2n (isUpdB prog[pc]?) := hl
  rw [this, Nat.add_comm]

theorem resume_loopc (P : Params K) {prog : List (COp K V)} {s : St K V} {k : Kont K V} {pc : Nat} {cop : COp K V}
    (hcnt : cbN t s.evs = retU progs t s.evs + kCb k) (hcop : prog[pc]? = some cop) (hkf : KontFor cop k) :
    LoopC progs t prog (resume P t s k).1 (resume P t s k).2 pc := by
  obtain ⟨new, e, q, hfl, hcb⟩ := resume_trace P t s k
  have hret : retU progs t (resume P t s k).1.evs = retU progs t s.evs := by
    rw [e, retU_quiet _ _ _ _ _ q]
  have hcbn : cbN t (resume P t s k).1.evs = cbN t new + cbN t s.evs := by rw [e, cbN_append]
  unfold LoopC
  revert hfl hcb
  cases (resume P t s k).2 with
  | panic => intro _ _; trivial
  | done r =>
    intro _ hcb
    have hcb : cbN t new + kCb k = b2n (updK k) := hcb
    simp only [hcop, ← updK_for hkf, hret, hcbn]
    rw [hcnt, ← hcb, Nat.add_left_comm]
  | park p =>
    intro hfl _
    obtain ⟨_, hcn, k', hk', hsig, _, hcb⟩ := hfl
    have hk0 := kCb_of_cbArg hcn
    refine ⟨by rw [hret, hcbn, hcnt, hk0, hcb, Nat.add_zero, Nat.add_comm], ?_⟩
    rcases Park.kont?_eq_some.1 hk' with rfl | ⟨l, rfl⟩ <;> exact ⟨cop, hcop, hkf.of_sig hsig⟩

end Loop

structure CbOk (c : Config K V) (t : Nat) (th : Thread K V) : Prop where
  cnt : cbN t c.log = retU (progOf c) t c.log + parkCb th.park
  pf  : ParkForP th.prog th.pc th.park

theorem CbOk.resumed {c : Config K V} {t : Nat} {th : Thread K V} {k : Kont K V} (hme : CbOk c t th) (hinv : CInv c)
    (ht : c.threads[t]? = some th) (hpk : th.park = .yielded k ∨ ∃ l, th.park = .want l k) :
    (∃ cop, th.prog[th.pc]? = some cop ∧ KontFor cop k) ∧
      cbN t (stepSt c t th).evs = retU (progOf c) t (stepSt c t th).evs + kCb k := by
  have hok := hinv.s.cfg th (List.mem_of_getElem? ht)
  have hkcb : parkCb th.park = kCb k := by
    rcases hpk with hp | ⟨l, hp⟩
    · rw [hp]; cases k <;> rfl
    · have hlock : kontLock k = some l := by have := hok.2.2; rw [hp] at this; exact this
      rw [hp]
      cases k <;> first | rfl | cases hlock
  refine ⟨?_, by rw [← hkcb]; exact hme.cnt⟩
  have := hme.pf
  rcases hpk with hp | ⟨l, hp⟩ <;> rw [hp] at this <;> exact this

theorem step_cb (c c' : Config K V) (t : Nat) (hstep : c.step t = some c') (hinv : CInv c)
    (hI : ∀ j b, c.threads[j]? = some b → CbOk c j b) :
    ∀ j b, c'.threads[j]? = some b → CbOk c' j b := by
  obtain ⟨th, r, F⟩ := step_run hstep hinv
  have hme := hI t th F.get
  have hdied := F.alive
  have hoth : ∀ t', t' ≠ t → cbN t' r.2.1.evs = cbN t' c.log ∧ retU (progOf c) t' r.2.1.evs = retU (progOf c) t' c.log := by
    intro t' hne
    have he := (runThread_eff c.P t th (stepSt c t th) (hinv.s.cfg th (List.mem_of_getElem? F.get)).2.2 rfl).1
    rw [← F.run] at he
    obtain ⟨h1, h2⟩ := he.others (progOf c) hne
    refine ⟨h1.trans ?_, h2.trans ?_⟩ <;> cases th.park <;> rfl
  have main : cbN t r.2.1.evs = retU (progOf c) t r.2.1.evs + parkCb r.1.park ∧ ParkForP th.prog r.1.pc r.1.park := by
    rw [F.run] at hdied ⊢
    refine runThread_induct c.P t th (stepSt c t th) (LoopC (progOf c) t th.prog)
      (fun r => r.2.2 = false →
        cbN t r.2.1.evs = retU (progOf c) t r.2.1.evs + parkCb r.1.park ∧ ParkForP th.prog r.1.pc r.1.park)
      (fun _ _ _ hl _ => hl) (fun _ _ _ hd => by cases hd) (fun _ _ _ hl _ _ => ⟨hl.ret F.prog, trivial⟩)
      (fun s r pc cop hl hop => begin_cb (s := s.note t (.ret pc r)) (hl.ret F.prog) hop)
      (fun hp => absurd hp F.nf) ?_ ?_ ?_ hdied
    · intro hp _ _
      have hcnt0 := hme.cnt
      rw [hp] at hcnt0
      exact ⟨hcnt0, trivial⟩
    · intro op hp hop
      have hcnt0 : cbN t (stepSt c t th).evs = retU (progOf c) t (stepSt c t th).evs := by
        have := hme.cnt; rw [hp] at this; exact this
      exact begin_cb (progs := progOf c) (t := t) (prog := th.prog) (s := stepSt c t th) (j := 0) hcnt0 hop
    · intro k hk
      obtain ⟨⟨cop, hcop, hkf⟩, hcnt⟩ := hme.resumed hinv F.get (Park.kont?_eq_some.1 hk)
      exact resume_loopc (progs := progOf c) (t := t) c.P hcnt hcop hkf
  obtain ⟨hcnt, hpf⟩ := main
  refine F.each ⟨by rw [F.progs, F.log]; exact hcnt, by rw [F.rprog]; exact hpf⟩ fun j b hne hjo => ?_
  obtain ⟨h1, h2⟩ := hoth j hne
  have := hI j b hjo
  exact ⟨by rw [F.progs, F.log, h1, h2]; exact this.cnt, this.pf⟩

theorem reachable_cbok (P : Params K) (tree : Tree K V) (progs : List (List (COp K V)))
    (ht : TreeOk none tree) (ho : tree.order = P.order) (hp : PadOk P) (hd : Disciplined progs)
    (hdel : 4 ≤ tree.order ∨ NoDelete progs)
    (c : Config K V) (hr : Reachable (Config.init P tree progs) c) :
    ∀ j b, c.threads[j]? = some b → CbOk c j b := by
  induction hr with
  | refl =>
    intro j b hj
    obtain ⟨p, _, rfl⟩ := mem_init_threads (List.mem_of_getElem? hj)
    exact ⟨rfl, rfl⟩
  | @step c1 c2 t hr1 hs ih =>
    exact step_cb c1 c2 t hs (reachable_cinv P tree progs ht ho hp hd hdel c1 hr1) ih

theorem callback_exactly_once (P : Params K) (tree : Tree K V) (progs : List (List (COp K V)))
    (ht : TreeOk none tree) (ho : tree.order = P.order) (hp : PadOk P) (hd : Disciplined progs)
    (hdel : 4 ≤ tree.order ∨ NoDelete progs)
    (c : Config K V) (hr : Reachable (Config.init P tree progs) c) :
    ∀ t th, c.threads[t]? = some th → cbCount c t = updReturned c t + inCallback th := by
  intro t th hth
  rw [cbCount_eq, updReturned_eq]
  exact (reachable_cbok P tree progs ht ho hp hd hdel c hr t th hth).cnt

#print axioms callback_exactly_once

end Gobptree.Conc
