/-
  What the zoom lemmas rest on: the parallel-lengths predicate `ParN`, the decomposition of an
  inner node at the kid that holds an identity, `findNode_rec`, the induction along the path to a
  found node, and the intervals the tree assigns to an identity (`boundsOf`, `gbounds`).
-/
import Gobptree.Proofs.CKDefs
import Gobptree.Proofs.WFLemmas2
import Gobptree.Proofs.CSFlat

namespace Gobptree.Conc
open Gobptree

variable {K V : Type} {lt : K → K → Bool}

/-- parallel lengths at every inner node of a subtree (`Par` of the structural layer says it of one
    `Shallow`) -/
def ParN : (d : Nat) → Node K V d → Prop
  | 0, _ => True
  | d + 1, (i : Inner K (Node K V d)) =>
    i.runts.length = i.kids.length ∧ 1 ≤ i.runts.length ∧ ∀ c ∈ i.kids, ParN d c

def ParTree (t : Tree K V) : Prop := ParN t.depth t.root

theorem Par_zero (l : Leaf K V) : ParN (K := K) (V := V) 0 l := trivial

theorem Par_succ {d : Nat} (i : Inner K (Node K V d)) :
    ParN (d + 1) i ↔ i.runts.length = i.kids.length ∧ 1 ≤ i.runts.length ∧ ∀ c ∈ i.kids, ParN d c := Iff.rfl

theorem Ord_zero (lo hi : Option K) (l : Leaf K V) :
    Ord lt 0 lo hi l ↔ Sorted lt l.keys ∧ ∀ k ∈ l.keys, leO lt lo k ∧ ltO lt k hi := Iff.rfl

theorem Ord_succ {d : Nat} (lo hi : Option K) (i : Inner K (Node K V d)) :
    Ord lt (d + 1) lo hi i ↔
      (∀ k, i.runts.head? = some k → leO lt lo k) ∧
      Kids lt (fun a b c => Ord lt d a b c) hi (i.runts.zip i.kids) := Iff.rfl

theorem findNode_some_mem {id d d' : Nat} {n : Node K V d} {m : Node K V d'}
    (h : findNode id d n = some ⟨d', m⟩) : id ∈ idsOf n := by
  apply Classical.byContradiction
  intro hc
  rw [(findNode_none id _ n).2 hc] at h
  cases h

theorem findNode_of_mem {id d : Nat} {n : Node K V d} (h : id ∈ idsOf n) :
    ∃ d' m, findNode id d n = some ⟨d', m⟩ := by
  cases hf : findNode id d n with
  | none => exact absurd h ((findNode_none id _ n).1 hf)
  | some am => exact ⟨am.1, am.2, rfl⟩

theorem findNode_id {id d d' : Nat} {n : Node K V d} {m : Node K V d'}
    (h : findNode id d n = some ⟨d', m⟩) : Node.id m = id :=
  (find_modify_flat id d n d' m h).1

theorem nodup_kid {d : Nat} (i : Inner K (Node K V d)) (A B : List (Node K V d)) (c : Node K V d)
    (hk : i.kids = A ++ c :: B) (hnd : (idsOf (d := d + 1) i).Nodup) :
    (idsOf c).Nodup ∧ ∀ x ∈ idsOf c, x ≠ i.id ∧ (∀ a ∈ A, x ∉ idsOf a) ∧ (∀ b ∈ B, x ∉ idsOf b) := by
  rw [idsOf_succ, hk, List.flatMap_append, List.flatMap_cons, List.nodup_cons] at hnd
  obtain ⟨h0, h1⟩ := hnd
  rw [List.nodup_append] at h1
  obtain ⟨_, h2, h3⟩ := h1
  rw [List.nodup_append] at h2
  obtain ⟨h4, _, h5⟩ := h2
  refine ⟨h4, ?_⟩
  intro x hx
  refine ⟨?_, ?_, ?_⟩
  · intro e
    apply h0
    rw [← e]
    simp only [List.mem_append]
    exact Or.inr (Or.inl hx)
  · intro a ha hxa
    exact h3 x (List.mem_flatMap.2 ⟨a, ha, hxa⟩) x (List.mem_append.2 (Or.inl hx)) rfl
  · intro b hb hxb
    exact h5 x hx x (List.mem_flatMap.2 ⟨b, hb, hxb⟩) rfl

theorem modifyNode_kid (id : Nat) (f : (d : Nat) → Node K V d → Node K V d) {d : Nat}
    (i : Inner K (Node K V d)) (A B : List (Node K V d)) (c : Node K V d)
    (hne : i.id ≠ id) (hk : i.kids = A ++ c :: B)
    (hA : ∀ a ∈ A, id ∉ idsOf a) (hB : ∀ b ∈ B, id ∉ idsOf b) :
    modifyNode id f (d + 1) i =
      (Inner.mk i.id i.runts (A ++ modifyNode id f d c :: B) : Inner K (Node K V d)) := by
  rw [modifyNode_succ_ne id f i hne, hk, List.map_append, List.map_cons,
    map_modify_absent id f A hA, map_modify_absent id f B hB]

theorem split_parallel {α β : Type} (r : List α) (A B : List β) (c : β) (hlen : r.length = (A ++ c :: B).length) :
    ∃ rA k rB, r = rA ++ k :: rB ∧ rA.length = A.length ∧ rB.length = B.length := by
  have hA : A.length < r.length := by rw [hlen]; simp
  refine ⟨r.take A.length, r[A.length], r.drop (A.length + 1), self_form r _ hA, length_take_of_lt r _ hA, ?_⟩
  rw [List.length_drop, hlen]; simp; omega

/-- `findNode_induct` with `Nodup` and `ParN` carried along and the separators decomposed in
    parallel with the kids -/
@[elab_as_elim]
theorem findNode_rec (id : Nat) {d' : Nat} {m : Node K V d'} {C : (d : Nat) → Node K V d → Prop}
    (here : Node.id m = id → (idsOf m).Nodup → ParN d' m → C d' m)
    (below : ∀ {d : Nat} (i : Inner K (Node K V d)) (rA : List K) (k : K) (rB : List K)
      (A : List (Node K V d)) (c : Node K V d) (B : List (Node K V d)),
      i.id ≠ id → (idsOf (d := d + 1) i).Nodup → ParN (d + 1) i →
      i.runts = rA ++ k :: rB → i.kids = A ++ c :: B → rA.length = A.length → rB.length = B.length →
      findNode id d c = some ⟨d', m⟩ → (∀ a ∈ A, id ∉ idsOf a) → (∀ b ∈ B, id ∉ idsOf b) →
      C d c → C (d + 1) i) :
    ∀ {d : Nat} (n : Node K V d), findNode id d n = some ⟨d', m⟩ → (idsOf n).Nodup → ParN d n → C d n := by
  intro d n hf
  refine findNode_induct id here ?_ n hf
  intro d i A c B hid hk hc hA ih hnd hpar
  obtain ⟨rA, k, rB, hr, hlA, hlB⟩ := split_parallel i.runts A B c (by rw [hpar.1, hk])
  obtain ⟨hndc, hx⟩ := nodup_kid i A B c hk hnd
  exact below i rA k rB A c B hid hnd hpar hr hk hlA hlB hc (fun a ha => (findNode_none id _ a).1 (hA a ha))
    (hx id (findNode_some_mem hc)).2.2 (ih hndc (hpar.2.2 c (by rw [hk]; simp)))

theorem ParN_find (id : Nat) (d : Nat) (n : Node K V d) (d' : Nat) (m : Node K V d')
    (hf : findNode id d n = some ⟨d', m⟩) : ParN d n → ParN d' m :=
  findNode_induct id (fun _ h => h)
    (fun i A c B _ hk _ _ ih hpar => ih (hpar.2.2 c (by rw [hk]; simp))) n hf

theorem hiAt_decomp {C : Type} (rA rB : List K) (k : K) (B : List C) (hi : Option K)
    (hlB : rB.length = B.length) :
    hiAt (rA ++ k :: rB) rA.length hi = nextLo hi (rB.zip B) := by
  unfold hiAt
  cases rB with
  | nil =>
    have : B = [] := List.eq_nil_of_length_eq_zero (by simpa using hlB.symm)
    subst this
    simp [nextLo]
  | cons s rB =>
    cases B with
    | nil => simp at hlB
    | cons b B =>
      have : (rA ++ k :: s :: rB)[rA.length + 1]? = some s := getElem?_next rfl k s
      rw [this]
      rfl

/-
  Intervals.  An inner node that stands for `[lo, hi)` hands its kid `cⱼ`, behind the separator `rⱼ`,
  the interval from `rⱼ` to the next separator, the last kid up to `hi`:
  * `nextLo hi rest` (WF) is that upper end for an entry followed by the entries `rest`, `hiAt runts j hi`
    (CKDefs) the same for the entry at index `j`;
  * `firstE g hi es` is the first answer `g (some k) upper c` among the entries `(k, c)` of `es`;
  * `boundsOf id d lo hi n` is the interval so assigned to the node `id` inside `n`.
  The search never leaves a node on the left: at kid 0 it descends whatever the key.  So the keys whose
  route passes a node form its clamped interval: the same upper end, the lower end that of the nearest
  ancestor-or-self that is not a first kid.
  * `lowG cl lo k` is the lower end of a first kid with separator `k` in a node with lower end `lo`:
    `some k`, or clamped (`cl = true`) `lo`; `lowD cl lo rA k` that of the kid behind the separators `rA`;
  * `firstG cl g lo hi es` is `firstE` with `lowG cl lo k` for the first entry;
  * `gbounds cl` is `boundsOf` for `cl = false` (`gbounds_false`) and the clamped interval for
    `cl = true`, both as one expression in `Option.or` (`gbounds_decomp`), so that what a rewrite does
    to them is proved once;
  * `winE g a h c M` is what consecutive entries `(k, c) :: M`, the first with lower end `a`, the last
    with upper end `h`, contribute to `firstG` (`firstG_mid`, CKSeg);
  * `egbounds` (CKUpSplit) reads an entry of a node of either height: `gbounds` of a kid, nothing of a
    value.
-/

def firstE {C β : Type} (g : Option K → Option K → C → Option β) (hi : Option K) : List (K × C) → Option β
  | [] => none
  | (k, c) :: rest =>
    match g (some k) (nextLo hi rest) c with
    | some b => some b
    | none => firstE g hi rest

def boundsOf (id : Nat) : (d : Nat) → Option K → Option K → Node K V d → Option (Option K × Option K)
  | 0, lo, hi, (l : Leaf K V) => if l.id = id then some (lo, hi) else none
  | d + 1, lo, hi, (i : Inner K (Node K V d)) =>
    if i.id = id then some (lo, hi) else firstE (boundsOf id d) hi (i.runts.zip i.kids)

def _root_.Gobptree.Tree.boundsOf (t : Tree K V) (id : Nat) : Option (Option K × Option K) :=
  Conc.boundsOf id t.depth none none t.root

def lowG (cl : Bool) (lo : Option K) (k : K) : Option K := if cl then lo else some k

def firstG {C β : Type} (cl : Bool) (g : Option K → Option K → C → Option β) (lo hi : Option K) :
    List (K × C) → Option β
  | [] => none
  | (k, c) :: rest => (g (lowG cl lo k) (nextLo hi rest) c).or (firstE g hi rest)

def gbounds (cl : Bool) (id : Nat) : (d : Nat) → Option K → Option K → Node K V d → Option (Option K × Option K)
  | 0, lo, hi, (l : Leaf K V) => if l.id = id then some (lo, hi) else none
  | d + 1, lo, hi, (i : Inner K (Node K V d)) =>
    if i.id = id then some (lo, hi) else firstG cl (gbounds cl id d) lo hi (i.runts.zip i.kids)

def _root_.Gobptree.Tree.gbounds (t : Tree K V) (cl : Bool) (id : Nat) : Option (Option K × Option K) :=
  Conc.gbounds cl id t.depth none none t.root

def lowD (cl : Bool) (lo : Option K) (rA : List K) (k : K) : Option K :=
  match rA with
  | [] => lowG cl lo k
  | _ :: _ => some k

def winE {C β : Type} (g : Option K → Option K → C → Option β) (a h : Option K) (c : C) (M : List (K × C)) :
    Option β :=
  (g a (nextLo h M) c).or (firstE g h M)

theorem firstE_cons_or {C β : Type} (g : Option K → Option K → C → Option β) (hi : Option K)
    (k : K) (c : C) (rest : List (K × C)) :
    firstE g hi ((k, c) :: rest) = (g (some k) (nextLo hi rest) c).or (firstE g hi rest) := by
  simp only [firstE]
  cases g (some k) (nextLo hi rest) c <;> rfl

theorem firstE_nil {C β : Type} (g : Option K → Option K → C → Option β) (hi : Option K) :
    firstE g hi ([] : List (K × C)) = none := rfl

theorem firstE_append_or {C β : Type} (g : Option K → Option K → C → Option β) (hi : Option K)
    (l r : List (K × C)) :
    firstE g hi (l ++ r) = (firstE g (nextLo hi r) l).or (firstE g hi r) := by
  induction l with
  | nil => rfl
  | cons e l ih =>
    obtain ⟨k, c⟩ := e
    rw [List.cons_append, firstE_cons_or, firstE_cons_or, ih, nextLo_append, Option.or_assoc]

theorem firstE_none {C β : Type} (g : Option K → Option K → C → Option β) (hi : Option K)
    (l : List (K × C)) (hl : ∀ e ∈ l, ∀ a b, g a b e.2 = none) : firstE g hi l = none := by
  induction l with
  | nil => rfl
  | cons e l ih =>
    obtain ⟨k, c⟩ := e
    rw [firstE_cons_or, hl (k, c) List.mem_cons_self, ih fun e he => hl e (List.mem_cons_of_mem _ he)]
    rfl

theorem firstE_append {C β : Type} (g : Option K → Option K → C → Option β) (hi : Option K)
    (l r : List (K × C)) (hl : ∀ e ∈ l, ∀ a b, g a b e.2 = none) :
    firstE g hi (l ++ r) = firstE g hi r := by
  rw [firstE_append_or, firstE_none g _ l hl, Option.none_or]

theorem firstE_congr {C β : Type} (g g' : Option K → Option K → C → Option β) (hi : Option K)
    (es : List (K × C)) (hg : ∀ e ∈ es, ∀ a b, g a b e.2 = g' a b e.2) : firstE g hi es = firstE g' hi es := by
  induction es with
  | nil => rfl
  | cons e es ih =>
    obtain ⟨k, c⟩ := e
    rw [firstE_cons_or, firstE_cons_or, hg (k, c) List.mem_cons_self,
      ih (fun e he => hg e (List.mem_cons_of_mem _ he))]

theorem firstE_some_of_mem {C β : Type} (g : Option K → Option K → C → Option β) (hi : Option K)
    (es : List (K × C)) (e : K × C) (he : e ∈ es) (hg : ∀ a b, g a b e.2 ≠ none) :
    ∃ bd, firstE g hi es = some bd := by
  induction es with
  | nil => cases he
  | cons e0 es ih =>
    obtain ⟨k, c⟩ := e0
    rw [firstE_cons_or]
    cases hgc : g (some k) (nextLo hi es) c with
    | some bd => exact ⟨bd, rfl⟩
    | none =>
      rcases List.mem_cons.1 he with rfl | he
      · exact absurd hgc (hg _ _)
      · simpa using ih he

theorem firstG_none {C β : Type} (cl : Bool) (g : Option K → Option K → C → Option β) (lo hi : Option K)
    (l : List (K × C)) (hl : ∀ e ∈ l, ∀ a b, g a b e.2 = none) : firstG cl g lo hi l = none := by
  cases l with
  | nil => rfl
  | cons e l =>
    obtain ⟨k, c⟩ := e
    show (g (lowG cl lo k) (nextLo hi l) c).or (firstE g hi l) = none
    rw [hl (k, c) List.mem_cons_self, firstE_none g hi l (fun e he => hl e (List.mem_cons_of_mem _ he))]
    rfl

theorem firstG_append {C β : Type} (cl : Bool) (g : Option K → Option K → C → Option β) (lo hi : Option K)
    (e : K × C) (l r : List (K × C)) :
    firstG cl g lo hi (e :: l ++ r) = (firstG cl g lo (nextLo hi r) (e :: l)).or (firstE g hi r) := by
  obtain ⟨k, c⟩ := e
  show (g (lowG cl lo k) (nextLo hi (l ++ r)) c).or (firstE g hi (l ++ r)) =
    ((g (lowG cl lo k) (nextLo (nextLo hi r) l) c).or (firstE g (nextLo hi r) l)).or (firstE g hi r)
  rw [firstE_append_or, nextLo_append, Option.or_assoc]

theorem firstG_false {C β : Type} (g g' : Option K → Option K → C → Option β) (lo hi : Option K)
    (es : List (K × C)) (hg : ∀ e ∈ es, ∀ a b, g a b e.2 = g' a b e.2) :
    firstG false g lo hi es = firstE g' hi es := by
  cases es with
  | nil => rfl
  | cons e es =>
    obtain ⟨k, c⟩ := e
    rw [firstE_cons_or, ← hg (k, c) List.mem_cons_self,
      ← firstE_congr g g' hi es (fun e he => hg e (List.mem_cons_of_mem _ he))]
    rfl

theorem firstG_decomp {C β : Type} (cl : Bool) (g : Option K → Option K → C → Option β) (lo hi : Option K)
    (rA rB : List K) (k : K) (A B : List C) (c : C) (hl : rA.length = A.length) :
    firstG cl g lo hi ((rA ++ k :: rB).zip (A ++ c :: B)) =
      (firstG cl g lo (some k) (rA.zip A)).or
        ((g (lowD cl lo rA k) (nextLo hi (rB.zip B)) c).or (firstE g hi (rB.zip B))) := by
  rw [List.zip_append hl, List.zip_cons_cons]
  cases rA with
  | nil =>
    have : A = [] := List.eq_nil_of_length_eq_zero hl.symm
    subst this
    rfl
  | cons r0 rA =>
    cases A with
    | nil => cases hl
    | cons a0 A =>
      show firstG cl g lo hi ((r0, a0) :: rA.zip A ++ (k, c) :: rB.zip B) = _
      rw [firstG_append, firstE_cons_or]
      rfl

theorem winE_nil {C β : Type} (g : Option K → Option K → C → Option β) (a h : Option K) (c : C) :
    winE g a h c [] = g a h c := Option.or_none

theorem winE_one {C β : Type} (g : Option K → Option K → C → Option β) (a h : Option K) (c c2 : C) (k2 : K) :
    winE g a h c [(k2, c2)] = (g a (some k2) c).or (g (some k2) h c2) := by
  show (g a (some k2) c).or (firstE g h [(k2, c2)]) = _
  rw [firstE_cons_or, firstE_nil, Option.or_none]
  rfl

theorem mem_zip_of_mem_right {α β : Type} (r : List α) (c : List β) (hlen : r.length = c.length)
    (x : β) (hx : x ∈ c) : ∃ k, (k, x) ∈ r.zip c := by
  rw [← map_snd_zip_eq r c hlen] at hx
  obtain ⟨⟨k, _⟩, hp, rfl⟩ := List.mem_map.1 hx
  exact ⟨k, hp⟩

theorem mem_zip_of_mem_left {α β : Type} (r : List α) (c : List β) (hlen : r.length = c.length)
    (x : α) (hx : x ∈ r) : ∃ y, (x, y) ∈ r.zip c := by
  rw [← map_fst_zip_eq r c hlen] at hx
  obtain ⟨⟨_, y⟩, hp, rfl⟩ := List.mem_map.1 hx
  exact ⟨y, hp⟩

theorem boundsOf_succ_eq (id : Nat) {d : Nat} (lo hi : Option K) (i : Inner K (Node K V d)) (he : i.id = id) :
    boundsOf id (d + 1) lo hi i = some (lo, hi) := if_pos he

theorem boundsOf_zero_eq (id : Nat) (lo hi : Option K) (l : Leaf K V) (he : l.id = id) :
    boundsOf (V := V) id 0 lo hi l = some (lo, hi) := if_pos he

theorem boundsOf_here (id : Nat) (lo hi : Option K) : ∀ {d : Nat} (n : Node K V d), Node.id n = id →
    boundsOf id d lo hi n = some (lo, hi)
  | 0, n, he => boundsOf_zero_eq id lo hi n he
  | _ + 1, n, he => boundsOf_succ_eq id lo hi n he

theorem boundsOf_succ_ne (x : Nat) {d : Nat} (lo hi : Option K) (i : Inner K (Node K V d)) (hne : i.id ≠ x) :
    boundsOf x (d + 1) lo hi i = firstE (boundsOf x d) hi (i.runts.zip i.kids) := if_neg hne

theorem boundsOf_zero_ne (x : Nat) (lo hi : Option K) (l : Leaf K V) (hne : l.id ≠ x) :
    boundsOf (V := V) x 0 lo hi l = none := if_neg hne

theorem gbounds_here (cl : Bool) (id : Nat) (lo hi : Option K) : ∀ {d : Nat} (n : Node K V d), Node.id n = id →
    gbounds cl id d lo hi n = some (lo, hi)
  | 0, _, he => if_pos he
  | _ + 1, _, he => if_pos he

theorem gbounds_zero_ne (cl : Bool) (x : Nat) (lo hi : Option K) (l : Leaf K V) (hne : l.id ≠ x) :
    gbounds (V := V) cl x 0 lo hi l = none := if_neg hne

theorem gbounds_succ_ne (cl : Bool) (x : Nat) {d : Nat} (lo hi : Option K) (i : Inner K (Node K V d)) (hne : i.id ≠ x) :
    gbounds cl x (d + 1) lo hi i = firstG cl (gbounds cl x d) lo hi (i.runts.zip i.kids) := if_neg hne

theorem gbounds_absent (cl : Bool) (id : Nat) : ∀ (d : Nat) (lo hi : Option K) (n : Node K V d),
    id ∉ idsOf n → gbounds cl id d lo hi n = none := by
  intro d
  induction d with
  | zero =>
    intro lo hi n h
    exact gbounds_zero_ne cl id lo hi n (fun e => h (by rw [idsOf_zero n]; exact List.mem_singleton.2 e.symm))
  | succ d ih =>
    intro lo hi (n : Inner K (Node K V d)) h
    rw [idsOf_succ n, List.mem_cons, not_or] at h
    rw [gbounds_succ_ne cl id lo hi n (fun e => h.1 e.symm)]
    apply firstG_none
    intro e he a b
    exact ih a b e.2 (fun hm => h.2 (List.mem_flatMap.2 ⟨e.2, (List.of_mem_zip he).2, hm⟩))

theorem gbounds_mem {cl : Bool} {x d : Nat} {lo hi : Option K} {n : Node K V d} {bd : Option K × Option K}
    (hb : gbounds cl x d lo hi n = some bd) : x ∈ idsOf n := by
  apply Classical.byContradiction
  intro hc
  rw [gbounds_absent cl x d lo hi n hc] at hb
  cases hb

theorem gbounds_present (cl : Bool) (x : Nat) : ∀ (d : Nat) (n : Node K V d) (lo hi : Option K),
    ParN d n → x ∈ idsOf n → ∃ bd, gbounds cl x d lo hi n = some bd := by
  intro d
  induction d with
  | zero =>
    intro n lo hi _ hx
    rw [idsOf_zero n, List.mem_singleton] at hx
    exact ⟨_, gbounds_here cl x lo hi (d := 0) n hx.symm⟩
  | succ d ih =>
    intro (n : Inner K (Node K V d)) lo hi hpar hx
    by_cases hid : n.id = x
    · exact ⟨_, gbounds_here cl x lo hi (d := d + 1) n hid⟩
    · rw [gbounds_succ_ne cl x lo hi n hid]
      rw [idsOf_succ n, List.mem_cons] at hx
      rcases hx with hx | hx
      · exact absurd hx.symm hid
      · obtain ⟨c, hc, hxc⟩ := List.mem_flatMap.1 hx
        obtain ⟨k, hk⟩ := mem_zip_of_mem_right n.runts n.kids hpar.1 c hc
        have hne : ∀ a b, gbounds cl x d a b c ≠ none := fun a b hn => by
          obtain ⟨bd, hbd⟩ := ih c a b (hpar.2.2 c hc) hxc
          rw [hbd] at hn
          cases hn
        generalize n.runts.zip n.kids = es at hk
        cases es with
        | nil => cases hk
        | cons e es =>
          obtain ⟨k0, c0⟩ := e
          show ∃ bd, (gbounds cl x d (lowG cl lo k0) (nextLo hi es) c0).or (firstE (gbounds cl x d) hi es) = some bd
          cases hg : gbounds cl x d (lowG cl lo k0) (nextLo hi es) c0 with
          | some b => exact ⟨b, rfl⟩
          | none =>
            rcases List.mem_cons.1 hk with e | hk
            · cases e
              exact absurd hg (hne _ _)
            · exact firstE_some_of_mem (gbounds cl x d) hi es (k, c) hk hne

theorem gbounds_false (id : Nat) : ∀ (d : Nat) (lo hi : Option K) (n : Node K V d),
    gbounds false id d lo hi n = boundsOf id d lo hi n := by
  intro d
  induction d with
  | zero => intro lo hi n; rfl
  | succ d ih =>
    intro lo hi (n : Inner K (Node K V d))
    by_cases hid : n.id = id
    · rw [gbounds_here false id lo hi (d := d + 1) n hid, boundsOf_succ_eq id lo hi n hid]
    · rw [gbounds_succ_ne false id lo hi n hid, boundsOf_succ_ne id lo hi n hid]
      exact firstG_false _ _ lo hi _ (fun e _ a b => ih a b e.2)

theorem Tree.gbounds_false (t : Tree K V) (x : Nat) : t.gbounds false x = t.boundsOf x :=
  Conc.gbounds_false x t.depth none none t.root

theorem gbounds_false_lo (x : Nat) : ∀ {d : Nat} (lo lo2 hi : Option K) (n : Node K V d), Node.id n ≠ x →
    gbounds false x d lo hi n = gbounds false x d lo2 hi n
  | 0, lo, lo2, hi, n, hne => by rw [gbounds_zero_ne false x lo hi n hne, gbounds_zero_ne false x lo2 hi n hne]
  | d + 1, lo, lo2, hi, n, hne => by
    rw [gbounds_succ_ne false x lo hi n hne, gbounds_succ_ne false x lo2 hi n hne]
    cases (n : Inner K (Node K V d)).runts.zip (n : Inner K (Node K V d)).kids <;> rfl

theorem gbounds_decomp (cl : Bool) (x : Nat) {d : Nat} (lo hi : Option K) (i : Inner K (Node K V d))
    (rA rB : List K) (k : K) (A B : List (Node K V d)) (c : Node K V d) (hne : i.id ≠ x)
    (hr : i.runts = rA ++ k :: rB) (hk : i.kids = A ++ c :: B) (hl : rA.length = A.length) :
    gbounds cl x (d + 1) lo hi i =
      (firstG cl (gbounds cl x d) lo (some k) (rA.zip A)).or
        ((gbounds cl x d (lowD cl lo rA k) (nextLo hi (rB.zip B)) c).or (firstE (gbounds cl x d) hi (rB.zip B))) := by
  rw [gbounds_succ_ne cl x lo hi i hne, hr, hk]
  exact firstG_decomp cl _ lo hi rA rB k A B c hl

theorem gbounds_at_kid (cl : Bool) (x : Nat) {d : Nat} (lo hi : Option K) (i : Inner K (Node K V d))
    (rA rB : List K) (k : K) (A B : List (Node K V d)) (c : Node K V d) (hne : i.id ≠ x)
    (hr : i.runts = rA ++ k :: rB) (hk : i.kids = A ++ c :: B) (hl : rA.length = A.length)
    (hA : ∀ a ∈ A, x ∉ idsOf a) (hB : ∀ b ∈ B, x ∉ idsOf b) :
    gbounds cl x (d + 1) lo hi i = gbounds cl x d (lowD cl lo rA k) (nextLo hi (rB.zip B)) c := by
  rw [gbounds_decomp cl x lo hi i rA rB k A B c hne hr hk hl,
    firstG_none cl _ lo (some k) _ (fun e he a b => gbounds_absent cl x d a b e.2 (hA e.2 (List.of_mem_zip he).2)),
    firstE_none _ hi _ (fun e he a b => gbounds_absent cl x d a b e.2 (hB e.2 (List.of_mem_zip he).2)),
    Option.none_or, Option.or_none]

theorem boundsOf_absent (id : Nat) (d : Nat) (lo hi : Option K) (n : Node K V d) (h : id ∉ idsOf n) :
    boundsOf id d lo hi n = none :=
  (gbounds_false id d lo hi n).symm.trans (gbounds_absent false id d lo hi n h)

theorem boundsOf_mem {x d : Nat} {lo hi : Option K} {n : Node K V d} {bd : Option K × Option K}
    (hb : boundsOf x d lo hi n = some bd) : x ∈ idsOf n :=
  gbounds_mem ((gbounds_false x d lo hi n).trans hb)

theorem boundsOf_kid (id : Nat) {d : Nat} (lo hi : Option K) (i : Inner K (Node K V d))
    (rA rB : List K) (k : K) (A B : List (Node K V d)) (c : Node K V d)
    (hne : i.id ≠ id) (hr : i.runts = rA ++ k :: rB) (hk : i.kids = A ++ c :: B) (hl : rA.length = A.length)
    (hA : ∀ a ∈ A, id ∉ idsOf a) (hB : ∀ b ∈ B, id ∉ idsOf b) :
    boundsOf id (d + 1) lo hi i = boundsOf id d (some k) (nextLo hi (rB.zip B)) c := by
  refine (gbounds_false id (d + 1) lo hi i).symm.trans
    ((gbounds_at_kid false id lo hi i rA rB k A B c hne hr hk hl hA hB).trans ?_)
  rw [gbounds_false]
  cases rA <;> rfl

end Gobptree.Conc
