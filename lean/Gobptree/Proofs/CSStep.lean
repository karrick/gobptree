/-
  The invariant `CInv` of the small-step model (structural invariant, client discipline,
  nobody has panicked, `4 ≤ order` unless nobody deletes) and the write frame of a step, with
  what a step leaves alone for the threads that do not move: nothing they hold or rely on
  (`Owns`) is among the mutexes the stepping thread holds (`other_outside`), so the step keeps
  it (`Kept`).  For the stepping thread itself, `stepper_pre` hands the block lemmas their
  preconditions.  `CStep` is the step as the layers above read it.
-/
import Gobptree.Proofs.CSStepAux
import Gobptree.Proofs.CSStatic
import Gobptree.Proofs.CSNoDel

namespace Gobptree.Conc
open Gobptree

variable {K V : Type}

def NoDelete (progs : List (List (COp K V))) : Prop := ∀ p ∈ progs, ∀ op ∈ p, op.isDel = false

def NoDelThread (th : Thread K V) : Prop := isDelPark th.park = false ∧ ∀ op ∈ th.prog, op.isDel = false

structure CInv (c : Config K V) : Prop where
  s     : SInv c
  disc  : ∀ th ∈ c.threads, DiscOk th
  alive : c.dead = false
  /-- the order is at least 4, or no thread ever runs a Delete (order 2 supports everything
      but Delete) -/
  del4  : 4 ≤ c.tree.order ∨ ∀ th ∈ c.threads, NoDelThread th

theorem CInv.four {c : Config K V} (h : CInv c) {th : Thread K V} (hm : th ∈ c.threads)
    (hd : isDelPark th.park = true) : 4 ≤ c.tree.order := by
  rcases h.del4 with h4 | hnd
  · exact h4
  · have := (hnd th hm).1
    rw [hd] at this
    cases this

structure StepFrame (c c' : Config K V) (th : Thread K V) : Prop where
  nodes : ∀ id, id < c.tree.nextId → Lk.node id ∉ stepHeld th → c'.tree.look id = c.tree.look id
  root  : Lk.tree ∉ stepHeld th → c'.tree.rootId = c.tree.rootId ∧ c'.tree.depth = c.tree.depth

theorem eraseAllH_subset (h ls : List Lk) : ∀ x ∈ eraseAllH h ls, x ∈ h := by
  induction ls generalizing h with
  | nil => intro x hx; exact hx
  | cons a ls ih =>
    intro x hx
    have : x ∈ eraseAllH (h.erase a) ls := hx
    exact List.mem_of_mem_erase (ih _ x this)

theorem look_lt_nextId {t : Tree K V} (hi : IdsOk t) {id : Nat} {sh : Shallow K V} (h : t.look id = some sh) :
    id < t.nextId :=
  hi.2 id (List.mem_map.2 ⟨(id, sh), look_mem h, rfl⟩)

theorem look_none_of_nextId_le {T : Tree K V} (hi : IdsOk T) {id : Nat} (h : T.nextId ≤ id) : T.look id = none := by
  cases hl : T.look id with
  | none => rfl
  | some sh => exact absurd (look_lt_nextId hi hl) (Nat.not_lt.2 h)

theorem keepOf_true {H : List Lk} {n id : Nat} (h1 : id < n) (h2 : Lk.node id ∉ H) : keepOf H n id = true := by
  unfold keepOf
  simp [h1, h2]

theorem enabled_want {c : Config K V} {th : Thread K V} {l : Lk} (hen : th.enabled c = true)
    (hw : parkWant th.park = some l) : c.holder l = none := by
  unfold Thread.enabled at hen
  cases hp : th.park <;> rw [hp] at hen hw <;> cases hw
  exact Option.isNone_iff_eq_none.1 hen

theorem stepHeld_excl {c : Config K V} (ho : OwnerOk c) {t j : Nat} {th b : Thread K V}
    (ht : c.threads[t]? = some th) (hj : c.threads[j]? = some b) (hne : j ≠ t)
    (hen : th.enabled c = true) {l : Lk} (hb : l ∈ b.held) : l ∉ stepHeld th := by
  intro hs
  rcases mem_stepHeld.1 hs with h | h
  · exact hne (held_excl ho hj ht hb h)
  · exact free_not_held ho (enabled_want hen h) hj hb

theorem extra_excl {c : Config K V} (hinv : SInv c) {t j : Nat} {th b : Thread K V}
    (ht : c.threads[t]? = some th) (hj : c.threads[j]? = some b) (hne : j ≠ t) {id : Nat}
    (hid : id ∈ parkExtra c.tree b.park) : Lk.node id ∉ stepHeld th := by
  obtain ⟨h1, h2⟩ := hinv.extra j t b th hj ht hne id hid
  intro hs
  rcases mem_stepHeld.1 hs with h | h
  · exact h1 h
  · exact h2 h

theorem parkHeld_sub_held {b : Thread K V} (hok : ThreadOk b) : ∀ l ∈ parkHeld b.park ++ cursorLocks b.cursor, l ∈ b.held := by
  intro l hl
  apply hok.1.mem_iff.2
  rcases List.mem_append.1 hl with h | h
  · exact List.mem_append_right _ h
  · exact List.mem_append_left _ h

theorem thread_present {t : Tree K V} (hi : IdsOk t) (hc : ChainOk t) {b : Thread K V}
    (hok : ThreadOk b) (hs : ThreadSOk t b) (id : Nat)
    (h : Lk.node id ∈ b.held ∨ parkWant b.park = some (Lk.node id) ∨ id ∈ parkExtra t b.park) :
    present t id := by
  obtain ⟨hk, hcur⟩ := hs
  cases hkk : b.park.kont? with
  | none =>
    obtain ⟨e1, e2, _, e3⟩ := Park.kont?_none hkk
    rcases h with h | h | h
    · have := hok.1.mem_iff.1 h
      rw [e1, List.append_nil] at this
      exact cursor_present hcur this
    · rw [e2] at h; cases h
    · rw [e3] at h; cases h
  | some k =>
    obtain ⟨hpre, hheld, hlock⟩ := parked_of hok hkk
    apply kont_present hi hc k b.cursor _ ((parkKontOk_kont hkk t).mp hk) hpre hcur id
    rcases h with h | h | h
    · exact Or.inl ((hheld _).1 h)
    · exact Or.inr (Or.inr (hlock.trans h))
    · exact Or.inr (Or.inl (parkExtra_kont hkk t ▸ h))

theorem newHeld_sub (P : Params K) (t : Nat) (th : Thread K V) (s0 : St K V) (h0 : s0.held = th.held)
    (hok : ThreadOk th) : ∀ x ∈ (runThread P t th s0).1.held, x ∈ stepHeld th := by
  obtain ⟨he, hh⟩ := runThread_eff P t th s0 hok.2.2 h0
  obtain ⟨ls, _, hheld⟩ := he.relOnly
  intro x hx
  rw [hh, hheld, stepHeld_eq_grant th s0 t h0] at hx
  exact eraseAllH_subset _ _ x hx

theorem stepper_pre {c : Config K V} (hS : SInv c) {t : Nat} {th : Thread K V} (ht : c.threads[t]? = some th)
    {k : Kont K V} (hk : th.park.kont? = some k) :
    Pre c.P (holeOf c.threads) (stepSt c t th) ∧ ResumeReady c.tree th k :=
  ⟨⟨hS.tree, hS.order, hS.pad⟩,
    resume_ready (hS.cfg th (List.mem_of_getElem? ht)) (hS.threads th (List.mem_of_getElem? ht)) hk⟩

/-- the nodes a parked thread's facts may speak of: those it holds, and those it relies on
    (`parkExtra`: nodes no thread can reach before this thread's next step) -/
def Owns (T : Tree K V) (b : Thread K V) (id : Nat) : Prop := Lk.node id ∈ b.held ∨ id ∈ parkExtra T b.park

theorem owns_kont {T : Tree K V} {b : Thread K V} {k : Kont K V} (hok : ThreadOk b) (hk : b.park.kont? = some k)
    {id : Nat} (h : Lk.node id ∈ kontHeld k ++ cursorLocks b.cursor ∨ id ∈ kontExtra T k) : Owns T b id :=
  h.imp ((parked_of hok hk).held _).2 (fun h => parkExtra_kont hk T ▸ h)

theorem owns_cursor {T : Tree K V} {b : Thread K V} (hok : ThreadOk b) {id : Nat}
    (h : Lk.node id ∈ cursorLocks b.cursor) : Owns T b id :=
  Or.inl (parkHeld_sub_held hok _ (List.mem_append_right _ h))

theorem other_outside {c : Config K V} (hS : SInv c) {t j : Nat} {th b : Thread K V}
    (ht : c.threads[t]? = some th) (hj : c.threads[j]? = some b) (hne : j ≠ t) (hen : th.enabled c = true)
    {id : Nat} (h : Owns c.tree b id) : id < c.tree.nextId ∧ Lk.node id ∉ stepHeld th := by
  have hbm := List.mem_of_getElem? hj
  obtain ⟨sh, hsh⟩ := thread_present hS.tree.ids hS.tree.chain (hS.cfg b hbm) (hS.threads b hbm) id (h.imp_right Or.inr)
  exact ⟨look_lt_nextId hS.tree.ids hsh, h.elim (stepHeld_excl hS.owner ht hj hne hen) (extra_excl hS ht hj hne)⟩

/-- **the frame lemma**: what a step of another thread leaves to thread `b`.  (The places of its
    nodes on search routes: `KeptK` in CKStep.) -/
structure Kept (T T' : Tree K V) (b : Thread K V) : Prop where
  look : ∀ id, Owns T b id → T'.look id = T.look id
  root : Lk.tree ∈ b.held → T'.rootId = T.rootId ∧ T'.depth = T.depth

theorem other_kept {c c' : Config K V} (hS : SInv c) {t j : Nat} {th b : Thread K V}
    (ht : c.threads[t]? = some th) (hj : c.threads[j]? = some b) (hne : j ≠ t) (hen : th.enabled c = true)
    (hframe : StepFrame c c' th) : Kept c.tree c'.tree b :=
  ⟨fun _ h => hframe.nodes _ (other_outside hS ht hj hne hen h).1 (other_outside hS ht hj hne hen h).2,
   fun h => hframe.root (stepHeld_excl hS.owner ht hj hne hen h)⟩

theorem Kept.sok {T T' : Tree K V} {b : Thread K V} (F : Kept T T' b) (hok : ThreadOk b) (hs : ThreadSOk T b)
    (horder : T'.order = T.order) : ThreadSOk T' b ∧ parkExtra T' b.park = parkExtra T b.park := by
  obtain ⟨hks, hcs⟩ := hs
  have hcur : CursorOk T' (isHop b.park) b.cursor :=
    CursorOk_congr _ _ (fun id hid => F.look id (owns_cursor hok hid)) hcs
  cases hk : b.park.kont? with
  | none =>
    unfold ThreadSOk
    rcases Park.kont?_eq_none.1 hk with e | e <;> rw [e] at hcur ⊢ <;> exact ⟨⟨trivial, hcur⟩, rfl⟩
  | some k =>
    have hp := parked_of hok hk
    have key := KontOk_congr (t' := T') k b.cursor (fun id hid => F.look id (owns_kont hok hk (Or.inl hid)))
      (fun id hid => F.look id (owns_kont hok hk (Or.inr hid)))
      (fun htree => (F.root ((hp.held _).2 (List.mem_append_left _ htree))).1)
      horder hp.pre ((parkKontOk_kont hk _).mp hks)
    exact ⟨⟨(parkKontOk_kont hk _).mpr key.1, hcur⟩, by rw [parkExtra_kont hk, parkExtra_kont hk]; exact key.2⟩

/-- a step from a configuration with `CInv`: `Stepped`, the invariant on both sides and the write frame.
    Every layer above obtains this record once (`step_cstep`, CSFinal) and reads the step off its fields. -/
structure CStep (c c' : Config K V) (t : Nat) (th : Thread K V) (r : Thread K V × St K V × Bool) : Prop
    extends Stepped c c' t th r where
  inv   : CInv c
  inv'  : CInv c'
  frame : StepFrame c c' th

namespace CStep
variable {c c' : Config K V} {t : Nat} {th : Thread K V} {r : Thread K V × St K V × Bool}

theorem alive (F : CStep c c' t th r) : r.2.2 = false :=
  (Bool.or_eq_false_iff.1 (F.dead.symm.trans F.inv'.alive)).2

theorem kept (F : CStep c c' t th r) {j : Nat} {b : Thread K V} (hne : j ≠ t) (hj : c.threads[j]? = some b) :
    Kept c.tree c'.tree b := other_kept F.inv.s F.get hj hne F.enabled F.frame

theorem ready (F : CStep c c' t th r) {k : Kont K V} (hk : th.park.kont? = some k) :
    Pre c.P (holeOf c.threads) (stepSt c t th) ∧ ResumeReady c.tree th k := stepper_pre F.inv.s F.get hk

end CStep

end Gobptree.Conc
