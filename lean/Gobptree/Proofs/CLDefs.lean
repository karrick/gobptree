/-
  The client-visible history of a configuration of the small-step model, as a history of
  invocations and responses of MAP operations (Insert/Update/Delete/Search).  Cursor calls
  and pauses are not map operations and leave no event.  An Update's response carries the
  argument its callback was invoked with (the thread's last `cb` note): that is what the
  specification's `Out.callback` is compared with.
-/
import Gobptree.Proofs.LinPoints
import Gobptree.Conc

namespace Gobptree.Conc
open Gobptree

variable {K V : Type}

/-- the map operation a client call stands for -/
def opOf : COp K V → Option (Op K V)
  | .ins k v => some (.insert k v)
  | .upd k f _ => some (.update k f)
  | .del k => some (.delete k)
  | .get k => some (.search k)
  | _ => none

/-- the response a `ret` note stands for; `cb` is the argument of the thread's last callback -/
def outOf (op : COp K V) (r : Res K V) (cb : Option (Option V)) : Option (Out V) :=
  match op, r with
  | .ins _ _, .ok => some .done
  | .del _, .ok => some .done
  | .get _, .found v => some (.found v)
  | .upd _ _ _, .ok => cb.map Out.callback
  | _, _ => none

/-- state of the extraction: the history so far and, per thread, its last callback argument -/
structure HxSt (K V : Type) where
  evs : List (Lin.HEv K V)
  cb  : Nat → Option (Option V)

def hxStep (progs : Nat → List (COp K V)) (st : HxSt K V) : Ev K V → HxSt K V
  | .note t (.inv idx) =>
    match ((progs t)[idx]?).bind opOf with
    | some op => { st with evs := st.evs ++ [.inv t idx op] }
    | none => st
  | .note t (.cb arg) => { st with cb := fun t' => if t' = t then some arg else st.cb t' }
  | .note t (.ret idx r) =>
    match (progs t)[idx]? with
    | some op =>
      match outOf op r (st.cb t) with
      | some out => { st with evs := st.evs ++ [.ret t idx out] }
      | none => st
    | none => st
  | _ => st

def progOf (c : Config K V) (t : Nat) : List (COp K V) := ((c.threads[t]?).map (·.prog)).getD []

/-- the history of map operations recorded in the log (the log is kept newest first) -/
def hxRun (c : Config K V) : HxSt K V := c.log.reverse.foldl (hxStep (progOf c)) ⟨[], fun _ => none⟩

def history (c : Config K V) : List (Lin.HEv K V) := (hxRun c).evs

end Gobptree.Conc
