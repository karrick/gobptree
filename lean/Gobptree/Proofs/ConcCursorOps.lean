/-
  `Scan`, `Pair` and `Close` start at no mutex of the tree: `startOp` runs them to their end
  (or to the cursor hop).  Their outcomes, each with what the code read to get there, are listed
  once, so that a fact about all of them is a case analysis over `CursorOut`.
-/
import Gobptree.Conc

namespace Gobptree.Conc
open Gobptree

variable {K V : Type}

inductive CursorOut (t : Nat) (s : St K V) : COp K V → St K V × Flow K V → Prop
  | skip {op : COp K V} (hop : op = .scan ∨ op = .pair) (h : ∀ leaf i, s.cursor = some (some leaf, i) → s.exhausted = false → False) :
      CursorOut t s op (s, .done .skip)
  | panicNoLeaf {op : COp K V} {leaf : Nat} {i : Int} (hop : op = .scan ∨ op = .pair) (hc : s.cursor = some (some leaf, i))
      (he : s.exhausted = false) (hf : (s.tree.find leaf).bind leafOf? = none) : CursorOut t s op (s, .panic)
  /-- `Pair` before the first `Scan` -/
  | panicNeg {leaf : Nat} {i : Int} {l : Leaf K V} (hc : s.cursor = some (some leaf, i)) (he : s.exhausted = false)
      (hf : (s.tree.find leaf).bind leafOf? = some l) (hi : i < 0) : CursorOut t s .pair (s, .panic)
  | panicNoEntry {leaf : Nat} {i : Int} {l : Leaf K V} (hc : s.cursor = some (some leaf, i)) (he : s.exhausted = false)
      (hf : (s.tree.find leaf).bind leafOf? = some l) (hi : ¬ i < 0)
      (hk : l.keys[i.toNat]? = none ∨ l.vals[i.toNat]? = none) : CursorOut t s .pair (s, .panic)
  | scanEnd {leaf : Nat} {i : Int} {l : Leaf K V} (hc : s.cursor = some (some leaf, i)) (he : s.exhausted = false)
      (hf : (s.tree.find leaf).bind leafOf? = some l) (hi : i + 1 = (l.keys.length : Int)) (hn : l.next = none) :
      CursorOut t s .scan
        ({ s.rel t (.node leaf) with cursor := some (none, i + 1), exhausted := true }, .done (.bool false))
  | scanHop {leaf : Nat} {i : Int} {l : Leaf K V} {n : Nat} (hc : s.cursor = some (some leaf, i))
      (he : s.exhausted = false) (hf : (s.tree.find leaf).bind leafOf? = some l)
      (hi : i + 1 = (l.keys.length : Int)) (hn : l.next = some n) :
      CursorOut t s .scan ({ s with cursor := some (some leaf, i + 1) }, .park (.want (.node n) (.hop leaf n)))
  | scanNext {leaf : Nat} {i : Int} {l : Leaf K V} (hc : s.cursor = some (some leaf, i)) (he : s.exhausted = false)
      (hf : (s.tree.find leaf).bind leafOf? = some l) (hi : i + 1 ≠ (l.keys.length : Int)) :
      CursorOut t s .scan ({ s with cursor := some (some leaf, i + 1) }, .done (.bool true))
  | pair {leaf : Nat} {i : Int} {l : Leaf K V} {k : K} {v : V} (hc : s.cursor = some (some leaf, i))
      (he : s.exhausted = false) (hf : (s.tree.find leaf).bind leafOf? = some l) (hi : ¬ i < 0)
      (hk : l.keys[i.toNat]? = some k) (hv : l.vals[i.toNat]? = some v) :
      CursorOut t s .pair (s, .done (.pair k v))
  | closeNone (hc : s.cursor = none) : CursorOut t s .close (s, .done .skip)
  | close {leaf? : Option Nat} {i : Int} (hc : s.cursor = some (leaf?, i)) :
      CursorOut t s .close
        ({ (match leaf? with | some leaf => s.rel t (.node leaf) | none => s) with
            cursor := some (none, i), exhausted := true }, .done .ok)

theorem startOp_scan (t : Nat) (s : St K V) : CursorOut t s .scan (startOp t s .scan) := by
  simp only [startOp]
  split
  · rename_i leaf i hc he
    split
    · rename_i hf; exact .panicNoLeaf (.inl rfl) hc he hf
    · rename_i l hf
      split
      · rename_i hi
        split
        · rename_i hn; exact .scanEnd hc he hf hi hn
        · rename_i n hn; exact .scanHop hc he hf hi hn
      · rename_i hi; exact .scanNext hc he hf hi
  · rename_i h; exact .skip (.inl rfl) h

theorem startOp_pair (t : Nat) (s : St K V) : CursorOut t s .pair (startOp t s .pair) := by
  simp only [startOp]
  split
  · rename_i leaf i hc he
    split
    · rename_i hf; exact .panicNoLeaf (.inr rfl) hc he hf
    · rename_i l hf
      split
      · rename_i hi; exact .panicNeg hc he hf hi
      · rename_i hi
        split
        · rename_i k v hk hv; exact .pair hc he hf hi hk hv
        · rename_i hno
          refine .panicNoEntry hc he hf hi ?_
          cases hk : l.keys[i.toNat]? with
          | none => exact .inl rfl
          | some k =>
            cases hv : l.vals[i.toNat]? with
            | none => exact .inr rfl
            | some v => exact (hno k v hk hv).elim
  · rename_i h; exact .skip (.inr rfl) h

theorem startOp_close (t : Nat) (s : St K V) : CursorOut t s .close (startOp t s .close) := by
  simp only [startOp]
  split
  · rename_i hc; exact .closeNone hc
  · rename_i leaf? i hc; exact .close hc

theorem CursorOut.tree {t : Nat} {s : St K V} {op : COp K V} {r : St K V × Flow K V} (h : CursorOut t s op r) :
    r.1.tree = s.tree := by
  cases h with
  | close => rename_i leaf? _ _; cases leaf? <;> rfl
  | _ => rfl

theorem CursorOut.of_closed {t : Nat} {s : St K V} {op : COp K V} {r : St K V × Flow K V} (h : CursorOut t s op r)
    (hop : op = .scan ∨ op = .pair) (hc : cursorLocks s.cursor = []) : r = (s, .done .skip) := by
  have hno : ∀ leaf i, s.cursor ≠ some (some leaf, i) := fun leaf i hcur => by rw [hcur] at hc; cases hc
  cases h with
  | skip => rfl
  | panicNoLeaf _ hcur => exact absurd hcur (hno _ _)
  | panicNeg hcur => exact absurd hcur (hno _ _)
  | panicNoEntry hcur => exact absurd hcur (hno _ _)
  | scanEnd hcur => exact absurd hcur (hno _ _)
  | scanHop hcur => exact absurd hcur (hno _ _)
  | scanNext hcur => exact absurd hcur (hno _ _)
  | pair hcur => exact absurd hcur (hno _ _)
  | closeNone => exact nomatch hop
  | close => exact nomatch hop

end Gobptree.Conc
