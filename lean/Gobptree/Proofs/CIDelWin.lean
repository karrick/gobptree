/-
  The parent after a borrow between, or a merge of, two adjacent kids, for the separator
  invariant.  Both rewrite the window `[c1, c2]` of the parent into a window whose inner nodes
  hold the pooled entries of `c1` and `c2`, cut at the right node's first separator or not at
  all: every entry keeps its fact, and the new boundary is a first separator by construction.
-/
import Gobptree.Proofs.CIUpBase
import Gobptree.Proofs.CKDelReb

namespace Gobptree.Conc
open Gobptree

variable {K V : Type} {lt : K → K → Bool}

theorem head?_append_of_ne {α : Type} (a b : List α) (h : a ≠ []) : (a ++ b).head? = a.head? := by
  cases a with
  | nil => exact absurd rfl h
  | cons x a' => rfl

theorem zip_pool {α β : Type} (R1 R2 R1' R2' : List α) (K1 K2 K1' K2' : List β)
    (hr : R1' ++ R2' = R1 ++ R2) (hk : K1' ++ K2' = K1 ++ K2)
    (hl : R1.length = K1.length) (hl' : R1'.length = K1'.length) :
    R1'.zip K1' ++ R2'.zip K2' = R1.zip K1 ++ R2.zip K2 := by
  rw [← List.zip_append hl, ← List.zip_append hl', hr, hk]

/-- what a window `(k1, c1') :: M'` that replaces the window `[c1, c2]` of a parent has to satisfy:
    each of its entries has its separator fact and the invariant below -/
structure NewWindow (lt : K → K → Bool) (Wit : Nat → K → Prop) {d : Nat} (k1 : K) (c1' : Node K V d)
    (M' : List (K × Node K V d)) : Prop where
  first : SepEntry lt Wit d (k1, c1')
  rest : ∀ e ∈ M', SepEntry lt Wit d e

theorem parent_window_I (Wit : Nat → K → Prop) {d : Nat} (i i' : Inner K (Node K V d))
    (rA rB : List K) (A B : List (Node K V d)) (k1 k2 : K) (c1 c2 c1' : Node K V d) (M' : List (K × Node K V d))
    (hr : i.runts = rA ++ k1 :: k2 :: rB) (hk : i.kids = A ++ c1 :: c2 :: B)
    (hr' : i'.runts = rA ++ k1 :: (M'.map Prod.fst ++ rB)) (hk' : i'.kids = A ++ c1' :: (M'.map Prod.snd ++ B))
    (hl : rA.length = A.length) (hsep : ISepN lt Wit (d + 1) i) (hnew : NewWindow lt Wit k1 c1' M') :
    i'.runts.head? = i.runts.head? ∧ ISepN lt Wit (d + 1) i' := by
  obtain ⟨hIA, _, hIB⟩ := (isepN_decomp Wit hr hk hl).1 hsep
  refine ⟨?_, (isepN_decomp Wit hr' hk' hl).2 ⟨hIA, hnew.first, ?_⟩⟩
  · rw [hr, hr']
    exact head?_append_cons rA k1 _ _
  · rw [List.zip_append (length_fst_snd M'), zip_fst_snd]
    intro e he
    rcases List.mem_append.1 he with he | he
    · exact hnew.rest e he
    · exact hIB e (List.mem_cons_of_mem _ he)

theorem leaf_window (Wit : Nat → K → Prop) (k1 : K) (c1' : Node K V 0) (M' : List (K × Node K V 0)) :
    NewWindow lt Wit k1 c1' M' :=
  ⟨⟨trivial, trivial⟩, fun _ _ => ⟨trivial, trivial⟩⟩

theorem window_pool (Wit : Nat → K → Prop) {d : Nat} (i : Inner K (Node K V (d + 1)))
    (rA rB : List K) (A B : List (Node K V (d + 1))) (k1 k2 : K) (c1 c2 : Inner K (Node K V d))
    (hr : i.runts = rA ++ k1 :: k2 :: rB) (hk : i.kids = A ++ (c1 :: c2 :: B : List (Node K V (d + 1))))
    (hl : rA.length = A.length) (hP : ParN (d + 2) i) (hsep : ISepN lt Wit (d + 2) i) :
    c1.runts ≠ [] ∧ c1.runts.length = c1.kids.length ∧ SepFact lt Wit (d + 1) c1 k1 ∧
    ∀ e ∈ c1.runts.zip c1.kids ++ c2.runts.zip c2.kids, SepEntry lt Wit d e := by
  have hP1 : ParN (d + 1) c1 := hP.2.2 c1 (hk ▸ List.mem_append_right _ List.mem_cons_self)
  obtain ⟨_, hI1, hIB⟩ := (isepN_decomp Wit hr hk hl).1 hsep
  have hI2 : SepEntry lt Wit (d + 1) (k2, c2) := hIB (k2, c2) (List.mem_cons_self (l := rB.zip B))
  refine ⟨fun e => ?_, hP1.1, hI1.1, fun e he => ?_⟩
  · have := hP1.2.1
    rw [e] at this
    exact Nat.not_succ_le_zero 0 this
  · rcases List.mem_append.1 he with he | he
    · exact hI1.2 e he
    · exact hI2.2 e he

theorem borrow_window (h : SWO lt) (Wit : Nat → K → Prop) {d : Nat} (i : Inner K (Node K V (d + 1)))
    (rA rB : List K) (A B : List (Node K V (d + 1))) (k1 k2 s : K) (c1 c2 c1' c2' : Inner K (Node K V d))
    (hr : i.runts = rA ++ k1 :: k2 :: rB) (hk : i.kids = A ++ (c1 :: c2 :: B : List (Node K V (d + 1))))
    (hl : rA.length = A.length) (hP : ParN (d + 2) i) (hsep : ISepN lt Wit (d + 2) i)
    (hid : c1'.id = c1.id) (sh : BorrowShape (d := d + 1) c1 c2 c1' c2' s) :
    NewWindow lt Wit (d := d + 1) k1 c1' [(s, c2')] := by
  obtain ⟨sh1, sh2, sh3, sh4, _, sh6⟩ := sh
  obtain ⟨_, hl1, hf1, hpool⟩ := window_pool Wit i rA rB A B k1 k2 c1 c2 hr hk hl hP hsep
  rw [← zip_pool c1.runts c2.runts c1'.runts c2'.runts c1.kids c2.kids c1'.kids c2'.kids sh1 sh2 hl1 sh3] at hpool
  refine ⟨⟨SepFact.congr hid sh4 hf1, fun e he => hpool e (List.mem_append_left _ he)⟩, ?_⟩
  intro e he
  have he' : e = (s, c2') := List.mem_singleton.1 he
  subst he'
  exact ⟨Or.inl ⟨s, sh6, h.eqv_refl s⟩, fun e he => hpool e (List.mem_append_right _ he)⟩

theorem merge_window (Wit : Nat → K → Prop) {d : Nat} (i : Inner K (Node K V (d + 1)))
    (rA rB : List K) (A B : List (Node K V (d + 1))) (k1 k2 : K) (c1 c2 m : Inner K (Node K V d))
    (hr : i.runts = rA ++ k1 :: k2 :: rB) (hk : i.kids = A ++ (c1 :: c2 :: B : List (Node K V (d + 1))))
    (hl : rA.length = A.length) (hP : ParN (d + 2) i) (hsep : ISepN lt Wit (d + 2) i)
    (hid : m.id = c1.id) (sh : MergeShape (d := d + 1) c1 c2 m) :
    NewWindow lt Wit (d := d + 1) k1 m [] := by
  obtain ⟨sh1, sh2⟩ := sh
  obtain ⟨hne1, hl1, hf1, hpool⟩ := window_pool Wit i rA rB A B k1 k2 c1 c2 hr hk hl hP hsep
  have hhead : m.runts.head? = c1.runts.head? := by rw [sh1]; exact head?_append_of_ne _ _ hne1
  refine ⟨⟨SepFact.congr hid hhead hf1, ?_⟩, fun e he => absurd he List.not_mem_nil⟩
  intro e he
  rw [sh1, sh2, List.zip_append hl1] at he
  exact hpool e he

theorem rebalance_inode (h : SWO lt) (P : Params K) (hp : PadOk P) (o : Nat) : ∀ {d : Nat}
    (i : Inner K (Node K V d)) (index : Nat) (child : Node K V d), RebIn o i index child →
    ∀ (lo hi : Option K), Ord lt (d + 1) lo hi i → ParN (d + 1) i →
    ∀ (Wit : Nat → K → Prop), ISepN lt Wit (d + 1) i →
    ∀ (i' : Inner K (Node K V d)) (small' : Bool),
      rebalance P {} (o / 2) i index child = .ok (i', small') →
      i'.id = i.id ∧ i'.runts.head? = i.runts.head? ∧ ISepN lt Wit (d + 1) i' := by
  intro d i index child hin lo hi hO hPar Wit hsep i' small' heval
  obtain ⟨rA, rB, A, B, k1, k2, c1, c2, hr, hk, hl, hw1, hw2, hcase⟩ :=
    rebalance_ord_cases h P hp o i index child hin lo hi hO hPar heval
  rcases hcase with ⟨c1', c2', s, sh, out, rfl⟩ | ⟨m, sh, out, rfl⟩
  · refine ⟨rfl, parent_window_I Wit i _ rA rB A B k1 k2 c1 c2 c1' [(s, c2')] hr hk rfl rfl hl hsep ?_⟩
    cases d with
    | zero => exact leaf_window Wit k1 c1' [(s, c2')]
    | succ d0 => exact borrow_window h Wit i rA rB A B k1 k2 s c1 c2 c1' c2' hr hk hl hPar hsep out.id1 sh
  · refine ⟨rfl, parent_window_I Wit i _ rA rB A B k1 k2 c1 c2 m [] hr hk rfl rfl hl hsep ?_⟩
    cases d with
    | zero => exact leaf_window Wit k1 m []
    | succ d0 => exact merge_window Wit i rA rB A B k1 k2 c1 c2 m hr hk hl hPar hsep out.id sh

end Gobptree.Conc
