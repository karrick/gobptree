/-
  The full key-order invariant `KFInv` (ordering, positions, the separator invariant, with
  Delete in flight) is preserved by every scheduler step, given the per-block results.  The
  separator invariant is carried with the stepping thread's witness set apart from the other
  threads' (`othersWit`), which concern nodes it does not hold.
-/
import Gobptree.Proofs.CIDefs
import Gobptree.Proofs.CKStep

namespace Gobptree.Conc
open Gobptree

variable {K V : Type}

/-- the per-block results on key order and separators, taken as hypotheses like `Blocks`;
    discharged by `kblocks_ok` -/
structure KBlocks (K V : Type) : Prop where
  ku : ResumeKU K V
  kd : ResumeKD K V
  iu : ResumeIU K V
  id : ResumeID K V

structure KFInv (lt : K → K → Bool) (c : Config K V) : Prop where
  cinv : CInv c
  kinv : KInv lt c
  isep : ISep lt c
  kp   : KParams lt c.P

def othersWit (c : Config K V) (t : Nat) : Nat → K → Prop :=
  fun r x => ∃ j b, j ≠ t ∧ c.threads[j]? = some b ∧ parkWit b.park r x

theorem parkWit_held {b : Thread K V} (hok : ThreadOk b) {r : Nat} {x : K} (h : parkWit b.park r x) :
    Lk.node r ∈ b.held := by
  obtain ⟨l, f, y, child, hp⟩ := parkWit_inv h
  apply hok.1.mem_iff.2
  apply List.mem_append_right
  rw [hp]; simp [parkHeld, kontHeld]

theorem parkFrom_wit {t : Nat} {fl : Flow K V} {p' : Park K V} (h : ParkFrom t fl p') {r : Nat} {x : K}
    (hw : flowWit fl r x) : parkWit p' r x := by
  cases fl with
  | park p => rw [show p' = p from h]; exact hw
  | done _ => exact absurd hw id
  | panic => exact absurd hw id

theorem isep_split {lt : K → K → Bool} {c : Config K V} (h : ISep lt c) {t : Nat} {th : Thread K V}
    (ht : c.threads[t]? = some th) :
    ISepW lt (fun r x => othersWit c t r x ∨ parkWit th.park r x) c.tree := by
  refine ISepW.mono ?_ ((isep_iff lt c).1 h)
  rintro r x ⟨b, hb, hw⟩
  obtain ⟨j, hj⟩ := List.getElem?_of_mem hb
  by_cases e : j = t
  · subst e; rw [ht] at hj; cases hj; exact Or.inr hw
  · exact Or.inl ⟨j, b, e, hj, hw⟩

theorem stepper_post (B : KBlocks K V) {lt : K → K → Bool} {c c' : Config K V} {t : Nat} {th : Thread K V}
    {r : Thread K V × St K V × Bool} (F : CStep c c' t th r) (h : KFInv lt c) {k : Kont K V}
    (hp : th.park.kont? = some k) :
    KPost lt t k (stepSt c t th) (resume c.P t (stepSt c t th) k).1 (resume c.P t (stepSt c t th) k).2 ∧
    StableRoutes lt (stepHeld th) c.tree (resume c.P t (stepSt c t th) k).1.tree ∧
    ISepW lt (fun r x => othersWit c t r x ∨ flowWit (resume c.P t (stepSt c t th) k).2 r x)
      (resume c.P t (stepSt c t th) k).1.tree := by
  have hinv := h.cinv
  have hk := h.kinv
  have hkp := h.kp
  have hS := hinv.s
  have ht := F.get
  have hen := F.enabled
  obtain ⟨hpre, R⟩ := F.ready hp
  have hkpos := kpos_of_park hk ht hp
  have hwit : ∀ r x, othersWit c t r x → Lk.node r ∉ stepHeld th := by
    rintro r x ⟨j, b, hne, hj, hw⟩
    exact stepHeld_excl hS.owner ht hj hne hen (parkWit_held (hS.cfg b (List.mem_of_getElem? hj)) hw)
  have hisep0 : ISepW lt (fun r x => othersWit c t r x ∨ kontWit k r x) c.tree := by
    refine ISepW.mono ?_ (isep_split h.isep ht)
    rintro r x (hw | hw)
    · exact Or.inl hw
    · rcases Park.kont?_eq_some.1 hp with hp | ⟨l, hp⟩ <;> rw [hp] at hw
      · exact absurd hw id
      · exact Or.inr hw
  cases hdel : isDelK k with
  | false =>
    obtain ⟨hpost, hst⟩ := B.ku lt c.P t (stepSt c t th) k (stepHeld th) (holeOf c.threads) hdel hkp
      hpre R.kok R.cur R.pre R.cov hk.ord hkpos
    exact ⟨hpost, hst, B.iu lt c.P t (stepSt c t th) k (stepHeld th) (holeOf c.threads) (othersWit c t) hdel hkp
      hpre R.kok R.cur R.pre R.cov hk.ord hkpos hwit hisep0⟩
  | true =>
    obtain ⟨hpre, h4⟩ := del_stepper_pre hinv ht hen hp hdel
    -- a parked Delete has no separator witness of its own
    have hI0 : ISepW lt (othersWit c t) c.tree := by
      refine ISepW.mono ?_ hisep0
      rintro r x (hw | hw)
      · exact hw
      · exfalso
        cases k <;> first | exact hw | cases hdel
    obtain ⟨hpost, _⟩ := B.kd lt c.P t (stepSt c t th) k (stepHeld th) hdel h4 hkp hpre R.kok R.pre R.cov hk.ord hkpos
    obtain ⟨hI, hst⟩ := B.id lt c.P t (stepSt c t th) k (stepHeld th) (othersWit c t) hdel h4 hkp hpre R.kok R.pre R.cov
      hk.ord hkpos hwit hI0
    exact ⟨hpost, hst, ISepW.mono (fun _ _ hw => Or.inl hw) hI⟩

theorem step_kfinv_routes (B : KBlocks K V) {lt : K → K → Bool} {c c' : Config K V} {t : Nat}
    (hstep : c.step t = some c') (h : KFInv lt c) : ∃ th r, KStep lt c c' t th r ∧ KFInv lt c' := by
  obtain ⟨th, r, F⟩ := step_cstep hstep h.cinv
  have G : KStep lt c c' t th r := step_kinv_of F h.kinv fun k hp =>
    ⟨(stepper_post B F h hp).1.ord, (stepper_post B F h hp).1.kpos, (stepper_post B F h hp).2.1⟩
  refine ⟨th, r, G, F.inv', G.kinv' h.kinv, ?_, by rw [F.P]; exact h.kp⟩
  have hIw : ISepW lt (fun r' x => othersWit c t r' x ∨ parkWit r.1.park r' x) c'.tree := by
    rcases step_source F.toStepped with ⟨hp, htree, _⟩ | ⟨k, hp, htree, hfrom⟩ <;> rw [htree]
    · refine ISepW.mono ?_ (isep_split h.isep F.get)
      rintro r' x (hw | hw)
      · exact Or.inl hw
      · rw [hp] at hw; exact absurd hw id
    · exact ISepW.mono (fun _ _ hw => hw.imp_right (parkFrom_wit hfrom)) (stepper_post B F h hp).2.2
  rw [isep_iff]
  refine ISepW.mono ?_ hIw
  rintro r' x (⟨j, b, hne, hj, hw⟩ | hw)
  · exact ⟨b, List.mem_of_getElem? ((F.other hne).trans hj), hw⟩
  · exact ⟨r.1, List.mem_of_getElem? F.own, hw⟩

theorem step_kfinv (B : KBlocks K V) (lt : K → K → Bool) (c c' : Config K V) (t : Nat)
    (hstep : c.step t = some c') (h : KFInv lt c) : KFInv lt c' :=
  let ⟨_, _, _, h'⟩ := step_kfinv_routes B hstep h
  h'

/-- the separator invariant of a tree on which no operation is in flight (stated here, where the
    initial configuration needs it; the in-flight form `ISepW` is in `CIDefs`) -/
def SepTree (lt : K → K → Bool) (t : Tree K V) : Prop := ISepW lt (fun _ _ => False) t

theorem init_kfinv (lt : K → K → Bool) (P : Params K) (tree : Tree K V) (progs : List (List (COp K V)))
    (hkp : KParams lt P) (ht : TreeOk none tree) (hord : OrdTree lt tree) (hsep : SepTree lt tree)
    (ho : tree.order = P.order) (hp : PadOk P) (hd : Disciplined progs)
    (hdel : 4 ≤ tree.order ∨ NoDelete progs) :
    KFInv lt (Config.init P tree progs) := by
  refine ⟨init_cinv P tree progs ht ho hp hd hdel, ⟨hord, ?_⟩, ?_, hkp⟩
  · intro th hth
    obtain ⟨p, _, rfl⟩ := mem_init_threads hth
    trivial
  · rw [isep_iff]
    exact ISepW.mono (fun _ _ h => absurd h id) hsep

theorem reachable_kfinv (B : KBlocks K V) (lt : K → K → Bool) (P : Params K) (tree : Tree K V)
    (progs : List (List (COp K V)))
    (hkp : KParams lt P) (ht : TreeOk none tree) (hord : OrdTree lt tree) (hsep : SepTree lt tree)
    (ho : tree.order = P.order) (hp : PadOk P) (hd : Disciplined progs)
    (hdel : 4 ≤ tree.order ∨ NoDelete progs)
    (c : Config K V) (hr : Reachable (Config.init P tree progs) c) : KFInv lt c := by
  induction hr with
  | refl => exact init_kfinv lt P tree progs hkp ht hord hsep ho hp hd hdel
  | @step c1 c2 t _ hs ih => exact step_kfinv B lt c1 c2 t hs ih

theorem new_sepTree (lt : K → K → Bool) (o : Nat) : SepTree lt (Tree.new o : Tree K V) := by
  intro g j r sg sr s hg hk hr hpos hs
  exfalso
  have hm : (g, sg) ∈ (Tree.new o : Tree K V).flat := look_mem hg
  have : (g, sg) = (0, shallow (d := 0) ({ id := 0, keys := [], vals := [], next := none } : Leaf K V)) := by
    simpa [Tree.flat, Tree.new, flat] using hm
  have e : sg.kids = [] := by
    have := congrArg Prod.snd this
    simp only at this
    rw [this]; rfl
  rw [e] at hk
  simp at hk

theorem new_ordTree (lt : K → K → Bool) (o : Nat) : OrdTree lt (Tree.new o : Tree K V) := by
  show Ord lt 0 none none ({ id := 0, keys := [], vals := [], next := none } : Leaf K V)
  exact ⟨List.Pairwise.nil, fun k hk => by cases hk⟩

end Gobptree.Conc
