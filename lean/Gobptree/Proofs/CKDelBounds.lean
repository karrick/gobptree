/-
  Positions as intervals, and widening.  A key is in bounds at a node iff it lies in the interval
  the tree assigns to the node, and its route passes the node iff it lies in the clamped one
  (`inBounds_iff`, `onRoute_iff_cbounds`).  So a block keeps the positions of the other threads as
  soon as it keeps or widens (`OW`) the intervals of the nodes it does not hold (`Widen`, `WidenG`);
  what moving the ends and rewriting one node do to `gbounds` is proved once for both intervals
  (`gbounds_mono`, `gbounds_modify`).  Delete's blocks keep the clamped one provided the boundary
  between two inner siblings that borrow or merge is not below the right sibling's first
  separator: the separator invariant `ISep` supplies that fact.
-/
import Gobptree.Proofs.CKBlock
import Gobptree.Proofs.CKZoom

namespace Gobptree.Conc
open Gobptree

variable {K V : Type} {lt : K → K → Bool}

theorem loLe_trans (h : SWO lt) {a b c : Option K} (h1 : loLe lt a b) (h2 : loLe lt b c) : loLe lt a c := by
  cases a with
  | none => trivial
  | some x =>
    cases b with
    | none => exact absurd h1 id
    | some y =>
      cases c with
      | none => exact absurd h2 id
      | some z => exact h.le_trans h1 h2

theorem hiLe_trans (h : SWO lt) {a b c : Option K} (h1 : hiLe lt a b) (h2 : hiLe lt b c) : hiLe lt a c := by
  cases c with
  | none => trivial
  | some z =>
    cases b with
    | none => exact absurd h2 id
    | some y =>
      cases a with
      | none => exact absurd h1 id
      | some x => exact h.le_trans h1 h2

/-- an interval, or absence, carried to the same or a wider interval, or absence -/
def OW (lt : K → K → Bool) (o o' : Option (Option K × Option K)) : Prop :=
  match o with
  | none => o' = none
  | some (a, b) => ∃ a' b', o' = some (a', b') ∧ loLe lt a' a ∧ hiLe lt b b'

theorem OW.refl (h : SWO lt) (o : Option (Option K × Option K)) : OW lt o o := by
  cases o with
  | none => rfl
  | some p => exact ⟨p.1, p.2, rfl, loLe_refl h _, hiLe_refl h _⟩

theorem OW.of_eq (h : SWO lt) {o o' : Option (Option K × Option K)} (e : o' = o) : OW lt o o' := by
  rw [e]; exact OW.refl h o

theorem OW.trans (h : SWO lt) {a b c : Option (Option K × Option K)} (h1 : OW lt a b) (h2 : OW lt b c) :
    OW lt a c := by
  cases a with
  | none =>
    have : b = none := h1
    subst this
    exact h2
  | some p =>
    obtain ⟨a', b', rfl, l1, l2⟩ := h1
    obtain ⟨a'', b'', rfl, l3, l4⟩ := h2
    exact ⟨a'', b'', rfl, loLe_trans h l3 l1, hiLe_trans h l2 l4⟩

theorem OW.or {a a' b b' : Option (Option K × Option K)} (h1 : OW lt a a') (h2 : OW lt b b') :
    OW lt (a.or b) (a'.or b') := by
  cases a with
  | none =>
    have : a' = none := h1
    subst this
    exact h2
  | some p =>
    obtain ⟨x, y, rfl, l1, l2⟩ := h1
    exact ⟨x, y, rfl, l1, l2⟩

theorem OW.some {a b : Option K} {o' : Option (Option K × Option K)} (h : OW lt (some (a, b)) o') :
    ∃ a' b', o' = some (a', b') ∧ loLe lt a' a ∧ hiLe lt b b' := h

theorem OW.contains (h : SWO lt) {o o' : Option (Option K × Option K)} (hw : OW lt o o') {key : K} :
    (∃ a b, o = .some (a, b) ∧ leO lt a key ∧ ltO lt key b) → ∃ a b, o' = .some (a, b) ∧ leO lt a key ∧ ltO lt key b := by
  rintro ⟨a, b, rfl, hlo, hhi⟩
  obtain ⟨a', b', hb', l1, l2⟩ := hw.some
  exact ⟨a', b', hb', leO_mono h l1 hlo, ltO_mono h l2 hhi⟩

theorem firstE_mono {C : Type} (h : SWO lt) (g : Option K → Option K → C → Option (Option K × Option K))
    (es : List (K × C))
    (hg : ∀ e ∈ es, ∀ a b b', hiLe lt b b' → OW lt (g a b e.2) (g a b' e.2))
    {hi hi2 : Option K} (hh : hiLe lt hi hi2) : OW lt (firstE g hi es) (firstE g hi2 es) := by
  induction es with
  | nil => rfl
  | cons e es ih =>
    obtain ⟨k, c⟩ := e
    rw [firstE_cons_or, firstE_cons_or]
    apply OW.or
    · apply hg (k, c) List.mem_cons_self
      cases es with
      | nil => exact hh
      | cons e2 es2 => exact hiLe_refl h _
    · exact ih (fun e he => hg e (List.mem_cons_of_mem _ he))

theorem idsOf_sub_of_find {id d d' : Nat} {n : Node K V d} {m : Node K V d'}
    (hf : findNode id d n = some ⟨d', m⟩) : ∀ x ∈ idsOf m, x ∈ idsOf n := by
  obtain ⟨_, L, R, hflat, _⟩ := find_modify_flat id d n d' m hf
  intro x hx
  show x ∈ (flat n).map Prod.fst
  rw [hflat]
  simp only [List.map_append, List.mem_append]
  exact Or.inl (Or.inr hx)

theorem loLe_lowG (h : SWO lt) (cl : Bool) {lo lo2 : Option K} (k : K) (hl : loLe lt lo2 lo) :
    loLe lt (lowG cl lo2 k) (lowG cl lo k) := by
  cases cl with
  | true => exact hl
  | false => exact loLe_refl h _

theorem hiLe_nextLo {C : Type} (h : SWO lt) {hi hi2 : Option K} (es : List (K × C)) (hh : hiLe lt hi hi2) :
    hiLe lt (nextLo hi es) (nextLo hi2 es) := by
  cases es with
  | nil => exact hh
  | cons e es => exact hiLe_refl h _

theorem firstG_mono {C : Type} (h : SWO lt) (cl : Bool) (g : Option K → Option K → C → Option (Option K × Option K))
    (es : List (K × C))
    (hg : ∀ e ∈ es, ∀ a b a' b', loLe lt a' a → hiLe lt b b' → OW lt (g a b e.2) (g a' b' e.2))
    {lo lo2 hi hi2 : Option K} (h1 : loLe lt lo2 lo) (h2 : hiLe lt hi hi2) :
    OW lt (firstG cl g lo hi es) (firstG cl g lo2 hi2 es) := by
  cases es with
  | nil => rfl
  | cons e es =>
    obtain ⟨k, c⟩ := e
    exact OW.or (hg (k, c) List.mem_cons_self _ _ _ _ (loLe_lowG h cl k h1) (hiLe_nextLo h es h2))
      (firstE_mono h _ _ (fun e he a b b' hb => hg e (List.mem_cons_of_mem _ he) a b a b' (loLe_refl h a) hb) h2)

theorem gbounds_mono (h : SWO lt) (cl : Bool) (x : Nat) : ∀ (d : Nat) (n : Node K V d) (lo hi lo2 hi2 : Option K),
    loLe lt lo2 lo → hiLe lt hi hi2 → OW lt (gbounds cl x d lo hi n) (gbounds cl x d lo2 hi2 n) := by
  intro d
  induction d with
  | zero =>
    intro (n : Leaf K V) lo hi lo2 hi2 h1 h2
    by_cases hid : n.id = x
    · rw [gbounds_here cl x lo hi (d := 0) n hid, gbounds_here cl x lo2 hi2 (d := 0) n hid]
      exact ⟨lo2, hi2, rfl, h1, h2⟩
    · rw [gbounds_zero_ne cl x lo hi n hid, gbounds_zero_ne cl x lo2 hi2 n hid]
      rfl
  | succ d ih =>
    intro (n : Inner K (Node K V d)) lo hi lo2 hi2 h1 h2
    by_cases hid : n.id = x
    · rw [gbounds_here cl x lo hi (d := d + 1) n hid, gbounds_here cl x lo2 hi2 (d := d + 1) n hid]
      exact ⟨lo2, hi2, rfl, h1, h2⟩
    · rw [gbounds_succ_ne cl x lo hi n hid, gbounds_succ_ne cl x lo2 hi2 n hid]
      exact firstG_mono h cl _ _ (fun e _ a b a' b' => ih e.2 a b a' b') h1 h2

/-- rewriting the node `id`, whose interval is `(lo', hi')`: the interval of an identity inside it is
    computed from `(lo', hi')` within the node, before and after; that of an identity neither inside nor
    brought in by the rewrite is unchanged -/
theorem gbounds_modify (cl : Bool) (id : Nat) {d : Nat} (n : Node K V d) {d' : Nat} (m : Node K V d')
    (lo' hi' : Option K) (hf : findNode id d n = some ⟨d', m⟩) (hnd : (idsOf n).Nodup) (hpar : ParN d n)
    (f : (d : Nat) → Node K V d → Node K V d) (x : Nat) :
    ∀ lo hi : Option K, gbounds cl id d lo hi n = some (lo', hi') →
      (x ∈ idsOf m → gbounds cl x d lo hi n = gbounds cl x d' lo' hi' m ∧
         gbounds cl x d lo hi (modifyNode id f d n) = gbounds cl x d' lo' hi' (f d' m)) ∧
      (x ∉ idsOf m → x ∉ idsOf (f d' m) →
         gbounds cl x d lo hi (modifyNode id f d n) = gbounds cl x d lo hi n) := by
  refine findNode_rec id ?_ ?_ n hf hnd hpar
  · intro hid _ _ lo hi hb
    rw [gbounds_here cl id lo hi m hid] at hb
    cases hb
    rw [modifyNode_at id f m hid]
    refine ⟨fun _ => ⟨rfl, rfl⟩, fun h1 h2 => ?_⟩
    rw [gbounds_absent cl x d' _ _ (f d' m) h2, gbounds_absent cl x d' _ _ m h1]
  · intro d n rA k rB A c B hid hnd hpar hr hk hl _ hfc hA hB ih lo hi hb
    have hmod : modifyNode id f (d + 1) n =
        (Inner.mk n.id n.runts (A ++ modifyNode id f d c :: B) : Inner K (Node K V d)) :=
      modifyNode_kid id f n A B c hid hk hA hB
    obtain ⟨_, hxc⟩ := nodup_kid n A B c hk hnd
    rw [gbounds_at_kid cl id lo hi n rA rB k A B c hid hr hk hl hA hB] at hb
    obtain ihx := ih _ _ hb
    constructor
    · intro hxm
      obtain ⟨hxn, hxA, hxB⟩ := hxc x (idsOf_sub_of_find hfc x hxm)
      have hne : n.id ≠ x := fun e => hxn e.symm
      obtain ⟨e1, e2⟩ := ihx.1 hxm
      constructor
      · rw [gbounds_at_kid cl x lo hi n rA rB k A B c hne hr hk hl hxA hxB]
        exact e1
      · rw [hmod, gbounds_at_kid cl x lo hi ⟨n.id, n.runts, A ++ modifyNode id f d c :: B⟩ rA rB k A B _ hne hr rfl hl hxA hxB]
        exact e2
    · intro h1 h2
      by_cases hne : n.id = x
      · rw [hmod, gbounds_here cl x lo hi (d := d + 1) n hne]
        exact gbounds_here cl x lo hi (d := d + 1)
          (Inner.mk n.id n.runts (A ++ modifyNode id f d c :: B) : Inner K (Node K V d)) hne
      · rw [hmod, gbounds_decomp cl x lo hi ⟨n.id, n.runts, A ++ modifyNode id f d c :: B⟩ rA rB k A B _ hne hr rfl hl,
          gbounds_decomp cl x lo hi n rA rB k A B c hne hr hk hl, ihx.2 h1 h2]

theorem inBounds_iff (h : SWO lt) {t : Tree K V} (hids : t.ids.Nodup) (hpar : ParTree t) (hord : OrdTree lt t)
    (key : K) (x : Nat) :
    InBounds lt t key x ↔ ∃ a b, t.boundsOf x = some (a, b) ∧ leO lt a key ∧ ltO lt key b := by
  constructor
  · rintro ⟨a, b, hab, hle⟩
    obtain ⟨hb, hhi, -⟩ := Tree.route_entry h hids hpar hord hab
    exact ⟨a, b, hb, hle, hhi⟩
  · rintro ⟨a, b, hb, hlo, hhi⟩
    obtain ⟨-, -, a0, hm⟩ := mem_route_of_gbounds h false key t.root none none none hord hpar hids
      (fun _ hy => hy) ((Tree.gbounds_false t x).trans hb) hlo hhi
    cases (Tree.route_entry h hids hpar hord hm).1.symm.trans hb
    exact ⟨a, b, hm, hlo⟩

theorem onRoute_iff_cbounds (h : SWO lt) {t : Tree K V} (hids : t.ids.Nodup) (hpar : ParTree t) (hord : OrdTree lt t)
    (key : K) (x : Nat) :
    OnRoute lt t key x ↔ ∃ a b, t.gbounds true x = some (a, b) ∧ leO lt a key ∧ ltO lt key b := by
  constructor
  · rintro ⟨a, b, hab⟩
    obtain ⟨-, hhi, a', hb, hle⟩ := Tree.route_entry h hids hpar hord hab
    exact ⟨a', b, hb, hle, hhi⟩
  · rintro ⟨a, b, hb, hlo, hhi⟩
    obtain ⟨-, -, a0, hm⟩ := mem_route_of_gbounds h true key t.root none none none hord hpar hids
      (fun _ hy => hy) hb hlo hhi
    exact ⟨a0, b, hm⟩

/-- the interval of every node outside `W` (the identities the stepping thread holds, of which nothing is
    claimed) is kept or wider; it is `WidenG false` (`WidenG.plain`) -/
def Widen (lt : K → K → Bool) (W : Nat → Prop) (t t' : Tree K V) : Prop :=
  ∀ x, ¬ W x → OW lt (t.boundsOf x) (t'.boundsOf x)

theorem Widen.refl (h : SWO lt) (W : Nat → Prop) (t : Tree K V) : Widen lt W t t :=
  fun _ _ => OW.refl h _

theorem Widen.of_eq (h : SWO lt) (W : Nat → Prop) {t t' : Tree K V} (e : t' = t) : Widen lt W t t' := by
  rw [e]; exact Widen.refl h W t

theorem Widen.trans (h : SWO lt) {W : Nat → Prop} {t1 t2 t3 : Tree K V}
    (h1 : Widen lt W t1 t2) (h2 : Widen lt W t2 t3) : Widen lt W t1 t3 :=
  fun x hx => (h1 x hx).trans h (h2 x hx)

theorem stableBounds_of_widen (h : SWO lt) {H : List Lk} {t t' : Tree K V}
    (hw : Widen lt (fun x => Lk.node x ∈ H) t t')
    (hids : t.ids.Nodup) (hpar : ParTree t) (hord : OrdTree lt t)
    (hids' : t'.ids.Nodup) (hpar' : ParTree t') (hord' : OrdTree lt t') : StableBounds lt H t t' :=
  fun key id _ hH hin => (inBounds_iff h hids' hpar' hord' key id).2
    ((hw id hH).contains h ((inBounds_iff h hids hpar hord key id).1 hin))

theorem stableBounds_of_eq {H : List Lk} {t t' : Tree K V} (e : t' = t) : StableBounds lt H t t' := by
  subst e
  intro _ _ _ _ h
  exact h

/-- the same of `gbounds cl`: the plain intervals (`cl = false`, other writers' bounds) or the clamped
    ones (`cl = true`, readers' routes) -/
def WidenG (lt : K → K → Bool) (cl : Bool) (W : Nat → Prop) (t t' : Tree K V) : Prop :=
  ∀ x, ¬ W x → OW lt (t.gbounds cl x) (t'.gbounds cl x)

theorem WidenG.plain {W : Nat → Prop} {t t' : Tree K V} (hw : WidenG lt false W t t') : Widen lt W t t' := by
  intro x hx
  have := hw x hx
  rwa [Tree.gbounds_false, Tree.gbounds_false] at this

theorem Tree.widen_modify (h : SWO lt) (cl : Bool) {t : Tree K V} {id d' : Nat} {m : Node K V d'}
    (hf : t.find id = some ⟨d', m⟩) (hids : t.ids.Nodup) (hpar : ParTree t)
    {lo' hi' : Option K} (hb : t.gbounds cl id = some (lo', hi'))
    (f : (d : Nat) → Node K V d → Node K V d) (m2 : Node K V d') (hfm : f d' m = m2) (W : Nat → Prop)
    (hsub : ∀ x, ¬ W x → x ∈ idsOf m2 → x ∈ idsOf m)
    (hw : ∀ x, ¬ W x → OW lt (gbounds cl x d' lo' hi' m) (gbounds cl x d' lo' hi' m2)) :
    WidenG lt cl W t (t.modify id f) := by
  subst hfm
  intro x hx
  obtain ⟨hm1, hm2⟩ := gbounds_modify cl id t.root m lo' hi' hf hids hpar f x none none hb
  show OW lt (gbounds cl x t.depth none none t.root) (gbounds cl x t.depth none none (modifyNode id f t.depth t.root))
  by_cases hxm : x ∈ idsOf m
  · obtain ⟨e1, e2⟩ := hm1 hxm
    rw [e1, e2]
    exact hw x hx
  · exact OW.of_eq h (hm2 hxm (fun hh => hxm (hsub x hx hh)))

end Gobptree.Conc
