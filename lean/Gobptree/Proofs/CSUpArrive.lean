/-
  The two Insert/Update blocks that may split a node: `upChildArrive` (after acquiring
  the child) and `upRootArrive` (after acquiring the root).
-/
import Gobptree.Proofs.CSUpLeaf

namespace Gobptree.Conc
open Gobptree

variable {K V : Type}

theorem continue_after {H : List Lk} {hole : Option Nat} {P : Params K} (t : Nat) {s s1 : St K V}
    (key : K) (f : Option V → V) (y : Option Bool) (hpre : Pre P hole s) (hstep : Step H hole s.tree s1.tree)
    {n : Nat} {sh : Shallow K V} (hmem : (n, sh) ∈ s1.tree.flat) (hlt : sh.keys.length < s.tree.order)
    (hH : Lk.node n ∈ H) (hcur : cursorLocks s1.cursor = []) :
    Post H hole s (upContinue P t s1 key f y n).1 (upContinue P t s1 key f y n).2 := by
  have hpre1 : Pre P hole s1 := ⟨hstep.tree, hstep.order.trans hpre.order, hpre.pad⟩
  have hnf : notFull s1.tree n := ⟨sh, mem_look hstep.tree.ids hmem, by rw [hstep.order]; exact hlt⟩
  exact Post.of_step hstep (upContinue_post P t s1 key f y n H hole hpre1 hnf hH hcur)

theorem upChildArrive_inv (P : Params K) (t : Nat) (s : St K V) (key : K) (f : Option V → V) (y : Option Bool)
    (parent index child : Nat) (H : List Lk) (hole : Option Nat) (hpre : Pre P hole s)
    (hk : KontOk s.tree (.upChild key f y parent index child)) (hHp : Lk.node parent ∈ H)
    (hHc : Lk.node child ∈ H) (hcur : cursorLocks s.cursor = []) :
    Post H hole s (upChildArrive P t s key f y parent index child).1
        (upChildArrive P t s key f y parent index child).2 := by
  obtain ⟨d, rA, rB, k, k1, A, B, c, rfl, -, at_, out⟩ :=
    upChildArrive_report P t s key f y parent index child H hole hpre hk hHp hHc
  have hcid := at_.cid
  subst hcid
  generalize upChildArrive P t s key f y parent A.length (Node.id c) = res at out
  cases out with
  | stay _ _ w _ hlt memc => exact continue_after t key f y hpre w.step memc hlt hHc hcur
  | @split l r rs p2 T2 sp =>
    cases hlt : P.lt key rs
    · -- park for the new sibling: parent and child are still held, `r` stands right after `l`
      have hids2 := sp.wrote.step.tree.ids
      have hlp2 := mem_look hids2 sp.wrote.par
      rw [if_pos (by rfl), sp.out.idr]
      refine sp.wrote.step.post (s' := s.setTree T2) (fun e => by cases e) ?_ (cursorOk_of_noLocks _ false _ hcur)
      intro q hq
      cases hq
      refine ⟨⟨⟨A.length, (kidAt_shallow hlp2 _).trans ?_, (kidAt_shallow hlp2 _).trans ?_⟩,
        sp.out.sib_ok hids2 sp.meml sp.memr (by rw [sp.lenr, sp.wrote.step.order]; exact sp.half)⟩, hcur, ?_⟩
      · rw [sp.p2eq, ← sp.out.idl]
        exact congrArg (Option.map Node.id) (getElem?_pivot rfl l)
      · rw [sp.p2eq, ← sp.out.idr]
        exact congrArg (Option.map Node.id) (getElem?_next rfl l r)
      · intro x hx
        cases List.mem_singleton.1 hx
        exact Nat.le_refl _
    · rw [if_neg (by simp)]
      exact continue_after t key f y hpre sp.wrote.step (sp.out.idl ▸ sp.meml)
        (by rw [sp.lenl]; exact sp.half) hHc hcur

theorem upRootArrive_inv (P : Params K) (t : Nat) (s : St K V) (key : K) (f : Option V → V) (y : Option Bool)
    (root : Nat) (H : List Lk) (hole : Option Nat) (hpre : Pre P hole s)
    (hk : KontOk s.tree (.upRoot key f y root)) (hHt : Lk.tree ∈ H) (hHr : Lk.node root ∈ H)
    (hcur : cursorLocks s.cursor = []) :
    Post H hole s (upRootArrive P t s key f y root).1 (upRootArrive P t s key f y root).2 := by
  obtain ⟨rfl, out⟩ := upRootArrive_report P t s key f y root H hole hpre hk hHt hHr
  generalize upRootArrive P t s key f y s.tree.rootId = res at out
  cases out with
  | stay _ hlt =>
    exact continue_after (s1 := s.rel t .tree) t key f y hpre (Step.refl hpre.tree) (self_mem_flat s.tree.root) hlt hHr hcur
  | @split l r ls rs ls' T2 sp =>
    cases hlt : P.lt key rs
    · rw [if_pos (by rfl), sp.out.idr]
      have hids2 := sp.step.tree.ids
      refine sp.step.post (s' := s.setTree T2) (fun e => by cases e) ?_ (cursorOk_of_noLocks _ false _ hcur)
      intro q hq
      cases hq
      refine ⟨⟨⟨_, mem_look hids2 (by rw [sp.root, sp.flat]; exact List.mem_cons_self), rfl⟩,
        sp.out.sib_ok hids2 sp.meml sp.memr (by rw [sp.lenr, sp.step.order]; exact sp.half)⟩, hcur, ?_⟩
      intro x hx
      rcases List.mem_cons.1 hx with rfl | hx
      · exact sp.root ▸ Nat.le_succ _
      · cases List.mem_singleton.1 hx
        exact Nat.le_refl _
    · rw [if_neg (by simp)]
      exact continue_after t key f y hpre sp.step (sp.out.idl ▸ sp.meml) (by rw [sp.lenl]; exact sp.half) hHr hcur

end Gobptree.Conc
