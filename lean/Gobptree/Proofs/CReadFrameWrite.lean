/-
  Read frame: the relations on nodes (`NRel`: same identity, same own fields) and on children
  lists (`KRel`) in which the blocks compare what the two runs write back; writing a leaf.
-/
import Gobptree.Proofs.CReadFrameBase

namespace Gobptree.Conc
open Gobptree

variable {K V : Type}

def NRel {d : Nat} (n1 n2 : Node K V d) : Prop := Node.id n1 = Node.id n2 ∧ shallow n1 = shallow n2

theorem nrel_mk {d : Nat} {id1 id2 : Nat} {r1 r2 : List K} {k1 k2 : List (Node K V d)}
    (hid : id1 = id2) (hr : r1 = r2) (hk : k1.map (Node.id (d := d)) = k2.map (Node.id (d := d))) :
    NRel (d := d + 1) (Inner.mk id1 r1 k1 : Inner K (Node K V d)) (Inner.mk id2 r2 k2 : Inner K (Node K V d)) := by
  refine ⟨hid, ?_⟩
  show Shallow.mk (d + 1) r1 [] none (k1.map Node.id) = Shallow.mk (d + 1) r2 [] none (k2.map Node.id)
  rw [hr, hk]

theorem getElem?_map_id {d : Nat} {k1 k2 : List (Node K V d)}
    (hk : k1.map (Node.id (d := d)) = k2.map (Node.id (d := d))) (j : Nat) :
    (k1[j]?).map (Node.id (d := d)) = (k2[j]?).map (Node.id (d := d)) := by
  rw [← List.getElem?_map, ← List.getElem?_map, hk]

def KRel (S : Nat → Prop) {d : Nat} (ks1 ks2 : List (Node K V d)) : Prop :=
  ks1.length = ks2.length ∧
  ∀ (j : Nat) (c1 c2 : Node K V d), ks1[j]? = some c1 → ks2[j]? = some c2 →
    Node.id c1 = Node.id c2 ∧ (S (Node.id c1) → shallow c1 = shallow c2)

theorem KRel.ids {S : Nat → Prop} {d : Nat} {ks1 ks2 : List (Node K V d)} (h : KRel S ks1 ks2) :
    ks1.map (Node.id (d := d)) = ks2.map (Node.id (d := d)) := by
  apply List.ext_getElem?
  intro j
  rw [List.getElem?_map, List.getElem?_map]
  cases h1 : ks1[j]? with
  | none =>
    have : ks2[j]? = none := by
      rw [List.getElem?_eq_none_iff] at h1 ⊢
      rw [← h.1]; exact h1
    rw [this]
  | some c1 =>
    have hj : j < ks2.length := by
      rw [← h.1]; exact (List.getElem?_eq_some_iff.1 h1).1
    rw [List.getElem?_eq_getElem hj]
    simp only [Option.map_some]
    rw [(h.2 j c1 _ h1 (List.getElem?_eq_getElem hj)).1]

theorem krel_of_find {S : Nat → Prop} {R : Prop} {T1 T2 : Tree K V} (h : TRel S R T1 T2)
    (hn1 : T1.ids.Nodup) (hn2 : T2.ids.Nodup) {n d : Nat} {p1 p2 : Inner K (Node K V d)}
    (hf1 : T1.find n = some ⟨d + 1, p1⟩) (hf2 : T2.find n = some ⟨d + 1, p2⟩)
    (hsh : shallow (d := d + 1) p1 = shallow (d := d + 1) p2) : KRel S p1.kids p2.kids := by
  obtain ⟨_, hk⟩ := inner_of_shallow hsh
  have hlen : p1.kids.length = p2.kids.length := by
    have := congrArg List.length hk
    simpa using this
  refine ⟨hlen, ?_⟩
  intro j c1 c2 h1 h2
  have hid : Node.id c1 = Node.id c2 := by
    have := congrArg (fun l => l[j]?) hk
    simp only [List.getElem?_map, h1, h2, Option.map_some, Option.some.injEq] at this
    exact this
  refine ⟨hid, ?_⟩
  intro hs
  have hl1 : T1.look (Node.id c1) = some (shallow c1) :=
    (look_eq_some_iff hn1 _ _).2 (mem_flat_of_find hf1 (kid_mem_flat p1 c1 (List.mem_of_getElem? h1)))
  have hl2 : T2.look (Node.id c2) = some (shallow c2) :=
    (look_eq_some_iff hn2 _ _).2 (mem_flat_of_find hf2 (kid_mem_flat p2 c2 (List.mem_of_getElem? h2)))
  have := h.look _ hs
  rw [hl1, hid, hl2] at this
  exact Option.some.inj this

theorem putLeaf_rf {S : Nat → Prop} {R : Prop} {T1 T2 : Tree K V} (hT : TRel S R T1 T2)
    {l1 l2 : Leaf K V} (l' : Leaf K V)
    (hf1 : T1.find l'.id = some ⟨0, l1⟩) (hf2 : T2.find l'.id = some ⟨0, l2⟩)
    (hn1 : T1.ids.Nodup) (hn2 : T2.ids.Nodup) :
    TRel S R (putLeaf T1 l') (putLeaf T2 l') := by
  have view : ∀ {T : Tree K V} {l : Leaf K V}, T.find l'.id = some ⟨0, l⟩ → T.ids.Nodup →
      FrameEq (fun x => x != l'.id) T.flat (putLeaf T l').flat ∧
      (putLeaf T l').look l'.id = some (shallow (d := 0) l') := by
    intro T l hf hn
    obtain ⟨L, R, e, e', _⟩ := putLeaf_flat l' hf hn
    have hid : l.id = l'.id := (find_facts hf).1
    refine ⟨?_, ?_⟩
    · rw [e, e']
      apply FrameEq.context
      show List.filter _ [(l.id, _)] = List.filter _ [(l'.id, _)]
      rw [hid]
      simp
    · unfold Tree.ids at hn
      rw [e, List.map_append, List.map_append, List.nodup_append] at hn
      unfold Tree.look
      rw [e', List.append_assoc, lookup_append_of_not_mem _ L _ ?_]
      · exact List.lookup_cons_self
      · intro p hp hpe
        exact (List.nodup_append.1 hn.1).2.2 p.1 (List.mem_map.2 ⟨p, hp, rfl⟩) l.id List.mem_cons_self (hpe.trans hid.symm)
  obtain ⟨_, _, _, _, hr1, hd1, hni1, ho1⟩ := putLeaf_flat l' hf1 hn1
  obtain ⟨_, _, _, _, hr2, hd2, hni2, ho2⟩ := putLeaf_flat l' hf2 hn2
  refine TRel.of_frame (fun x => x != l'.id) hT (view hf1 hn1).1 (view hf2 hn2).1 ?_ (by rw [ho1, ho2]; exact hT.order)
    (by rw [hni1, hni2]; exact hT.nextId) (fun hR => by rw [hr1, hr2, hd1, hd2]; exact hT.root hR)
  intro x _ hk
  have hx : x = l'.id := by simpa using hk
  rw [hx, (view hf1 hn1).2, (view hf2 hn2).2]

end Gobptree.Conc
