/-
  A thread parked at a `Lock()` call and one parked at a yield carry a continuation alike;
  every per-park predicate (`parkKontOk`, `ParkPre`, `parkHeld`, `parkExtra`, `isDelPark`,
  `DiscOk`) only looks at that continuation.  `Park.kont?` names it, so that the step
  assembly treats the two parks as one case.
-/
import Gobptree.Proofs.CSDisc
import Gobptree.Proofs.CSBlock

namespace Gobptree.Conc
open Gobptree

variable {K V : Type}

theorem Park.kont?_eq_some {p : Park K V} {k : Kont K V} :
    p.kont? = some k ↔ (p = .yielded k ∨ ∃ l, p = .want l k) := by
  cases p <;> simp [Park.kont?]

theorem Park.kont?_eq_none {p : Park K V} : p.kont? = none ↔ (p = .start ∨ p = .finished) := by
  cases p <;> simp [Park.kont?]

theorem Park.kont?_none {p : Park K V} (h : p.kont? = none) :
    parkHeld p = [] ∧ parkWant p = none ∧ isDelPark p = false ∧ ∀ t : Tree K V, parkExtra t p = [] := by
  cases p <;> first | exact ⟨rfl, rfl, rfl, fun _ => rfl⟩ | cases h

theorem Park.kont?_of_want {p : Park K V} {l : Lk} (h : parkWant p = some l) : ∃ k, p.kont? = some k := by
  cases p <;> first | exact ⟨_, rfl⟩ | cases h

theorem Park.kont?_of_extra {p : Park K V} {t : Tree K V} {x : Nat} (h : x ∈ parkExtra t p) :
    ∃ k, p.kont? = some k := by
  cases p <;> first | exact ⟨_, rfl⟩ | cases h

theorem parkHole_want (l : Lk) (k : Kont K V) : parkHole (.want l k) = kontHole k := by
  cases k <;> rfl

theorem isHop_want (l : Lk) (k : Kont K V) : isHop (.want l k) = isHopK k := by
  cases k <;> rfl

/-- only Update's callback and a paused cursor are resumed from a yield: no Delete (so nothing
    to rebalance), no cursor hop -/
theorem kontLock_none {k : Kont K V} (h : kontLock k = none) :
    kontHole k = none ∧ isHopK k = false ∧ isDelK k = false := by
  cases k <;> first | exact ⟨rfl, rfl, rfl⟩ | cases h

section
variable {p : Park K V} {k : Kont K V} (h : p.kont? = some k)
include h

theorem parkKontOk_kont (t : Tree K V) : parkKontOk t p = KontOk t k := by
  cases p <;> cases h <;> rfl

theorem parkExtra_kont (t : Tree K V) : parkExtra t p = kontExtra t k := by
  cases p <;> cases h <;> rfl

theorem isDelPark_kont : isDelPark p = isDelK k := by
  cases p <;> cases h <;> rfl

theorem parkLockOk_kont : ParkLockOk p ↔ kontLock k = parkWant p := by
  cases p <;> cases h <;> exact Iff.rfl

theorem parkHole_kont (hl : ParkLockOk p) : parkHole p = kontHole k := by
  cases p <;> cases h
  · exact parkHole_want _ k
  · exact (kontLock_none hl).1.symm

theorem isHop_kont (hl : ParkLockOk p) : isHop p = isHopK k := by
  cases p <;> cases h
  · exact isHop_want _ k
  · exact (kontLock_none hl).2.1.symm

end

theorem discOk_kont {th : Thread K V} {k : Kont K V} (h : th.park.kont? = some k) (hd : DiscOk th) :
    ∃ st', disciplined st' (th.prog.drop (th.pc + 1)) = true ∧ kontAbs st' k th.cursor th.exhausted := by
  unfold DiscOk at hd
  rcases Park.kont?_eq_some.1 h with e | ⟨l, e⟩ <;> rw [e] at hd <;> exact hd

structure Parked (th : Thread K V) (k : Kont K V) : Prop where
  pre   : KontPre th.cursor k
  held  : ∀ l, l ∈ th.held ↔ l ∈ kontHeld k ++ cursorLocks th.cursor
  lock  : kontLock k = parkWant th.park

theorem parked_of {th : Thread K V} {k : Kont K V} (hok : ThreadOk th) (h : th.park.kont? = some k) :
    Parked th k := by
  obtain ⟨hperm, hpre, hlock⟩ := hok
  rw [parkPre_kont h] at hpre
  rw [parkHeld_kont h] at hperm
  exact ⟨hpre, fun l => hperm.mem_iff.trans (List.mem_append.trans (Or.comm.trans List.mem_append.symm)),
    (parkLockOk_kont h).1 hlock⟩

end Gobptree.Conc
