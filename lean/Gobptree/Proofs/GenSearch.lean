/-
  The REGENERATED binary searches (`Generated/SearchGen.lean`, written from the six Go files by
  harness/cmd/gen_search on every run) compute exactly what the hand-written model
  (`Search.lean`) computes: no index panic, termination within `len + 1` jumps, same result.
  Each of the three function shapes is written once here, with what varies as an argument
  (`loopBody`: the jump back to `loop:`; `geBody`: the loop; `leBody`: the result of the other
  search), and the fact is proved once about anything that unfolds to the shape; a translated
  function does so by `rfl` (Props/C11Search).
-/
import Gobptree.Generated.SearchGen
import Gobptree.Proofs.Search

namespace Gobptree

variable {K : Type} {lt : K → K → Bool}

theorem goIdx_nat {α : Type} (xs : List α) (i : Nat) : goIdx xs (i : Int) = xs[i]? := by
  rw [goIdx, if_neg (Int.not_lt.2 (Int.natCast_nonneg i)), Int.toNat_natCast]

theorem int_succ (m : Nat) : (m : Int) + (1 : Int) = ((m + 1 : Nat) : Int) := rfl

theorem int_shr1 (a b : Nat) :
    ((a : Int) + (b : Int)) >>> (1 : Nat) = (((a + b) >>> 1 : Nat) : Int) := rfl

theorem w64_pred {n : Nat} (h0 : 0 < n) (h : n < 4611686018427387904) :
    w64 ((n : Int) - 1) = ((n - 1 : Nat) : Int) := by
  rw [w64_id _ (by omega) (by omega)]; omega

/-- the statement about a translated `loop:`.  The bound 4611686018427387904 is 2^62: below it
    `lo + hi` does not wrap in `int64`.  The translation and the model each carry a fuel (`f1`,
    `f2`); any two that cover `hi - lo` give the same result. -/
def GenLoopEq (loop : (K → K → Bool) → K → List K → Nat → Int → Int → Except String Int) : Prop :=
  ∀ (lt : K → K → Bool) (key : K) (vs : List K), vs.length < 4611686018427387904 → ∀ (f1 f2 lo hi : Nat),
    lo < hi → hi < vs.length → hi ≤ lo + f1 → hi ≤ lo + f2 →
    loop lt key vs f1 (lo : Int) (hi : Int) = .ok ((searchGELoop lt key vs f2 lo hi : Nat) : Int)

def GenGEEq (ge : (K → K → Bool) → K → List K → Except String Int) : Prop :=
  ∀ (lt : K → K → Bool) (key : K) (vs : List K), vs.length < 4611686018427387904 → ge lt key vs = .ok ((searchGE lt key vs : Nat) : Int)

def GenLEEq (le : (K → K → Bool) → K → List K → Except String Int) : Prop :=
  ∀ (lt : K → K → Bool) (key : K) (vs : List K), vs.length < 4611686018427387904 → le lt key vs = .ok ((searchLE lt key vs : Nat) : Int)

def loopBody (lt : K → K → Bool) (key : K) (values : List K) (goto : Int → Int → Except String Int)
    (lo hi : Int) : Except String Int :=
  let m : Int := (w64 (lo + hi)) >>> (1 : Nat)
  match goIdx values m with
  | none => .error "index"
  | some v =>
    if lt key v then
      let hi : Int := m
      if lo < hi then goto lo hi else .ok lo
    else if lt v key then
      let lo : Int := w64 (m + (1 : Int))
      if lo < hi then goto lo hi else .ok lo
    else .ok m

def geBody (values : List K) (loop : Nat → Int → Int → Except String Int) : Except String Int :=
  let hi : Int := (values.length : Int)
  if hi ≤ (1 : Int) then .ok (0 : Int) else loop (values.length + 1) 0 (w64 (hi - (1 : Int)))

def leBody (lt : K → K → Bool) (key : K) (values : List K) (ge : Except String Int) : Except String Int :=
  match ge with
  | .error err => .error err
  | .ok index =>
    if index = (values.length : Int) then
      if index > (0 : Int) then .ok (w64 (index - (1 : Int))) else .ok index
    else match goIdx values index with
      | none => .error "index"
      | some e1 =>
        if lt key e1 then
          if index > (0 : Int) then .ok (w64 (index - (1 : Int))) else .ok index
        else .ok index

theorem w64_nat {n : Nat} (h : n < 9223372036854775808) : w64 (n : Int) = (n : Int) :=
  w64_id _ (Int.le_trans (by decide) (Int.natCast_nonneg n)) (Int.ofNat_lt.2 h)

theorem fuel_step {lo hi lo' hi' f : Nat} (hd : hi' - lo' < hi - lo) (hf : hi ≤ lo + (f + 1)) :
    hi' ≤ lo' + f :=
  Nat.sub_le_iff_le_add'.1 (Nat.le_of_lt_succ (Nat.lt_of_lt_of_le hd (Nat.sub_le_iff_le_add'.2 hf)))

theorem loopBody_step (lt : K → K → Bool) (key : K) (vs : List K) (goto : Int → Int → Except String Int)
    (f : Nat) {lo hi : Nat} (hlt : lo < hi) (hhi : hi < vs.length) (hlen : vs.length < 4611686018427387904)
    (hgo : ∀ lo' hi' : Nat, lo' < hi' → hi' ≤ hi → hi' - lo' < hi - lo →
      goto lo' hi' = .ok ((searchGELoop lt key vs f lo' hi' : Nat) : Int)) :
    loopBody lt key vs goto lo hi = .ok ((searchGELoop lt key vs (f + 1) lo hi : Nat) : Int) := by
  obtain ⟨hmlo, hmhi⟩ := mid_bounds hlt
  have h62 := Nat.lt_trans hhi hlen
  obtain ⟨v, hv⟩ : ∃ v, vs[(lo + hi) >>> 1]? = some v :=
    ⟨_, List.getElem?_eq_getElem (Nat.lt_trans hmhi hhi)⟩
  rw [loopBody, searchGELoop, ← Int.natCast_add, w64_nat (Nat.add_lt_add (Nat.lt_trans hlt h62) h62),
    ← Int.natCast_shiftRight, goIdx_nat, hv]
  generalize (lo + hi) >>> 1 = m at *
  rw [Int.ofNat_add_one_out, w64_nat (Nat.lt_trans (Nat.lt_of_le_of_lt (Nat.succ_le_of_lt hmhi) h62) (by decide))]
  simp only [Int.ofNat_lt]
  cases lt key v
  · rw [if_neg Bool.false_ne_true, if_neg Bool.false_ne_true]
    cases lt v key
    · rfl
    · rw [if_pos rfl, if_pos rfl]
      by_cases hh : m + 1 < hi
      · rw [if_pos hh, if_pos hh]
        exact hgo (m + 1) hi hh (Nat.le_refl hi) (Nat.sub_lt_sub_left hlt (Nat.lt_succ_of_le hmlo))
      · rw [if_neg hh, if_neg hh]
  · rw [if_pos rfl, if_pos rfl]
    by_cases hh : lo < m
    · rw [if_pos hh, if_pos hh]
      exact hgo lo m hh (Nat.le_of_lt hmhi) (Nat.sub_lt_sub_right hmlo hmhi)
    · rw [if_neg hh, if_neg hh]

theorem GenLoopEq.of_body {loop : (K → K → Bool) → K → List K → Nat → Int → Int → Except String Int}
    (h : ∀ lt key vs fuel lo hi,
      loop lt key vs (fuel + 1) lo hi = loopBody lt key vs (loop lt key vs fuel) lo hi) :
    GenLoopEq loop := by
  intro lt key vs hlen f1
  induction f1 with
  | zero => intro f2 lo hi h1 _ h3; exact absurd h1 (Nat.not_lt.2 h3)
  | succ f1 ih =>
    intro f2 lo hi hlt hhi hf1 hf2
    cases f2 with
    | zero => exact absurd hlt (Nat.not_lt.2 hf2)
    | succ f2 =>
    rw [h]
    exact loopBody_step lt key vs _ f2 hlt hhi hlen fun lo' hi' h1 h2 h3 =>
      ih f2 lo' hi' h1 (Nat.lt_of_le_of_lt h2 hhi) (fuel_step h3 hf1) (fuel_step h3 hf2)

theorem GenLoopEq.ge {loop : (K → K → Bool) → K → List K → Nat → Int → Int → Except String Int}
    {ge : (K → K → Bool) → K → List K → Except String Int} (hloop : GenLoopEq loop)
    (h : ∀ lt key vs, ge lt key vs = geBody vs (loop lt key vs)) : GenGEEq ge := by
  intro lt key vs hlen
  rw [h, geBody, searchGE]
  by_cases hl : vs.length ≤ 1
  · have hh : (vs.length : Int) ≤ 1 := by omega
    simp only [hl, hh, if_true]; rfl
  · have hh : ¬ (vs.length : Int) ≤ 1 := by omega
    simp only [hl, hh, if_false]
    rw [w64_pred (by omega) hlen]
    exact hloop lt key vs hlen (vs.length + 1) vs.length 0 (vs.length - 1)
      (by omega) (by omega) (by omega) (by omega)

theorem GenGEEq.le {ge le : (K → K → Bool) → K → List K → Except String Int} (hge : GenGEEq ge)
    (h : ∀ lt key vs, le lt key vs = leBody lt key vs (ge lt key vs)) : GenLEEq le := by
  intro lt key vs hlen
  rw [h, hge lt key vs hlen, leBody, searchLE]
  have hidx := searchGE_le_length (lt := lt) key vs
  generalize searchGE lt key vs = index at hidx
  -- the step back from `index`, on which two branches of the translated text end
  have back : (if (index : Int) > 0 then Except.ok (ε := String) (w64 ((index : Int) - 1)) else .ok index)
      = .ok ((if index > 0 then index - 1 else index : Nat) : Int) := by
    by_cases h0 : index > 0
    · rw [if_pos h0, if_pos (Int.natCast_pos.2 h0), w64_pred h0 (by omega)]
    · rw [if_neg h0, if_neg (mt Int.natCast_pos.1 h0)]
  simp only [goIdx_nat, Int.natCast_inj]
  rcases Nat.lt_or_eq_of_le hidx with hlt | rfl
  · obtain ⟨v, hv⟩ : ∃ v, vs[index]? = some v := ⟨_, List.getElem?_eq_getElem hlt⟩
    simp only [Nat.ne_of_lt hlt, if_false, hv]
    cases lt key v
    · rfl
    · exact back
  · simp only [if_true, List.getElem?_eq_none (Nat.le_refl _)]
    exact back

/-! The same three arguments as scripts that run on a translated function itself, given its name:
    for a translation that does not unfold to the shapes above. -/

macro "gen_loop_proof" loop:ident : tactic => `(tactic| (
  intro lt key vs hlen f1
  induction f1 with
  | zero => intro f2 lo hi h1 h2 h3; omega
  | succ f1 ih =>
    intro f2 lo hi hlt hhi hf1 hf2
    cases f2 with
    | zero => omega
    | succ f2 =>
    have hmlt : (lo + hi) >>> 1 < vs.length := by rw [shiftRight_one_eq]; omega
    have hmhi : (lo + hi) >>> 1 < hi := by rw [shiftRight_one_eq]; omega
    have hmlo : lo ≤ (lo + hi) >>> 1 := by rw [shiftRight_one_eq]; omega
    have hw1 : w64 ((lo : Int) + (hi : Int)) = (lo : Int) + (hi : Int) := w64_id _ (by omega) (by omega)
    rw [$loop:ident]
    simp only [searchGELoop, hw1, int_shr1, goIdx_nat, List.getElem?_eq_getElem hmlt]
    generalize (lo + hi) >>> 1 = m at *
    have hw2 : w64 ((m : Int) + (1 : Int)) = (m : Int) + (1 : Int) := w64_id _ (by omega) (by omega)
    simp only [hw2]
    split
    · split
      · have hh : lo < m := by omega
        simp only [hh, ↓reduceIte]
        exact ih f2 lo m hh (by omega) (by omega) (by omega)
      · have hh : ¬ lo < m := by omega
        simp only [hh, ↓reduceIte]
    · split
      · simp only [int_succ]
        split
        · have hh : m + 1 < hi := by omega
          simp only [hh, ↓reduceIte]
          exact ih f2 (m+1) hi hh (by omega) (by omega) (by omega)
        · have hh : ¬ m + 1 < hi := by omega
          simp only [hh, ↓reduceIte]
      · rfl))

macro "gen_ge_proof" ge:ident hloop:ident : tactic => `(tactic| (
  intro lt key vs hlen
  unfold $ge:ident searchGE
  by_cases hl : vs.length ≤ 1
  · have hh : ((vs.length : Nat) : Int) ≤ (1 : Int) := by omega
    simp only [hl, hh, ↓reduceIte]
    rfl
  · have hh : ¬ ((vs.length : Nat) : Int) ≤ (1 : Int) := by omega
    simp only [hl, hh, ↓reduceIte]
    have e : w64 (((vs.length : Nat) : Int) - (1 : Int)) = ((vs.length - 1 : Nat) : Int) := by
      rw [w64_id _ (by omega) (by omega)]; omega
    rw [e]
    exact $hloop lt key vs hlen (vs.length + 1) vs.length 0 (vs.length - 1) (by omega) (by omega) (by omega) (by omega)))

macro "gen_le_proof" le:ident hge:ident : tactic => `(tactic| (
  intro lt key vs hlen
  unfold $le:ident searchLE
  rw [$hge:ident lt key vs hlen]
  simp only [goIdx_nat]
  have hidx := searchGE_le_length (lt := lt) key vs
  generalize searchGE lt key vs = index at hidx
  by_cases h0 : index > 0
  · have h3 : ((index : Nat) : Int) > (0 : Int) := by omega
    have h4 : w64 (((index : Nat) : Int) - (1 : Int)) = ((index - 1 : Nat) : Int) := by
      rw [w64_id _ (by omega) (by omega)]; omega
    by_cases hlen : index = vs.length
    · have h1 : ((index : Nat) : Int) = ((vs.length : Nat) : Int) := by omega
      have h2 : vs[index]? = none := by rw [hlen]; simp
      simp only [h1, h2, h3, h4, h0, ↓reduceIte]
      simp only [← h1, h3, h4, ↓reduceIte]
    · have h1 : ¬ ((index : Nat) : Int) = ((vs.length : Nat) : Int) := by omega
      have hlt : index < vs.length := by omega
      simp only [h1, h3, h4, h0, List.getElem?_eq_getElem hlt, ↓reduceIte]
      split <;> rfl
  · have h3 : ¬ ((index : Nat) : Int) > (0 : Int) := by omega
    by_cases hlen : index = vs.length
    · have h1 : ((index : Nat) : Int) = ((vs.length : Nat) : Int) := by omega
      have h2 : vs[index]? = none := by rw [hlen]; simp
      simp only [h1, h2, h0, ↓reduceIte]
      simp only [← h1, h3, ↓reduceIte]
    · have h1 : ¬ ((index : Nat) : Int) = ((vs.length : Nat) : Int) := by omega
      have hlt : index < vs.length := by omega
      simp only [h1, h3, h0, List.getElem?_eq_getElem hlt, ↓reduceIte]
      split <;> rfl))

end Gobptree
