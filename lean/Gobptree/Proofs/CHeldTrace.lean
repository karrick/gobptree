/-
  The event log as a trace of who holds what.  `heldNow t log` replays thread `t`'s `acq`/`rel`
  events of a newest-first log.

  After its one acquisition a step only releases and notes (`RelM`, like `RelOnly` a projection
  of `Eff`, ConcFlow.lean): the events it logs are `OnlyRel`, and replaying them can only shrink
  the held list of the stepping thread and leaves every other thread's alone (`replay_rel`).
  Hence `always_append`: a property of the replayed held lists that survives shrinking (`Down`)
  and holds at the grant of a step holds at every later instant of the step.  `Bnd` (C10: never
  more than three locks, here; a non-Delete continuation parks holding at most two,
  `held_le_two`) and `Excl` (C07, CSeparatedLog.lean) are the two instances.
-/
import Gobptree.Props.C10
import Gobptree.Proofs.CSNoDel

namespace Gobptree.Conc
open Gobptree

variable {K V : Type}

def upd (t : Nat) (e : Ev K V) (h : List Lk) : List Lk :=
  match e with
  | .acq t' l => if t' = t then h ++ [l] else h
  | .rel t' l => if t' = t then h.erase l else h
  | _ => h

/-- `new` is newest-first -/
def replay (t : Nat) (new : List (Ev K V)) (h : List Lk) : List Lk := new.foldr (upd t) h

def heldNow (t : Nat) (log : List (Ev K V)) : List Lk := replay t log []

def heldEnd (t : Nat) (evs : List (Ev K V)) (h0 : List Lk) : List Lk := evs.foldl (fun h e => upd t e h) h0

theorem heldNow_append (t : Nat) (a b : List (Ev K V)) : heldNow t (a ++ b) = replay t a (heldNow t b) :=
  List.foldr_append

theorem heldEnd_reverse (t : Nat) (log : List (Ev K V)) : heldEnd t log.reverse [] = heldNow t log := by
  simp [heldEnd, heldNow, replay, List.foldl_reverse]

theorem heldTrace_cons (t : Nat) (e : Ev K V) (rest : List (Ev K V)) (h : List Lk) :
    heldTrace t (e :: rest) h = heldTrace t [e] h ++ heldTrace t rest (upd t e h) ∧
    ∀ x ∈ heldTrace t [e] h, x = upd t e h := by
  cases e with
  | acq t' l => by_cases ht : t' = t <;> simp [heldTrace, upd, ht]
  | rel t' l => by_cases ht : t' = t <;> simp [heldTrace, upd, ht]
  | note t' n => simp [heldTrace, upd]
  | dec t' en => simp [heldTrace, upd]

theorem heldTrace_append (t : Nat) : ∀ (a b : List (Ev K V)) (h0 : List Lk),
    heldTrace t (a ++ b) h0 = heldTrace t a h0 ++ heldTrace t b (heldEnd t a h0) := by
  intro a
  induction a with
  | nil => intro b h0; rfl
  | cons e a ih =>
    intro b h0
    rw [List.cons_append, (heldTrace_cons t e (a ++ b) h0).1, (heldTrace_cons t e a h0).1, ih, List.append_assoc]
    rfl

/-- events a thread `t` may log after the acquisition that starts its step -/
def okEv (t : Nat) : Ev K V → Prop
  | .acq _ _ => False
  | .rel t' _ => t' = t
  | _ => True

theorem upd_gain {t : Nat} {l : Lk} {e : Ev K V} {h : List Lk} (h1 : l ∉ h) (h2 : l ∈ upd t e h) : e = .acq t l := by
  cases e with
  | acq t' l' =>
    by_cases ht : t' = t
    · simp only [upd, ht, if_true] at h2
      rcases List.mem_append.1 h2 with h | h
      · exact absurd h h1
      · have hl : l = l' := by simpa using h
        rw [ht, hl]
    · simp only [upd, ht, if_false] at h2
      exact absurd h2 h1
  | rel t' l' =>
    exfalso; apply h1
    simp only [upd] at h2
    split at h2
    · exact List.mem_of_mem_erase h2
    · exact h2
  | note t' n => exact absurd h2 h1
  | dec t' en => exact absurd h2 h1

theorem upd_lose {t : Nat} {l : Lk} {e : Ev K V} {h : List Lk} (h1 : l ∈ h) (h2 : l ∉ upd t e h) : e = .rel t l := by
  cases e with
  | acq t' l' =>
    exfalso; apply h2
    simp only [upd]
    split
    · exact List.mem_append_left _ h1
    · exact h1
  | rel t' l' =>
    by_cases ht : t' = t
    · by_cases hl : l' = l
      · rw [ht, hl]
      · exfalso; apply h2
        simp only [upd, ht, if_true]
        exact (List.mem_erase_of_ne (fun e => hl e.symm)).2 h1
    · exfalso; apply h2
      simp only [upd, ht, if_false]
      exact h1
  | note t' n => exact absurd h1 h2
  | dec t' en => exact absurd h1 h2

theorem last_flip (Q : List (Ev K V) → Prop) : ∀ (mid base : List (Ev K V)), ¬ Q base → Q (mid ++ base) →
    ∃ xs e m', mid = xs ++ e :: m' ∧ ¬ Q (m' ++ base) ∧
      ∀ xs1 xs2, xs = xs1 ++ xs2 → Q (xs2 ++ e :: (m' ++ base)) := by
  intro mid
  induction mid with
  | nil => intro base h1 h2; exact absurd h2 h1
  | cons e m ih =>
    intro base h1 h2
    by_cases hm : Q (m ++ base)
    · obtain ⟨xs, e', m', he, hn, hh⟩ := ih base h1 hm
      refine ⟨e :: xs, e', m', by rw [he]; rfl, hn, ?_⟩
      intro xs1 xs2 hx
      cases xs1 with
      | nil =>
        have hx' : xs2 = e :: xs := hx.symm
        have h3 : xs2 ++ e' :: (m' ++ base) = e :: m ++ base := by
          rw [hx', he]; simp
        rw [h3]; exact h2
      | cons a xs1 =>
        simp only [List.cons_append, List.cons.injEq] at hx
        exact hh xs1 xs2 hx.2
    · refine ⟨[], e, m, rfl, hm, ?_⟩
      intro xs1 xs2 hx
      have hx2 : xs2 = [] := by
        cases xs1 with
        | nil => exact hx.symm
        | cons a xs1 => cases hx
      rw [hx2]; exact h2

theorem rel_split (t : Nat) (l : Lk) : ∀ (mid base : List (Ev K V)),
    l ∈ heldNow t base → l ∉ heldNow t (mid ++ base) →
    ∃ ys zs, mid = ys ++ Ev.rel t l :: zs ∧
      ∀ ys1 ys2, ys = ys1 ++ ys2 → l ∉ heldNow t (ys2 ++ Ev.rel t l :: (zs ++ base)) := by
  intro mid base h1 h2
  obtain ⟨ys, e, zs, he, hn, hh⟩ := last_flip (fun log => l ∉ heldNow t log) mid base (fun h => h h1) h2
  have : e = Ev.rel t l := upd_lose (Classical.not_not.1 hn) (hh ys [] (List.append_nil ys).symm)
  subst this
  exact ⟨ys, zs, he, hh⟩

theorem acq_split (t : Nat) (l : Lk) : ∀ (mid base : List (Ev K V)),
    l ∉ heldNow t base → l ∈ heldNow t (mid ++ base) →
    ∃ xs m', mid = xs ++ Ev.acq t l :: m' ∧ l ∉ heldNow t (m' ++ base) ∧
      ∀ xs1 xs2, xs = xs1 ++ xs2 → l ∈ heldNow t (xs2 ++ Ev.acq t l :: (m' ++ base)) := by
  intro mid base h1 h2
  obtain ⟨xs, e, m', he, hn, hh⟩ := last_flip (fun log => l ∈ heldNow t log) mid base h1 h2
  have : e = Ev.acq t l := upd_gain hn (hh xs [] (List.append_nil xs).symm)
  subst this
  exact ⟨xs, m', he, hn, hh⟩

def OnlyRel (t : Nat) (new : List (Ev K V)) : Prop := ∀ e ∈ new, okEv t e

theorem upd_rel {t : Nat} {e : Ev K V} (he : okEv t e) (t' : Nat) (h : List Lk) :
    (upd t' e h).Sublist h ∧ (t' ≠ t → upd t' e h = h) := by
  cases e with
  | acq t1 l => exact he.elim
  | rel t1 l =>
    have ht : t1 = t := he
    show (if t1 = t' then h.erase l else h).Sublist h ∧ (t' ≠ t → (if t1 = t' then h.erase l else h) = h)
    by_cases e : t1 = t'
    · rw [if_pos e]
      exact ⟨List.erase_sublist, fun hne => absurd (e.symm.trans ht) hne⟩
    · rw [if_neg e]
      exact ⟨.refl _, fun _ => rfl⟩
  | note t1 n => exact ⟨.refl _, fun _ => rfl⟩
  | dec t1 en => exact ⟨.refl _, fun _ => rfl⟩

theorem replay_rel {t : Nat} : ∀ {new : List (Ev K V)}, OnlyRel t new → ∀ (t' : Nat) (h : List Lk),
    (replay t' new h).Sublist h ∧ (t' ≠ t → replay t' new h = h)
  | [], _, _, _ => ⟨.refl _, fun _ => rfl⟩
  | e :: new, ho, t', h =>
    have ih := replay_rel (new := new) (fun e he => ho e (List.mem_cons_of_mem _ he)) t' h
    have h1 := upd_rel (ho e (List.mem_cons_self ..)) t' (replay t' new h)
    ⟨h1.1.trans ih.1, fun hne => (h1.2 hne).trans (ih.2 hne)⟩

def Always (Q : List (Ev K V) → Prop) : List (Ev K V) → Prop
  | [] => True
  | e :: s => Q (e :: s) ∧ Always Q s

def Down (Q : List (Ev K V) → Prop) : Prop :=
  ∀ a b, (∀ t, (heldNow t a).Sublist (heldNow t b)) → Q b → Q a

theorem always_append {Q : List (Ev K V) → Prop} (hQ : Down Q) {t : Nat} :
    ∀ (new base : List (Ev K V)), OnlyRel t new → Q base → Always Q base → Always Q (new ++ base)
  | [], _, _, _, hb => hb
  | e :: new, base, ho, hq, hb =>
    ⟨hQ ((e :: new) ++ base) base (fun t' => by rw [heldNow_append]; exact (replay_rel ho t' _).1) hq,
      always_append hQ new base (fun e he => ho e (List.mem_cons_of_mem _ he)) hq hb⟩

theorem down_len (t n : Nat) : Down (fun log : List (Ev K V) => (heldNow t log).length ≤ n) :=
  fun _ _ hsub hb => Nat.le_trans (hsub t).length_le hb

theorem always_now {Q : List (Ev K V) → Prop} (h0 : Q []) : ∀ {log : List (Ev K V)}, Always Q log → Q log
  | [], _ => h0
  | _ :: _, h => h.1

def Bnd (t : Nat) : List (Ev K V) → Prop := Always fun log => (heldNow t log).length ≤ 3

theorem trace_bound (t : Nat) : ∀ (log : List (Ev K V)), Bnd t log →
    ∀ h ∈ heldTrace t log.reverse [], h.length ≤ 3 := by
  intro log
  induction log with
  | nil => intro _ h hm; simp [heldTrace] at hm
  | cons e rest ih =>
    intro hb h hm
    rw [List.reverse_cons, heldTrace_append, List.mem_append, heldEnd_reverse] at hm
    rcases hm with hm | hm
    · exact ih hb.2 h hm
    · rw [(heldTrace_cons t e [] _).2 h hm]
      exact hb.1

def RelM (t : Nat) (s s' : St K V) : Prop :=
  ∃ new, s'.evs = new ++ s.evs ∧ OnlyRel t new ∧ s'.held = replay t new s.held

theorem RelM.refl (t : Nat) (s : St K V) : RelM t s s :=
  ⟨[], rfl, fun _ h => by simp at h, rfl⟩

theorem RelM.of_eq {t : Nat} {s s1 s' : St K V} (h : RelM t s s1)
    (he : s'.evs = s1.evs) (hh : s'.held = s1.held) : RelM t s s' := by
  obtain ⟨new, h1, h2, h3⟩ := h
  exact ⟨new, by rw [he, h1], h2, by rw [hh, h3]⟩

theorem RelM.rel {t : Nat} {s s1 : St K V} (l : Lk) (h : RelM t s s1) : RelM t s (s1.rel t l) := by
  obtain ⟨new, h1, h2, h3⟩ := h
  refine ⟨Ev.rel t l :: new, ?_, ?_, ?_⟩
  · show Ev.rel t l :: s1.evs = _
    rw [h1]; rfl
  · intro e he
    rcases List.mem_cons.mp he with rfl | he
    · exact rfl
    · exact h2 e he
  · show s1.held.erase l = upd t (Ev.rel t l : Ev K V) (replay t new s.held)
    rw [h3]; simp [upd]

theorem RelM.note {t : Nat} {s s1 : St K V} (n : Note K V) (h : RelM t s s1) : RelM t s (s1.note t n) := by
  obtain ⟨new, h1, h2, h3⟩ := h
  refine ⟨Ev.note t n :: new, ?_, ?_, ?_⟩
  · show Ev.note t n :: s1.evs = _
    rw [h1]; rfl
  · intro e he
    rcases List.mem_cons.mp he with rfl | he
    · exact True.intro
    · exact h2 e he
  · exact h3

theorem RelM.setTree {t : Nat} {s s1 : St K V} (tr : Tree K V) (h : RelM t s s1) :
    RelM t s { s1 with tree := tr } := h.of_eq rfl rfl

theorem RelM.setCursor {t : Nat} {s s1 : St K V} (c : Option (Option Nat × Int)) (e : Bool)
    (h : RelM t s s1) : RelM t s { s1 with cursor := c, exhausted := e } := h.of_eq rfl rfl

theorem RelM.setCursor' {t : Nat} {s s1 : St K V} (c : Option (Option Nat × Int))
    (h : RelM t s s1) : RelM t s { s1 with cursor := c } := h.of_eq rfl rfl

theorem Eff.relM {cw : Bool} {t : Nat} {s s' : St K V} (h : Eff cw t s s') : RelM t s s' := by
  induction h with
  | refl => exact .refl t s
  | rel l _ ih => exact ih.rel l
  | note n _ ih => exact ih.note n
  | setTree tr _ ih => exact ih.setTree tr
  | setCursor _ c e _ ih => exact ih.setCursor c e

theorem runThread_grows (P : Params K) (t : Nat) (th : Thread K V) (s0 : St K V) :
    ∃ new, (runThread P t th s0).2.1.evs = new ++ s0.evs := by
  have grow : ∀ {s s' : St K V}, (∃ pre, s.evs = pre ++ s0.evs) → Eff true t s s' → ∃ new, s'.evs = new ++ s0.evs :=
    fun ⟨pre, hpre⟩ h => have ⟨new, e, _⟩ := h.relM; ⟨new ++ pre, by rw [e, hpre, List.append_assoc]⟩
  have enter : ∀ k, ∃ pre, (s0.enter t k).evs = pre ++ s0.evs := fun k => by
    unfold St.enter; split
    · exact ⟨[_], rfl⟩
    · exact ⟨[], rfl⟩
  exact runThread_induct P t th s0 (fun s _ _ => ∃ new, s.evs = new ++ s0.evs)
    (fun r => ∃ new, r.2.1.evs = new ++ s0.evs)
    (fun _ _ _ h => h) (fun _ _ h => grow h (Eff.refl.note _)) (fun _ _ _ h _ => grow h (Eff.refl.note _))
    (fun _ _ _ op h _ => grow h (((Eff.refl.note _).note _).trans (startOp_block t _ op).1))
    (fun _ => ⟨[], rfl⟩) (fun _ _ => ⟨[], rfl⟩)
    (fun op _ _ => grow ⟨[], rfl⟩ ((Eff.refl.note _).trans (startOp_block t _ op).1))
    (fun k _ => grow (enter k) (resume_block P t s0 k).1.weaken)

theorem step_log_grows {c c' : Config K V} {t : Nat} (hstep : c.step t = some c') : ∃ new, c'.log = new ++ c.log := by
  obtain ⟨th, r, S⟩ := step_stepped hstep
  obtain ⟨new, e⟩ := runThread_grows c.P t th (stepSt c t th)
  rw [← S.run] at e
  exact ⟨new ++ [Ev.dec t c.enabledSet], by rw [S.log, e, List.append_assoc]; rfl⟩

def NoDel (c : Config K V) : Prop :=
  ∀ th ∈ c.threads, isDelPark th.park = false ∧ ∀ op ∈ th.prog, op.isDel = false

theorem nodel_step (c c' : Config K V) (t : Nat) (hs : c.step t = some c') (hn : NoDel c) : NoDel c' :=
  let ⟨_, _, S⟩ := step_stepped hs
  S.nodel_all hn

theorem held_le_two (cur : Option (Option Nat × Int)) (k : Kont K V) (hk : isDelK k = false)
    (hpre : KontPre cur k) : (cursorLocks cur ++ kontHeld k).length ≤ 2 := by
  cases hco : k.isCoupled with
  | true =>
    rw [kontPre_coupled hco hpre]
    exact kontHeld_coupled_le k hco
  | false =>
    cases k with
    | hop c n =>
      rw [show cursorLocks cur = [.node c] from hpre]
      exact Nat.le_of_ble_eq_true rfl
    | paused =>
      rw [kontHeld, List.append_nil]
      unfold cursorLocks
      split <;> simp
    | delTree _ | delRoot _ _ | delLeft _ _ _ _ _ _ | delChild _ _ _ _ _ _ _ | delRight _ _ _ _ _ => cases hk
    | _ => cases hco

theorem init_nodel (P : Params K) (tree : Tree K V) (progs : List (List (COp K V)))
    (hnd : ∀ p ∈ progs, ∀ op ∈ p, match op with | .del _ => False | _ => True) :
    NoDel (Config.init P tree progs) := by
  intro th hth
  obtain ⟨p, hp, rfl⟩ := mem_init_threads hth
  refine ⟨rfl, fun op hop => ?_⟩
  have := hnd p hp op hop
  cases op <;> first | rfl | exact this.elim

end Gobptree.Conc
