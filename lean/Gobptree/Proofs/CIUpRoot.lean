/-
  The root block of Insert/Update (`upRootArrive`), with the root split, keeps the separator
  invariant.
-/
import Gobptree.Proofs.CIUpTree
import Gobptree.Proofs.CKUpRoot

namespace Gobptree.Conc
open Gobptree

variable {K V : Type} {lt : K → K → Bool}

theorem upRootArrive_isepN (P : Params K) (hK : KParams lt P) (t : Nat) (s : St K V) (key : K) (f : Option V → V)
    (y : Option Bool) (root : Nat) (H : List Lk) (hole : Option Nat) (hpre : Pre P hole s)
    (hord : OrdTree lt s.tree) (hk : KontOk s.tree (.upRoot key f y root)) (hHt : Lk.tree ∈ H)
    (hHr : Lk.node root ∈ H) (W : Nat → K → Prop) (hI : ISepN lt W s.tree.depth s.tree.root) :
    ISepN lt (fun r x => W r x ∨ flowWit (upRootArrive P t s key f y root).2 r x)
      (upRootArrive P t s key f y root).1.tree.depth (upRootArrive P t s key f y root).1.tree.root := by
  obtain ⟨hroot, out⟩ := upRootArrive_report P t s key f y root H hole hpre hk hHt hHr
  have hok := hpre.tree
  have hsw := hK.swo
  generalize upRootArrive P t s key f y root = res at out
  cases out with
  | stay _ _ =>
    exact upContinue_isepN P hK hpre.pad t (s.rel t .tree) key f y root (hole := hole) hok
      (hroot ▸ look_root hok.ids) W hI
  | @split l r ls rs ls' T2 sp =>
    have hsplit := sp.out.cut
    obtain ⟨so, rfl, -, -⟩ := sp.ord hK hpre hord
    rw [hK.lt]
    have hok2 := sp.step.tree
    have hlm := sp.meml
    rw [sp.T2eq] at hok2 hlm ⊢
    have hhl : headN s.tree.depth l = headN s.tree.depth s.tree.root := isSplit_headN hok.half_pos hsplit
    have hidl : Node.id l = root := so.idl.trans hroot.symm
    obtain ⟨hIl, hIr⟩ := isepN_split _ hsplit (ISepN.mono
      (Wit' := fun r x => W r x ∨ (r = root ∧ x = key ∧ LowN lt key s.tree.depth s.tree.root))
      (fun r _ x hw => Or.inl hw) hI)
    have hI2 : ISepN lt (fun r x => W r x ∨ (r = root ∧ x = key ∧ LowN lt key s.tree.depth s.tree.root))
        (s.tree.depth + 1) (Inner.mk (s.tree.nextId + 1) [lowKey lt key [] ls, rs] [l, r] : Inner K (Node K V s.tree.depth)) := by
      refine (ISepN_succ ..).2 (List.forall_mem_cons.2 ⟨⟨?_, hIl⟩, List.forall_mem_cons.2
        ⟨⟨sepFact_self hsw _ r rs so.smr, hIr⟩, fun _ h => nomatch h⟩⟩)
      exact sepFact_lowered hsw W s.tree.root l key ls [] root hidl hhl
        (SepFact.congr so.idl.symm hhl.symm (sepFact_self hsw _ l ls so.sml))
    by_cases cc : (!lt key rs) = true
    · rw [if_pos cc]
      exact ISepN.mono (fun r _ x hw => hw.imp_right fun hw =>
        absurd hw.2.2 (not_lowN_of_right hsw hhl so.sml so.s0_s (by simpa using cc))) hI2
    · rw [if_neg cc]
      exact upContinue_lowN P hK hpre.pad t _ key f y root hok2 W hidl hhl hlm so.ordl so.parl hI2

end Gobptree.Conc
