/-
  The sequential Delete keeps ALL node identities pairwise distinct and below the allocation
  counter (`IdsOk`).  Read off the code; no key order, no occupancy invariant.  (`Ids.lean` /
  `IdsDelete.lean` have this for leaf identities only.)
-/
import Gobptree.Proofs.IdsDelete
import Gobptree.Proofs.CSoloCtx

namespace Gobptree.Conc
open Gobptree

variable {K V : Type}

theorem count_flatMap_two {d : Nat} (A B : List (Node K V d)) (x y : Node K V d) (a : Nat) :
    ((A ++ x :: y :: B).flatMap idsOf).count a =
      (A.flatMap idsOf).count a + (idsOf x).count a + (idsOf y).count a + (B.flatMap idsOf).count a := by
  simp only [List.flatMap_append, List.flatMap_cons, List.count_append]
  omega

theorem count_flatMap_one {d : Nat} (A B : List (Node K V d)) (x : Node K V d) (a : Nat) :
    ((A ++ x :: B).flatMap idsOf).count a =
      (A.flatMap idsOf).count a + (idsOf x).count a + (B.flatMap idsOf).count a := by
  simp only [List.flatMap_append, List.flatMap_cons, List.count_append]
  omega

theorem IdsOk.of_count_le {t t' : Tree K V} (h : IdsOk t) (hn : t'.nextId = t.nextId)
    (hc : ∀ a, (idsOf t'.root).count a ≤ (idsOf t.root).count a) : IdsOk t' := by
  rw [idsOk_iff] at h ⊢
  intro a
  have h1 := hc a
  have h2 := h a
  rw [hn]
  omega

/-! ### Delete

The same walk as for leaf identities (`IdsDelete.lean`), on the same readings of the sibling
operations; they move a child past the identity of its parent, so identities are counted, not
kept in order. -/

theorem count_pool {d : Nat} {x y x' y' : Node K V d} (hx : Node.id x' = Node.id x) (hy : Node.id y' = Node.id y)
    (h : (Node.ents x' ++ Node.ents y').Sublist (Node.ents x ++ Node.ents y)) (a : Nat) :
    (idsOf x').count a + (idsOf y').count a ≤ (idsOf x).count a + (idsOf y).count a := by
  have := (enids_sublist h).count_le a
  rw [enids_append, enids_append, List.count_append, List.count_append] at this
  rw [idsOf_view, idsOf_view, idsOf_view x, idsOf_view y, hx, hy, List.count_cons, List.count_cons, List.count_cons,
    List.count_cons]
  omega

theorem absorbRight_count {d : Nat} (left right m : Node K V d) (h : Node.absorbRight left right = .ok m) (a : Nat) :
    (idsOf m).count a ≤ (idsOf left).count a + (idsOf right).count a := by
  obtain ⟨h1, h2⟩ := Node.absorbRight_pool h
  rw [idsOf_view, idsOf_view left, idsOf_view right, h1, h2, enids_append, List.count_cons, List.count_cons,
    List.count_cons, List.count_append]
  omega

theorem rebalance_count (P : Params K) (vr : Variant) (m : Nat) {d : Nat} (i i' : Inner K (Node K V d)) (index : Nat)
    (child c : Node K V d) (s : Bool) (h : rebalance P vr m i index child = .ok (i', s))
    (hc : i.kids[index]? = some c) (hrec : ∀ a, (idsOf child).count a ≤ (idsOf c).count a) (a : Nat) :
    (idsOf (d := d + 1) i').count a ≤ (idsOf (d := d + 1) i).count a := by
  obtain ⟨hid, A, B, x, y, hw, hop⟩ := rebalance_two P vr m i i' index child c s h hc
  have hr := hrec a
  obtain ⟨x0, y0, hk, hxy⟩ : ∃ x0 y0, i.kids = A ++ x0 :: y0 :: B ∧
      (idsOf x).count a + (idsOf y).count a ≤ (idsOf x0).count a + (idsOf y0).count a := by
    rcases hw with ⟨hk, rfl, -⟩ | ⟨hk, rfl, -⟩
    · exact ⟨c, y, hk, Nat.add_le_add_right hr _⟩
    · exact ⟨x, c, hk, Nat.add_le_add_left hr _⟩
  rw [idsOf_succ, idsOf_succ, hid, hk]
  rcases hop with ⟨x', y', hop, hk', -⟩ | ⟨z, hop, hk', -⟩
  · have e : (idsOf x').count a + (idsOf y').count a ≤ (idsOf x).count a + (idsOf y).count a :=
      hop.elim (fun h => have ⟨h1, h2, h3⟩ := Node.adoptFromRight_pool h; count_pool h1 h2 (h3 ▸ List.Sublist.refl _) a)
        (fun h => have ⟨h1, h2, h3⟩ := Node.adoptFromLeft_pool P h; count_pool h1 h2 h3 a)
    rw [hk', List.count_cons, List.count_cons, count_flatMap_two, count_flatMap_two]
    omega
  · have e := absorbRight_count x y z hop a
    rw [hk', List.count_cons, List.count_cons, count_flatMap_two, count_flatMap_one]
    omega

theorem deleteNode_count (P : Params K) (vr : Variant) (m : Nat) (key : K) :
    ∀ (d : Nat) (x x' : Node K V d) (small : Bool), deleteNode P vr m key d x = .ok (x', small) →
      ∀ a, (idsOf x').count a ≤ (idsOf x).count a
  | 0, x, x', small, h, a => by
    show [Leaf.id x'].count a ≤ [Leaf.id x].count a
    rw [Leaf.deleteKey_id P x x' m key small h]
    exact Nat.le_refl _
  | d + 1, p, p', small, h, a => by
    obtain ⟨index, child, child', sm, hc, hrec, hcase⟩ := deleteNode_step P vr m key p p' small h
    have ih := deleteNode_count P vr m key d child child' sm hrec
    rcases hcase with ⟨-, -, rfl⟩ | ⟨-, hreb⟩
    · obtain ⟨A, B, hab, rfl⟩ := getElem?_split _ _ _ hc
      have := ih a
      rw [idsOf_mk, idsOf_succ p, hab, set_pivot rfl, List.count_cons, List.count_cons, count_flatMap_one,
        count_flatMap_one]
      omega
    · exact rebalance_count P vr m p p' index child' child small hreb hc ih a

theorem collapseRoot_count (order nextId : Nat) : ∀ (d : Nat) (r : Node K V d) (t' : Tree K V),
    collapseRoot order nextId d r = .ok t' →
    t'.nextId = nextId ∧ t'.order = order ∧ ∀ a, (idsOf t'.root).count a ≤ (idsOf r).count a
  | 0, r, t', h => by
    cases h
    exact ⟨rfl, rfl, fun a => Nat.le_refl _⟩
  | d + 1, r, t', h => by
    obtain ⟨c, b, hk, rfl⟩ := collapseRoot_inner order nextId r t' h
    refine ⟨rfl, rfl, fun a => ?_⟩
    show (idsOf c).count a ≤ _
    rw [idsOf_succ r, hk, List.flatMap_cons, List.count_cons, List.count_append]
    omega

theorem Tree.delete_idsOk (P : Params K) (key : K) (t t' : Tree K V)
    (hids : IdsOk t) (h : t.delete P {} key = .ok t') : IdsOk t' ∧ t'.order = t.order := by
  obtain ⟨m, root', small, hD, hcase⟩ := Tree.delete_cases P {} t t' key h
  have hc := deleteNode_count P {} m key t.depth t.root root' small hD
  rcases hcase with rfl | hcol
  · exact ⟨hids.of_count_le rfl hc, rfl⟩
  · obtain ⟨hn, ho, hcc⟩ := collapseRoot_count _ _ _ _ _ hcol
    exact ⟨hids.of_count_le hn fun a => Nat.le_trans (hcc a) (hc a), ho⟩

end Gobptree.Conc
