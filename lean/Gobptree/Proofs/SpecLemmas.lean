/-
  Locality lemmas for the specification: an operation on key `k` only concerns
  the stretch of the association list whose keys are not all below / all above `k`.
-/
import Gobptree.Spec
import Gobptree.Proofs.Order

namespace Gobptree

variable {K V : Type} {lt : K → K → Bool}

def AllLt (lt : K → K → Bool) (l : List (K × V)) (k : K) : Prop := ∀ p ∈ l, lt p.1 k = true
def AllGt (lt : K → K → Bool) (l : List (K × V)) (k : K) : Prop := ∀ p ∈ l, lt k p.1 = true

namespace Spec

theorem lookup_append_left (L M : List (K × V)) (k : K) (hL : AllLt lt L k) :
    lookup lt (L ++ M) k = lookup lt M k := by
  unfold lookup
  rw [List.find?_append]
  have : L.find? (fun p => eqv lt k p.1) = none := by
    rw [List.find?_eq_none]
    intro p hp
    have := hL p hp
    simp [eqv, this]
  rw [this]; simp

theorem lookup_append_right (M R : List (K × V)) (k : K) (hR : AllGt lt R k) :
    lookup lt (M ++ R) k = lookup lt M k := by
  unfold lookup
  rw [List.find?_append]
  have : R.find? (fun p => eqv lt k p.1) = none := by
    rw [List.find?_eq_none]
    intro p hp
    have := hR p hp
    simp [eqv, this]
  rw [this]; simp

theorem insert_append_left (h : SWO lt) (L M : List (K × V)) (k : K) (v : V) (hL : AllLt lt L k) :
    insert lt (L ++ M) k v = L ++ insert lt M k v := by
  induction L with
  | nil => rfl
  | cons p L ih =>
    obtain ⟨k', v'⟩ := p
    have h1 : lt k' k = true := hL (k', v') (by simp)
    have h2 : lt k k' = false := h.asymm h1
    have hL' : AllLt lt L k := fun q hq => hL q (by simp [hq])
    simp [insert, h1, h2, ih hL']

theorem insert_append_right (M R : List (K × V)) (k : K) (v : V) (hR : AllGt lt R k) :
    insert lt (M ++ R) k v = insert lt M k v ++ R := by
  induction M with
  | nil =>
    cases R with
    | nil => rfl
    | cons p R =>
      obtain ⟨k', v'⟩ := p
      have h1 : lt k k' = true := hR (k', v') (by simp)
      simp [insert, h1]
  | cons p M ih =>
    obtain ⟨k', v'⟩ := p
    simp only [List.cons_append, insert]
    split
    · rfl
    · split
      · rw [ih]; rfl
      · rfl

theorem erase_append (L M : List (K × V)) (k : K) :
    erase lt (L ++ M) k = erase lt L k ++ erase lt M k := by
  simp [erase]

theorem erase_of_allLt (L : List (K × V)) (k : K) (hL : AllLt lt L k) : erase lt L k = L := by
  unfold erase
  rw [List.filter_eq_self]
  intro p hp
  have := hL p hp
  simp [eqv, this]

theorem erase_of_allGt (L : List (K × V)) (k : K) (hL : AllGt lt L k) : erase lt L k = L := by
  unfold erase
  rw [List.filter_eq_self]
  intro p hp
  have := hL p hp
  simp [eqv, this]

theorem from_append (L M : List (K × V)) (s : K) :
    «from» lt (L ++ M) s = «from» lt L s ++ «from» lt M s := by
  simp [«from»]

theorem from_of_allLt (L : List (K × V)) (s : K) (hL : AllLt lt L s) : «from» lt L s = [] := by
  unfold «from»
  rw [List.filter_eq_nil_iff]
  intro p hp
  simp [hL p hp]

theorem from_of_allGe (L : List (K × V)) (s : K) (hL : ∀ p ∈ L, lt p.1 s = false) : «from» lt L s = L := by
  unfold «from»
  rw [List.filter_eq_self]
  intro p hp
  simp [hL p hp]

end Spec
end Gobptree
