/-
  Reachable configurations of Delete-free program families satisfy the key-order invariant
  (given the per-block results `ResumeKU`).
-/
import Gobptree.Proofs.CKStep

namespace Gobptree.Conc
open Gobptree

variable {K V : Type}

structure KCInv (lt : K → K → Bool) (c : Config K V) : Prop where
  cinv  : CInv c
  kinv  : KInv lt c
  kp    : KParams lt c.P
  /-- every thread satisfies `NoDelThread`, spelled out -/
  nodel : ∀ th ∈ c.threads, isDelPark th.park = false ∧ ∀ op ∈ th.prog, op.isDel = false

theorem init_kcinv (lt : K → K → Bool) (P : Params K) (tree : Tree K V) (progs : List (List (COp K V)))
    (hkp : KParams lt P) (ht : TreeOk none tree) (hord : OrdTree lt tree) (ho : tree.order = P.order)
    (hp : PadOk P) (hd : Disciplined progs) (hnd : NoDelete progs) :
    KCInv lt (Config.init P tree progs) := by
  refine ⟨init_cinv P tree progs ht ho hp hd (Or.inr hnd), ⟨hord, ?_⟩, hkp, ?_⟩
  · intro th hth
    obtain ⟨p, _, rfl⟩ := mem_init_threads hth
    trivial
  · intro th hth
    obtain ⟨p, hp, rfl⟩ := mem_init_threads hth
    exact ⟨rfl, hnd p hp⟩

theorem step_kcinv (RU : ResumeKU K V) (lt : K → K → Bool) (c c' : Config K V) (t : Nat)
    (hstep : c.step t = some c') (h : KCInv lt c) : KCInv lt c' := by
  have hnd : ∀ th ∈ c.threads, isDelPark th.park = false := fun th hth => (h.nodel th hth).1
  obtain ⟨th, r, F⟩ := step_cstep hstep h.cinv
  exact ⟨F.inv', step_kinv_nodel RU lt c c' t hstep h.cinv h.kinv h.kp hnd, by rw [F.P]; exact h.kp,
    F.toStepped.nodel_all h.nodel⟩

theorem reachable_kcinv (RU : ResumeKU K V) (lt : K → K → Bool) (P : Params K) (tree : Tree K V)
    (progs : List (List (COp K V)))
    (hkp : KParams lt P) (ht : TreeOk none tree) (hord : OrdTree lt tree) (ho : tree.order = P.order)
    (hp : PadOk P) (hd : Disciplined progs) (hnd : NoDelete progs)
    (c : Config K V) (hr : Reachable (Config.init P tree progs) c) : KCInv lt c := by
  induction hr with
  | refl => exact init_kcinv lt P tree progs hkp ht hord ho hp hd hnd
  | @step c1 c2 t _ hs ih => exact step_kcinv RU lt c1 c2 t hs ih

end Gobptree.Conc
