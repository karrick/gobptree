/-
  Whole-scan guarantee: the ghost invariant of the session's thread (`ThInv`) through one
  scheduler step — a step of the thread itself (which fuses several calls: `loop_thInv`,
  `step_own_thInv`) and a step of any other thread (`step_other_thInv`: the SAME ghost bound
  stays valid, the log facts are untouched).
-/
import Gobptree.Proofs.CScanSessionOps
import Gobptree.Proofs.CFinal2

namespace Gobptree.Conc
open Gobptree

variable {K V : Type}

theorem LogOk.mono {X : SCtx K V} {rs : List (Nat × Res K V)} (h : LogOk X rs)
    (Sd' : Nat → K → V → Prop) (KS' : K → Prop)
    (hsd : ∀ y k v, (y, Res.pair k v) ∈ rs → (X.a, Res.ok) ∈ rs → X.Sd y k v → Sd' y k v)
    (hks : (X.a, Res.ok) ∈ rs → ∀ k, KS' k → X.KS k) :
    LogOk { X with Sd := Sd', KS := KS' } rs where
  s0 := h.s0
  s1 := fun y k v hy hs => ⟨(h.s1 y k v hy hs).1, hsd y k v hy (h.s1 y k v hy hs).1 (h.s1 y k v hy hs).2⟩
  s2a := h.s2a
  s2b := h.s2b
  s2c := h.s2c
  s3 := fun he hf k hk => h.s3 he hf k (hks (h.s0 _ hf he.inSess) k hk)

theorem Open.mono {X : SCtx K V} {T : Tree K V} {hb : Bool} {cur : Option (Option Nat × Int)} {exh : Bool}
    {rs : List (Nat × Res K V)} {n : Nat} {b : Bound K} {leaf : Nat} {i : Int}
    (h : Open X T hb cur exh rs n b leaf i) (Sd' : Nat → K → V → Prop) (KS' : K → Prop)
    (hks : (X.a, Res.ok) ∈ rs → ∀ k, KS' k → X.KS k) :
    Open { X with Sd := Sd', KS := KS' } T hb cur exh rs n b leaf i :=
  ⟨h.an, h.nsret, h.hcur, h.hexh, h.cok, h.pos, h.fresh, h.ord,
    fun he hn k hk => h.cov he hn k (hks h.nsret k hk)⟩

theorem Open.retree {X : SCtx K V} {T T' : Tree K V} {hb : Bool} {cur : Option (Option Nat × Int)} {exh : Bool}
    {rs : List (Nat × Res K V)} {n : Nat} {b : Bound K} {leaf : Nat} {i : Int}
    (h : Open X T hb cur exh rs n b leaf i) (hcok : CursorOk T' hb (some (some leaf, i)))
    (hpos : CurPosW X.lt T' b leaf i) : Open X T' hb cur exh rs n b leaf i :=
  ⟨h.an, h.nsret, h.hcur, h.hexh, hcok, hpos, h.fresh, h.ord, h.cov⟩

theorem PkSess.map {X : SCtx K V} {T T' : Tree K V} {cur : Option (Option Nat × Int)} {exh : Bool}
    {rs : List (Nat × Res K V)} {p : Park K V} {pc : Nat} (h : PkSess X T cur exh rs p pc)
    (Sd' : Nat → K → V → Prop) (KS' : K → Prop)
    (f : ∀ n b leaf i, Open X T (isHop p) cur exh rs n b leaf i →
      Open { X with Sd := Sd', KS := KS' } T' (isHop p) cur exh rs n b leaf i) :
    PkSess { X with Sd := Sd', KS := KS' } T' cur exh rs p pc := by
  refine ⟨h.1, fun h1 h2 => ?_⟩
  rcases h.2 h1 h2 with ⟨hp, hz, sess⟩ | ⟨l, leaf, nx, hp, hs, b, i, ho⟩
  · refine Or.inl ⟨hp, hz, ?_⟩
    rcases sess with ⟨b, leaf, i, ho⟩ | hex
    · subst hp
      exact Or.inl ⟨b, leaf, i, f _ _ _ _ ho⟩
    · exact Or.inr hex
  · subst hp
    exact Or.inr ⟨l, leaf, nx, rfl, hs, b, i, f _ _ _ _ ho⟩

theorem ThInv.map {X : SCtx K V} {T T' : Tree K V} {th : Thread K V} {rs : List (Nat × Res K V)}
    (h : ThInv X T th rs) (Sd' : Nat → K → V → Prop) (KS' : K → Prop)
    (hlog : LogOk X rs → LogOk { X with Sd := Sd', KS := KS' } rs)
    (f : ∀ n b leaf i, Open X T (isHop th.park) th.cursor th.exhausted rs n b leaf i →
      Open { X with Sd := Sd', KS := KS' } T' (isHop th.park) th.cursor th.exhausted rs n b leaf i) :
    ThInv { X with Sd := Sd', KS := KS' } T' th rs := by
  obtain ⟨h1, h2, h3⟩ := h
  refine ⟨h1, hlog h2, ?_⟩
  cases hp : th.park with
  | start => rw [hp] at h3; exact h3
  | finished => trivial
  | want l k => rw [hp] at h3 f; exact ⟨h3.1, h3.2.map Sd' KS' f⟩
  | yielded k => rw [hp] at h3 f; exact ⟨h3.1, h3.2.map Sd' KS' f⟩

theorem ThInv.mono {X : SCtx K V} {T : Tree K V} {th : Thread K V} {rs : List (Nat × Res K V)}
    (h : ThInv X T th rs) (Sd' : Nat → K → V → Prop) (KS' : K → Prop)
    (hsd : ∀ y k v, (y, Res.pair k v) ∈ rs → (X.a, Res.ok) ∈ rs → X.Sd y k v → Sd' y k v)
    (hks : (X.a, Res.ok) ∈ rs → ∀ k, KS' k → X.KS k) :
    ThInv { X with Sd := Sd', KS := KS' } T th rs :=
  h.map Sd' KS' (fun l => l.mono Sd' KS' hsd hks) (fun _ _ _ _ ho => ho.mono Sd' KS' hks)

theorem rets_runThread_other {j t : Nat} (hne : t ≠ j) (P : Params K) (th : Thread K V) (s : St K V) :
    rets j (runThread P t th s).2.1.evs = rets j s.evs :=
  runThread_induct P t th s (fun s' _ _ => rets j s'.evs = rets j s.evs) (fun r => rets j r.2.1.evs = rets j s.evs)
    (fun _ _ _ h => h) (fun _ _ h => (rets_cons_ret_ne hne _ _ _).trans h)
    (fun _ _ _ h _ => (rets_cons_ret_ne hne _ _ _).trans h)
    (fun s' r pc _ h _ => (rets_startOp ..).trans ((rets_cons_ret_ne hne pc r s'.evs).trans h))
    (fun _ => rfl) (fun _ _ => rfl) (fun _ _ _ => rets_startOp ..) (fun _ _ => rets_resume ..)

theorem step_other_thInv {X : SCtx K V} (c c' : Config K V) (t : Nat) (hne : X.j ≠ t)
    (hstep : c.step t = some c') (hinv : KFInv X.lt c) {th : Thread K V} (hth : c.threads[X.j]? = some th)
    (h : ThInv X c.tree th (rets X.j c.log)) :
    c'.threads[X.j]? = some th ∧ ThInv X c'.tree th (rets X.j c'.log) := by
  obtain ⟨tht, r, F, h'⟩ := step_kfinv_routes kblocks_ok hstep hinv
  have hthr : c'.threads[X.j]? = some th := (F.other hne).trans hth
  have hlog : rets X.j c'.log = rets X.j c.log := by
    rw [F.log, F.run, rets_runThread_other (Ne.symm hne)]; rfl
  have hcok' := (h'.cinv.s.threads th (List.mem_of_getElem? hthr)).2
  have topen : ∀ n b leaf i, Open X c.tree (isHop th.park) th.cursor th.exhausted (rets X.j c.log) n b leaf i →
      Open X c'.tree (isHop th.park) th.cursor th.exhausted (rets X.j c.log) n b leaf i := by
    intro n b leaf i ho
    refine ho.retree ?_ ((F.keptK hne hth).curPosW (hinv.cinv.s.cfg th (List.mem_of_getElem? hth)) ho.hcur ho.pos)
    rw [ho.hcur] at hcok'
    exact hcok'
  rw [hlog]
  exact ⟨hthr, h.map X.Sd X.KS id topen⟩

theorem loop_thInv {X : SCtx K V} {T : Tree K V} {hole : Option Nat} (E : SEnv X T hole)
    (th : Thread K V) (hprog : th.prog = X.prog) :
    ∀ (fuel : Nat) (s : St K V) (fl : Flow K V) (pc : Nat), SLoopI X T s fl pc →
      ThInv X T (threadLoop X.j th fuel s fl pc).1 (rets X.j (threadLoop X.j th fuel s fl pc).2.1.evs) := by
  refine threadLoop_induct X.j th (SLoopI X T) (fun r => ThInv X T r.1 (rets X.j r.2.1.evs)) ?_ ?_ ?_ ?_
  · intro s p pc hi
    obtain ⟨_, hlive, hr1, hlog, hpk⟩ := hi
    cases p with
    | start => exact hlive.elim
    | finished => exact hlive.elim
    | want l k => exact ⟨hprog, hlog, hr1, hpk⟩
    | yielded k => exact ⟨hprog, hlog, hr1, hpk⟩
  · intro s pc hi
    refine ⟨hprog, ?_, trivial⟩
    show LogOk X (rets X.j (Ev.note X.j (.ret pc .panic) :: s.evs))
    rw [rets_cons_ret]
    exact hi.2.2.cons_neutral hi.2.1 ⟨fun _ _ e => (by cases e), fun e => (by cases e)⟩
  · intro s r pc hi
    refine ⟨hprog, ?_, trivial⟩
    show LogOk X (rets X.j (Ev.note X.j (.ret pc r) :: s.evs))
    rw [rets_cons_ret]
    exact hi.2.log
  · intro s r pc op hi hop
    rw [hprog] at hop
    refine startOp_sloopI E _ (pc + 1) op hi.1 ?_ hop
    have e : rets X.j ((s.note X.j (.ret pc r)).note X.j (.inv (pc + 1))).evs = (pc, r) :: rets X.j s.evs :=
      rets_cons_ret X.j pc r s.evs
    rw [e]
    exact hi.2

theorem step_own_thInv {X : SCtx K V} (c c' : Config K V) (hstep : c.step X.j = some c')
    (hinv : KFInv X.lt c) (hns : X.prog[X.a]? = some (.ns X.start))
    (hnfp : ∀ y, X.a < y → (∀ x, X.a < x → x < y → X.prog[x]? = some .pause) → X.prog[y]? ≠ some .pair)
    (hks : ∀ k, X.KS k → X.lt k X.start = false ∧ ∃ v, (k, v) ∈ c'.tree.abs)
    (hsd : ∀ y k v, (k, v) ∈ c'.tree.abs → X.Sd y k v)
    {th : Thread K V} (hth : c.threads[X.j]? = some th) (h : ThInv X c.tree th (rets X.j c.log)) :
    ∃ th', c'.threads[X.j]? = some th' ∧ ThInv X c'.tree th' (rets X.j c'.log) := by
  obtain ⟨th1, r, F, h'⟩ := step_kfinv_routes kblocks_ok hstep hinv
  cases F.the hth
  have E : SEnv X c'.tree (holeOf c'.threads) := ⟨hinv.kp.swo, h'.cinv.s.tree, h'.kinv.ord, hns, hnfp, hks, hsd⟩
  obtain ⟨hprog, hlogok, hpark⟩ := h
  refine ⟨r.1, F.own, ?_⟩
  rw [F.log, F.run]
  -- the loop invariant `SLoopI` speaks of the state the first stretch ends in: `runThread_cases`, then `loop_thInv`
  refine runThread_cases c.P X.j th (stepSt c X.j th) (fun r => ThInv X c'.tree r.1 (rets X.j r.2.1.evs))
    (fun hp => absurd hp F.nf) (fun _ _ => ⟨hprog, hlogok, trivial⟩) ?_ ?_
  · intro op hp hop
    rw [hp] at hpark
    rw [hprog] at hop
    refine loop_thInv E th hprog _ _ _ _ (startOp_sloopI E _ 0 op (F.tree_start hp).symm ?_ hop)
    exact ⟨fun i r hm => absurd hm (hpark i r), hlogok, fun h => absurd h (Nat.not_lt_zero _)⟩
  · intro k hk
    have hp := Park.kont?_eq_some.1 hk
    obtain ⟨hT, hcok⟩ := F.toCStep.resumed_cursorOk hk
    have hpk : (∀ i r, (i, r) ∈ rets X.j c.log → i < th.pc) ∧
        PkSess X c.tree th.cursor th.exhausted (rets X.j c.log) th.park th.pc := by
      rcases hp with hp | ⟨l, hp⟩ <;> rw [hp] at hpark ⊢ <;> exact hpark
    exact loop_thInv E th hprog _ _ _ _
      (resume_sloopI E c.P hinv.kp (stepSt c X.j th) k th.park th.pc hp.symm hpk.1 hlogok hpk.2 hT (F.ready hk).2.kok
        (kpos_of_park hinv.kinv hth hk) hcok)

end Gobptree.Conc
