/-
  The two formulations of the shape invariant agree on a tree at rest.  The concurrent layer has
  the flat view: `TreeOk none` (all node identities distinct, per-node occupancy, leaf chain) and
  the ordering invariant `OrdTree`; the sequential layer has the recursive
  `TreeInv lt t = TreeWF lt t ∧ Linked t.depth none t.root` and `IdsInv t`.
  The former give the latter, hence every sequential theorem stated for `TreeInv`/`IdsInv`
  applies to the tree left behind by ANY concurrent execution that has come to rest.
-/
import Gobptree.Proofs.CQuiescent
import Gobptree.Proofs.CKPar
import Gobptree.Proofs.CCurSorted
import Gobptree.Props.C02

namespace Gobptree.Conc
open Gobptree

variable {K V : Type} {lt : K → K → Bool}

theorem leafIds_eq_flat {d : Nat} (n : Node K V d) :
    leafIds n = (flatLeaves (flat n)).map Prod.fst := by
  rw [flatLeaves_flat, List.map_map]
  rfl

theorem idsInv_of_idsOk {t : Tree K V} (h : IdsOk t) : IdsInv t := by
  have hsub : (leafIds t.root).Sublist t.ids := by
    rw [leafIds_eq_flat]
    exact (List.filter_sublist (l := flat t.root)).map Prod.fst
  exact ⟨h.1.sublist hsub, fun id hid => h.2 id (hsub.subset hid)⟩

theorem chainList_of_chain : ∀ (ls : List (Leaf K V)), Chain (ls.map leafEntry) → ChainList ls none
  | [], _ => trivial
  | [_], h => h
  | _ :: l2 :: rest, h => ⟨h.1, chainList_of_chain (l2 :: rest) h.2⟩

theorem leaves_head : ∀ {d : Nat} (n : Node K V d), ParN d n →
    ∃ l rest, Node.leaves n = l :: rest ∧ l.id = Node.firstId n := by
  intro d
  induction d with
  | zero => intro (n : Leaf K V) _; exact ⟨n, [], rfl, rfl⟩
  | succ d ih =>
    intro (n : Inner K (Node K V d)) hp
    obtain ⟨hlen, hpos, hk⟩ := hp
    obtain ⟨id, runts, kids⟩ := n
    simp only at hlen hpos hk
    cases kids with
    | nil => simp only [List.length_nil] at hlen; omega
    | cons c cs =>
      obtain ⟨l, rest, hl, hid⟩ := ih c (hk c List.mem_cons_self)
      refine ⟨l, rest ++ cs.flatMap (Node.leaves (d := d)), ?_, ?_⟩
      · show (c :: cs).flatMap (Node.leaves (d := d)) = _
        rw [List.flatMap_cons, hl]
        rfl
      · rw [hid]; rfl

theorem linkedKids_of_chainList {d : Nat}
    (ih : ∀ (c : Node K V d) (after : Option Nat), ParN d c → ChainList (Node.leaves c) after → Linked d after c) :
    ∀ (kids : List (Node K V d)) (after : Option Nat), (∀ c ∈ kids, ParN d c) →
      ChainList (kids.flatMap (Node.leaves (d := d))) after →
      LinkedKids (Linked d) (Node.firstId (d := d)) after kids := by
  intro kids
  induction kids with
  | nil => intro _ _ _; trivial
  | cons c cs ihk =>
    intro after hp h
    rw [List.flatMap_cons] at h
    cases cs with
    | nil =>
      rw [List.flatMap_nil, List.append_nil] at h
      exact ⟨ih c after (hp c List.mem_cons_self) h, trivial⟩
    | cons c2 cs' =>
      obtain ⟨l2, rest2, hl2, hid2⟩ := leaves_head c2 (hp c2 (by simp))
      have hf : (c2 :: cs').flatMap (Node.leaves (d := d)) = l2 :: (rest2 ++ cs'.flatMap (Node.leaves (d := d))) := by
        rw [List.flatMap_cons, hl2]; rfl
      have h' := h
      rw [hf] at h'
      obtain ⟨h1, h2⟩ := (ChainList_append _ _ _ _).1 h'
      refine ⟨?_, ihk after (fun c hc => hp c (List.mem_cons_of_mem _ hc)) (by rw [hf]; exact h2)⟩
      show Linked d (some (Node.firstId c2)) c
      rw [← hid2]
      exact ih c _ (hp c List.mem_cons_self) h1

theorem linked_of_chainList : ∀ {d : Nat} (n : Node K V d) (after : Option Nat), ParN d n →
    ChainList (Node.leaves n) after → Linked d after n := by
  intro d
  induction d with
  | zero => intro (n : Leaf K V) after _ h'; exact h'
  | succ d ih =>
    intro (n : Inner K (Node K V d)) after hp h
    exact linkedKids_of_chainList ih n.kids after hp.2.2 h

theorem linked_of_chainOk {t : Tree K V} (hpar : ParTree t) (h : ChainOk t) : Linked t.depth none t.root := by
  apply linked_of_chainList _ _ hpar
  apply chainList_of_chain
  have h' : Chain (flatLeaves (flat t.root)) := h
  rw [flatLeaves_flat] at h'
  exact h'

theorem wf_leaf {o m : Nat} {lo hi : Option K} (l : Leaf K V) (hord : Ord lt 0 lo hi l)
    (hocc : NodeOcc o m (shallow (d := 0) l)) : WF lt o 0 m lo hi l :=
  ⟨hord.1, (par_leaf l).1 hocc.par, hocc.1, hocc.2.1, hord.2⟩

theorem wf_inner {o m d : Nat} {lo hi : Option K} (n : Inner K (Node K V d)) (hord : Ord lt (d + 1) lo hi n)
    (hocc : NodeOcc o m (shallow (d := d + 1) n))
    (hk : ∀ c ∈ n.kids, ∀ a b, Ord lt d a b c → WF lt o d (o / 2) a b c) : WF lt o (d + 1) m lo hi n := by
  obtain ⟨hlen, hone⟩ := (par_inner n).1 hocc.par
  refine ⟨hlen, hocc.1, hocc.2.1, hone, hord.1, ?_⟩
  exact Kids_imp_mem hi _ (fun e he a b hr => hk e.2 (List.of_mem_zip he).2 a b hr) hord.2

theorem wf_of_flat (o : Nat) : ∀ (d : Nat) (lo hi : Option K) (n : Node K V d),
    Ord lt d lo hi n → (∀ p ∈ flat n, NodeOcc o (o / 2) p.2) → WF lt o d (o / 2) lo hi n := by
  intro d
  induction d with
  | zero =>
    intro lo hi (n : Leaf K V) hord hocc
    exact wf_leaf n hord (hocc _ (self_mem_flat (d := 0) n))
  | succ d ih =>
    intro lo hi (n : Inner K (Node K V d)) hord hocc
    refine wf_inner n hord (hocc _ (self_mem_flat (d := d + 1) n)) ?_
    intro c hc a b ho
    refine ih a b c ho (fun p hp => hocc p ?_)
    rw [flat_inner]
    exact List.mem_cons_of_mem _ (List.mem_flatMap.2 ⟨c, hc, hp⟩)

theorem minOf_root (o r h : Nat) : minOf o r none r h = rootMin h := by
  unfold minOf
  rw [if_pos rfl]
  cases h <;> rfl

theorem treeWF_of_concurrent {t : Tree K V} (hok : TreeOk none t) (hord : OrdTree lt t) : TreeWF lt t := by
  obtain ⟨order, depth, root, nextId⟩ := t
  have hocc := hok.occ
  have hnd := hok.ids.1
  unfold OrdTree at hord
  unfold TreeWF
  simp only at hord ⊢
  have hself := hocc _ (self_mem_flat root)
  have hrid : (Tree.mk order depth root nextId).rootId = Node.id root := rfl
  simp only [hrid, shallow_height, minOf_root] at hself
  cases depth with
  | zero => exact wf_leaf (root : Leaf K V) hord hself
  | succ d =>
    refine wf_inner (root : Inner K (Node K V d)) hord hself ?_
    intro c hc a b ho
    apply wf_of_flat order d a b c ho
    intro p hp
    have hmem : p ∈ flat (d := d + 1) root := by
      rw [flat_succ]
      exact List.mem_cons_of_mem _ (List.mem_flatMap.2 ⟨c, hc, hp⟩)
    have hne : p.1 ≠ Node.id (d := d + 1) root := by
      have hn : ((root : Inner K (Node K V d)).id ::
          (root : Inner K (Node K V d)).kids.flatMap (idsOf (d := d))).Nodup :=
        (idsOf_succ (d := d) (root : Inner K (Node K V d))) ▸ (show (idsOf (d := d + 1) root).Nodup from hnd)
      have hnot := (List.nodup_cons.1 hn).1
      intro e
      apply hnot
      rw [List.mem_flatMap]
      refine ⟨c, hc, ?_⟩
      have : p.1 ∈ idsOf c := List.mem_map.2 ⟨p, hp, rfl⟩
      rw [e] at this
      exact this
    have := hocc p hmem
    rw [hrid, minOf_none_nonroot hne] at this
    exact this

set_option linter.unusedVariables false in
/-- the concurrent invariants of a tree at rest give the sequential invariant
    (`h : SWO lt` is not needed: the ordering half is carried over verbatim) -/
theorem treeInv_of_concurrent (lt : K → K → Bool) (h : SWO lt) (t : Tree K V)
    (hok : TreeOk none t) (hord : OrdTree lt t) : TreeInv lt t ∧ IdsInv t :=
  ⟨⟨treeWF_of_concurrent hok hord, linked_of_chainOk (parTree_of_treeOk hok) hok.chain⟩,
    idsInv_of_idsOk hok.ids⟩

theorem paramsOk_of_concurrent (lt : K → K → Bool) (P : Params K) (tree : Tree K V) (hkp : KParams lt P)
    (ht : TreeOk none tree) (ho : tree.order = P.order) (hp : PadOk P) : ParamsOk lt P :=
  ⟨hkp.lt, hkp.swo, hp, by rw [← ho]; exact ht.order2, by rw [← ho]; exact ht.even⟩

theorem treeInv_after_concurrent (lt : K → K → Bool) (P : Params K) (tree : Tree K V) (progs : List (List (COp K V)))
    (hkp : KParams lt P) (ht : TreeOk none tree) (hord : OrdTree lt tree) (hsep : SepTree lt tree)
    (ho : tree.order = P.order) (hp : PadOk P) (hd : Disciplined progs) (hdel : 4 ≤ tree.order ∨ NoDelete progs)
    (c : Config K V) (hr : Reachable (Config.init P tree progs) c) (hq : AtRest c) :
    TreeInv lt c.tree ∧ IdsInv c.tree ∧ c.tree.order = P.order :=
  let r := reachable_rest_tree_ok lt P tree progs hkp ht hord hsep ho hp hd hdel c hr hq
  let b := treeInv_of_concurrent lt hkp.swo c.tree r.1 r.2.1
  ⟨b.1, b.2, r.2.2.2⟩

theorem scan_exact_after_concurrent (lt : K → K → Bool) (P : Params K) (tree : Tree K V)
    (progs : List (List (COp K V))) (hpo : ParamsOk lt P)
    (hkp : KParams lt P) (ht : TreeOk none tree) (hord : OrdTree lt tree) (hsep : SepTree lt tree)
    (ho : tree.order = P.order) (hp : PadOk P) (hd : Disciplined progs) (hdel : 4 ≤ tree.order ∨ NoDelete progs)
    (c : Config K V) (hr : Reachable (Config.init P tree progs) c) (hq : AtRest c) (s : K) :
    ∃ fuel, c.tree.scanFrom P {} s none fuel = .ok (Spec.from lt c.tree.abs s, true) :=
  let r := treeInv_after_concurrent lt P tree progs hkp ht hord hsep ho hp hd hdel c hr hq
  C02_scan_exact_inv hpo c.tree r.2.2 r.1 r.2.1 s

theorem scan_exact_after_concurrent' (lt : K → K → Bool) (P : Params K) (tree : Tree K V)
    (progs : List (List (COp K V)))
    (hkp : KParams lt P) (ht : TreeOk none tree) (hord : OrdTree lt tree) (hsep : SepTree lt tree)
    (ho : tree.order = P.order) (hp : PadOk P) (hd : Disciplined progs) (hdel : 4 ≤ tree.order ∨ NoDelete progs)
    (c : Config K V) (hr : Reachable (Config.init P tree progs) c) (hq : AtRest c) (s : K) :
    ∃ fuel, c.tree.scanFrom P {} s none fuel = .ok (Spec.from lt c.tree.abs s, true) :=
  scan_exact_after_concurrent lt P tree progs (paramsOk_of_concurrent lt P tree hkp ht ho hp)
    hkp ht hord hsep ho hp hd hdel c hr hq s

/-- the instance for a fresh tree (the hypotheses on the initial tree are satisfiable for every
    even order ≥ 2): ANY concurrent execution of disciplined programs on `Tree.new`, once at rest,
    scans exactly -/
theorem scan_exact_after_concurrent_fresh (lt : K → K → Bool) (P : Params K)
    (progs : List (List (COp K V))) (hkp : KParams lt P) (h2 : 2 ≤ P.order) (he : P.order % 2 = 0)
    (hp : PadOk P) (hd : Disciplined progs) (hdel : 4 ≤ P.order ∨ NoDelete progs)
    (c : Config K V) (hr : Reachable (Config.init P (Tree.new P.order) progs) c) (hq : AtRest c) (s : K) :
    ∃ fuel, c.tree.scanFrom P {} s none fuel = .ok (Spec.from lt c.tree.abs s, true) :=
  scan_exact_after_concurrent' lt P (Tree.new P.order) progs hkp (new_treeOk P.order h2 he)
    (new_ordTree lt P.order) (new_sepTree lt P.order) rfl hp hd hdel c hr hq s

end Gobptree.Conc

#print axioms Gobptree.Conc.treeInv_of_concurrent
#print axioms Gobptree.Conc.treeInv_after_concurrent
#print axioms Gobptree.Conc.scan_exact_after_concurrent
#print axioms Gobptree.Conc.scan_exact_after_concurrent'
#print axioms Gobptree.Conc.scan_exact_after_concurrent_fresh
