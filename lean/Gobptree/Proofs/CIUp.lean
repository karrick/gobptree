/-
  Separator-invariant block lemma for every continuation except Delete's (`resume_isep_U`).  The
  blocks speak of the root node (`ISepN`); the flat view `ISepW` is met here, at the two ends.
-/
import Gobptree.Proofs.CIUpRoot
import Gobptree.Proofs.CSUp
import Gobptree.Proofs.CIUpChild

namespace Gobptree.Conc
open Gobptree

variable {K V : Type} {lt : K → K → Bool}

theorem resume_isep_U : ResumeIU K V := by
  intro lt P t s k H hole Wit hnd hK hpre hk hc hkp hcov hord hpos hW hI
  have hok := hpre.tree
  -- the final tree is sound by the structural layer, so both ends can be read at the root node
  have hok' := (resume_post_U P t s k H hole hnd hpre hk hc hkp hcov).1.tree
  have hN := (isepW_iff_N _ hok.ids.1 (parTree_of_treeOk hok)).1 hI
  rw [isepW_iff_N _ hok'.ids.1 (parTree_of_treeOk hok')]
  obtain ⟨hheld, hlock, _⟩ := hcov
  have hN' : (∀ r x, ¬ kontWit k r x) → ISepN lt Wit s.tree.depth s.tree.root :=
    fun h => ISepN.mono (fun r _ x hw => hw.elim id (fun hw => absurd hw (h r x))) hN
  cases k with
  | roTree sc key => exact isepN_unchanged Wit (.roTree sc key) s.tree _ _ (fun _ _ h => h) rfl hN
  | roNode sc key hold want =>
    exact isepN_unchanged Wit (.roNode sc key hold want) s.tree _ _ (fun _ _ h => h)
      (roArrive_tree P t (s.acq t (.node want)) sc key hold want) hN
  | upTree key f y => exact isepN_unchanged Wit (.upTree key f y) s.tree _ _ (fun _ _ h => h) rfl hN
  | upRoot key f y r =>
    exact upRootArrive_isepN P hK t (s.acq t (.node r)) key f y r H hole ⟨hok, hpre.order, hpre.pad⟩ hord hk
      (hheld _ (by simp [kontHeld])) (hlock _ rfl) Wit (hN' fun _ _ h => h)
  | upRootSib key f y root sib =>
    obtain ⟨sh, hl, -⟩ := hk.2.1
    exact upContinue_isepN P hK hpre.pad t (((s.acq t (.node sib)).rel t (.node root)).rel t .tree) key f y sib
      (hole := hole) hok hl Wit (hN' fun _ _ h => h)
  | upChild key f y parent index child =>
    exact upChildArrive_isepN P hK t (s.acq t (.node child)) key f y parent index child H hole
      ⟨hok, hpre.order, hpre.pad⟩ hord hk hpos (hheld _ (by simp [kontHeld])) (hlock _ rfl) Wit hW hN
  | upSib key f y parent child sib =>
    obtain ⟨sh, hl, -⟩ := hk.2.1
    exact upContinue_isepN P hK hpre.pad t (((s.acq t (.node sib)).rel t (.node child)).rel t (.node parent)) key f y sib
      (hole := hole) hok hl Wit (hN' fun _ _ h => h)
  | upCallback key f leaf arg => exact upCallback_isepN P hpre.pad t s key f leaf arg hok hk Wit (hN' fun _ _ h => h)
  | delTree key => cases hnd
  | delRoot key r => cases hnd
  | delLeft key frames node index left root => cases hnd
  | delChild key frames node index left child root => cases hnd
  | delRight key rest fr right root => cases hnd
  | hop cur next => exact isepN_unchanged Wit (.hop cur next) s.tree _ _ (fun _ _ h => h) rfl hN
  | paused => exact isepN_unchanged Wit .paused s.tree _ _ (fun _ _ h => h) rfl hN

end Gobptree.Conc

#print axioms Gobptree.Conc.resume_isep_U
