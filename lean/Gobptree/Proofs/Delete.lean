/-
  Correctness of Delete: `deleteNode` performs `Spec.erase` on the pairs beneath
  the node and keeps it well formed up to its own occupancy; `Tree.delete`
  (with the root collapse) preserves the tree invariant.
-/
import Gobptree.Proofs.Rebalance
import Gobptree.Proofs.TreeUpsert

namespace Gobptree

variable {K V : Type} {lt : K → K → Bool}

theorem deleteNode_succ_eq (P : Params K) (vr : Variant) (minSize : Nat) (key : K) (d : Nat)
    (i : Inner K (Node K V d)) (index : Nat) (hindex : searchLE P.lt key i.runts = index)
    (child child' : Node K V d) (small : Bool)
    (hchild : i.kids[index]? = some child)
    (hrec : deleteNode P vr minSize key d child = .ok (child', small)) :
    deleteNode P vr minSize key (d + 1) i =
      if small = false then .ok ((Inner.mk i.id i.runts (i.kids.set index child') : Inner K (Node K V d)), false)
      else rebalance P vr minSize i index child' := by
  subst hindex
  simp only [deleteNode, hchild, hrec, bind, Except.bind, pure, Except.pure]
  cases small <;> rfl

/-- Delete below the root.  An inner node must hold two entries (`d ≠ 0 → 2 ≤ count`): an
    under-full leftmost child is repaired through its right sibling, so there must be one. -/
theorem deleteNode_ok (h : SWO lt) (P : Params K) (hP : P.lt = lt) (hpad : ∀ k, P.pad (some k) ≠ none)
    (ho : 4 ≤ P.order) (hev : P.order % 2 = 0) (vr : Variant) (hvr : vr.noRefreshLeft = false) (key : K) :
    ∀ (d : Nat) (n : Node K V d) (m : Nat) (lo hi : Option K) (after : Option Nat),
      WF lt P.order d m lo hi n → (d ≠ 0 → 2 ≤ Node.count n) → Linked d after n →
      ∃ (n' : Node K V d) (small : Bool),
        deleteNode P vr (P.order / 2) key d n = .ok (n', small) ∧
        WF lt P.order d 0 lo hi n' ∧
        (small = true → Node.count n' < P.order / 2) ∧
        (small = false → Node.count n' = Node.count n ∨ P.order / 2 ≤ Node.count n') ∧
        Node.count n ≤ Node.count n' + 1 ∧ Node.count n' ≤ Node.count n ∧
        Node.pairs n' = Spec.erase lt (Node.pairs n) key ∧
        Linked d after n' ∧ Node.firstId n' = Node.firstId n := by
  have h2 : 2 ≤ P.order / 2 := (Nat.le_div_iff_mul_le (Nat.succ_pos 1)).mpr ho
  intro d
  induction d with
  | zero =>
    intro n m lo hi after hw _ hL
    obtain ⟨a, b, c, e, fb⟩ := hw
    obtain ⟨l', small, heq, hs1, hs2, hid, hnext, hsorted, hlen', hzip, hle1, hle2, hmem⟩ :=
      Leaf.deleteKey_ok h P hP (n : Leaf K V) (P.order / 2) key a b
    refine ⟨l', small, heq, ?_, hs1, ?_, hle2, hle1, hzip, ?_, hid⟩
    · exact ⟨hsorted, hlen', Nat.le_trans hle1 c, Nat.zero_le _, fun k hk => fb k (hmem k hk)⟩
    · intro hsf
      cases hs2 hsf with
      | inl e' => left; rw [e']
      | inr e' => right; exact e'
    · show l'.next = after; rw [hnext]; exact hL
  | succ d ih =>
    intro p m lo hi after hw hc2 hL
    obtain ⟨rA, rB, k, cA, cB, c, R⟩ := route_facts h key p hw
    obtain ⟨pid, runts, kids⟩ := p
    obtain ⟨-, hle, -, -, hlo, -⟩ := hw
    obtain rfl : runts = rA ++ k :: rB := R.runts
    obtain rfl : kids = cA ++ c :: cB := R.kids
    subst hP
    obtain ⟨hLA, hLc, hLB⟩ : LinkedKids (Linked d) (Node.firstId (d := d)) (some (Node.firstId c)) cA ∧ _ :=
      (LinkedKids_append ..).mp hL
    have hccnt := WF_count_le R.child
    obtain ⟨c', small, hrec, hWc', hs1, hs2, hcnt1, hcnt2, hpc', hLc', hfc'⟩ :=
      ih c (P.order / 2) (some k) _ _ R.child (fun _ => Nat.le_trans h2 hccnt.2) hLc
    have hstep := deleteNode_succ_eq P vr (P.order / 2) key d (Inner.mk pid (rA ++ k :: rB) (cA ++ c :: cB))
      rA.length R.index c c' small (getElem?_pivot R.lenA c) hrec
    have hbase : (cA ++ c' :: cB).flatMap (Node.pairs (d := d)) =
        Spec.erase P.lt (Node.pairs (d := d + 1) (Inner.mk pid (rA ++ k :: rB) (cA ++ c :: cB) : Inner K (Node K V d))) key := by
      rw [R.pairs, Spec.erase_append, Spec.erase_append, Spec.erase_of_allLt _ key R.pairs_before,
        Spec.erase_of_allGt _ key R.pairs_after, ← hpc', List.flatMap_append, List.flatMap_cons]
    have hLnew : LinkedKids (Linked d) (Node.firstId (d := d)) after (cA ++ c' :: cB) :=
      (LinkedKids_append _ _ _ _ _).2 ⟨show LinkedKids _ _ (some (Node.firstId c')) cA from hfc' ▸ hLA, hLc', hLB⟩
    have hfnew : Node.firstId (d := d + 1) (Inner.mk pid (rA ++ k :: rB) (cA ++ c' :: cB) : Inner K (Node K V d)) =
        Node.firstId (d := d + 1) (Inner.mk pid (rA ++ k :: rB) (cA ++ c :: cB) : Inner K (Node K V d)) :=
      firstId_mk_append cA hfc'
    cases small with
    | false =>
      refine ⟨(Inner.mk pid (rA ++ k :: rB) (cA ++ c' :: cB) : Inner K (Node K V d)), false, ?_, ?_, fun e => absurd e Bool.false_ne_true, fun _ => Or.inl rfl,
        Nat.le_succ _, Nat.le_refl _, ?_, hLnew, hfnew⟩
      · rw [hstep, if_pos rfl, set_pivot R.lenA c c']
        rfl
      · exact (inner_replace (m := 0) (lo := lo) pid (rM := []) (cM := []) R.lenA rfl R.lenB
          (Nat.le_trans (Nat.le_of_eq (length_pivot rA rB k).symm) hle) (Nat.zero_le _)
          hlo R.before
          ⟨WF_set_m hWc' ((hs2 rfl).elim (fun e => Nat.le_trans hccnt.2 (Nat.le_of_eq e.symm)) id), R.sep_lt, trivial⟩ R.after (hfc' ▸ hLA) ⟨hLc', trivial⟩ hLB).1
      · rw [pairs_mk]; exact hbase
    | true =>
      rw [if_neg Bool.false_ne_true.symm] at hstep
      obtain ⟨p', small', heq, hWp, hsm1, hsm2, hl1, hl2, hpp, hLp, hfp⟩ :=
        rebalance_ok h P rfl hpad ho vr hvr pid rA rB k cA cB c c' lo hi after R.lenA R.lenB hle (hc2 (Nat.succ_ne_zero d))
          hlo R.before R.sep_lt R.after hWc' (Nat.le_antisymm (hs1 rfl) (Nat.le_trans hccnt.2 hcnt1)) hLnew
      exact ⟨p', small', by rw [hstep]; exact heq, hWp, hsm1, hsm2, hl1, hl2, by rw [hpp]; exact hbase, hLp, hfp.trans hfnew⟩

theorem rootMin_le (d : Nat) {o : Nat} (ho : 4 ≤ o) : rootMin d ≤ o / 2 := by
  cases d with
  | zero => exact Nat.zero_le _
  | succ d => exact (Nat.le_div_iff_mul_le (Nat.succ_pos 1)).mpr ho

theorem Tree.delete_eq (P : Params K) (t : Tree K V) (key : K) (root' : Node K V t.depth) (small : Bool)
    (heq : deleteNode P {} (t.order / 2) key t.depth t.root = .ok (root', small)) :
    t.delete P {} key =
      if small = false ∨ Node.count root' > 1 then .ok { t with root := root' }
      else collapseRoot t.order t.nextId t.depth root' := by
  simp only [Tree.delete, shiftRight_one_eq, bind, Except.bind, pure, Except.pure, Bool.false_eq_true, if_false, Bool.not_eq_true']
  rw [heq]

theorem Tree.delete_ok (h : SWO lt) (P : Params K) (hP : P.lt = lt) (hpad : ∀ k, P.pad (some k) ≠ none)
    (ho : 4 ≤ P.order) (hev : P.order % 2 = 0) (t : Tree K V) (hto : t.order = P.order)
    (hinv : TreeInv lt t) (key : K) :
    ∃ t' : Tree K V, t.delete P {} key = .ok t' ∧ TreeInv lt t' ∧ t'.order = t.order ∧
      Node.pairs t'.root = Spec.erase lt (Node.pairs t.root) key := by
  obtain ⟨hw, hL⟩ := hinv
  obtain ⟨order, depth, root, nextId⟩ := t
  simp only at hto; subst hto
  unfold TreeWF at hw; simp only at hw hL
  have hc2 : depth ≠ 0 → 2 ≤ Node.count root := by
    intro hd
    have := (WF_count_le hw).2
    cases depth with
    | zero => exact absurd rfl hd
    | succ d => exact this
  obtain ⟨root', small, heq, hW', hs1, hs2, hcnt1, hcnt2, hp', hL', _⟩ :=
    deleteNode_ok h P hP hpad ho hev {} rfl key depth root (rootMin depth) none none none hw hc2 hL
  by_cases hkeep : small = false ∨ Node.count root' > 1
  · refine ⟨{ order := P.order, depth := depth, root := root', nextId := nextId }, ?_, ⟨?_, hL'⟩, rfl, hp'⟩
    · exact (Tree.delete_eq P ⟨P.order, depth, root, nextId⟩ key root' small heq).trans (if_pos hkeep)
    · unfold TreeWF
      apply WF_set_m hW'
      cases depth with
      | zero => exact Nat.zero_le _
      | succ d =>
        simp only [rootMin]
        cases hkeep with
        | inl e =>
          cases hs2 e with
          | inl e' => rw [e']; exact hc2 (Nat.succ_ne_zero d)
          | inr e' => exact Nat.le_trans (rootMin_le (d + 1) ho) e'
        | inr e => exact e
  · have hc1 : ¬ Node.count root' > 1 := fun e => hkeep (Or.inr e)
    have hcollapse : Tree.delete P {} { order := P.order, depth := depth, root := root, nextId := nextId } key =
        collapseRoot P.order nextId depth root' :=
      (Tree.delete_eq P ⟨P.order, depth, root, nextId⟩ key root' small heq).trans (if_neg hkeep)
    cases depth with
    | zero =>
      refine ⟨{ order := P.order, depth := 0, root := root', nextId := nextId }, ?_, ⟨?_, hL'⟩, rfl, hp'⟩
      · rw [hcollapse]; rfl
      · unfold TreeWF; exact WF_set_m hW' (Nat.zero_le _)
    | succ d =>
      obtain ⟨hlen, hle, _, hne, _, hkids⟩ := hW'
      have hcnt : (root' : Inner K (Node K V d)).runts.length = 1 := Nat.le_antisymm (Nat.le_of_not_lt hc1) hne
      obtain ⟨rid, runts, kids⟩ := (root' : Inner K (Node K V d))
      simp only at hlen hcnt hkids hL' hp' hcollapse
      obtain ⟨k, rfl⟩ := List.length_eq_one_iff.mp hcnt
      obtain ⟨c, rfl⟩ := List.length_eq_one_iff.mp (hlen ▸ hcnt)
      obtain ⟨hcW, -, -⟩ := hkids
      refine ⟨{ order := P.order, depth := d, root := c, nextId := nextId }, ?_, ⟨?_, ?_⟩, rfl, ?_⟩
      · rw [hcollapse]; rfl
      · unfold TreeWF
        exact WF_set_m (WF_mono_lo h trivial hcW) (Nat.le_trans (rootMin_le d ho) (WF_count_le hcW).2)
      · exact hL'.1
      · rw [← hp']; exact (List.append_nil _).symm

end Gobptree
