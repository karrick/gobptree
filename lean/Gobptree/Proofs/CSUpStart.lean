/-
  Starting a client operation (`startOp`) never writes the tree; it does not panic unless
  the client misuses the API (`opFault`), and the continuation it parks with is consistent.
-/
import Gobptree.Proofs.CSUpNode
import Gobptree.Proofs.CSDisc
import Gobptree.Proofs.ConcCursorOps
import Gobptree.Proofs.CSUpBase

namespace Gobptree.Conc
open Gobptree

variable {K V : Type}

/-- what `startOp` guarantees.  A definition and not a bare conjunction, so that the proofs below
    state it of an evaluated `startOp`: written out, every `simp`/`rw` that evaluates `startOp`
    also rewrites inside the statement's six copies of `(startOp t s op)`. -/
def StartPost (s s' : St K V) (fl : Flow K V) : Prop :=
  s'.tree = s.tree ∧ fl ≠ .panic ∧
    (∀ p, fl = .park p → parkKontOk s.tree p ∧ ParkPre s'.cursor p ∧ parkExtra s.tree p = [] ∧ parkHole p = none) ∧
    CursorOk s.tree (flowIsHop fl) s'.cursor

theorem cursor_leaf {t : Tree K V} {leaf : Nat} {i : Int} (hc : CursorOk t false (some (some leaf, i))) :
    ∃ l : Leaf K V, (t.find leaf).bind leafOf? = some l ∧ t.look leaf = some (shallow (d := 0) l) ∧
      -1 ≤ i ∧ i < (l.keys.length : Int) := by
  obtain ⟨sh, hl, h0, hlo, hhi⟩ := hc
  obtain ⟨l, hfl, rfl, -⟩ := leaf_of_look hl h0
  rw [if_neg Bool.false_ne_true] at hhi
  exact ⟨l, by rw [hfl]; rfl, hl, hlo, hhi⟩

theorem CursorOut.startPost {t : Nat} {s : St K V} {op : COp K V} {r : St K V × Flow K V} (h : CursorOut t s op r)
    {hole : Option Nat} (htree : TreeOk hole s.tree) (hc : CursorOk s.tree false s.cursor)
    (hnf : opFault s op = false) : StartPost s r.1 r.2 := by
  have nopark : ∀ {x : Res K V} (p : Park K V), Flow.done x = .park p → parkKontOk s.tree p ∧
      ParkPre r.1.cursor p ∧ parkExtra s.tree p = [] ∧ parkHole p = none := fun p hp => by cases hp
  cases h with
  | skip => exact ⟨rfl, (fun e => by cases e), nopark, hc⟩
  | panicNoLeaf _ hcur _ hf =>
    obtain ⟨l, hf', -⟩ := cursor_leaf (hcur ▸ hc)
    rw [hf'] at hf
    cases hf
  | panicNeg hcur he _ hi =>
    have : opFault s .pair = false := hnf
    simp only [opFault, hcur, he, decide_eq_false_iff_not] at this
    exact absurd hi this
  | panicNoEntry hcur _ hf hi hk =>
    obtain ⟨l', hf', hl, -, hhi⟩ := cursor_leaf (hcur ▸ hc)
    rw [hf'] at hf
    cases hf
    have hlt := (Int.toNat_lt (Int.not_lt.1 hi)).2 hhi
    have hpar := (par_leaf _).1 (occ_of_look htree.occ hl).par
    rcases hk with hk | hk
    · rw [List.getElem?_eq_getElem hlt] at hk; cases hk
    · rw [List.getElem?_eq_getElem (hpar ▸ hlt)] at hk; cases hk
  | scanEnd => exact ⟨rfl, (fun e => by cases e), nopark, trivial⟩
  | scanHop hcur _ hf hi hn =>
    obtain ⟨l', hf', hl, hlo, -⟩ := cursor_leaf (hcur ▸ hc)
    rw [hf'] at hf
    cases hf
    refine ⟨rfl, (fun e => by cases e), fun p hp => ?_, ⟨_, hl, rfl, Int.le_add_one hlo, ?_⟩⟩
    · cases hp
      exact ⟨⟨_, hl, rfl, hn⟩, rfl, rfl, rfl⟩
    · show (if (true : Bool) = true then _ else _)
      rw [if_pos rfl]
      exact hi
  | scanNext hcur _ hf hi =>
    obtain ⟨l', hf', hl, hlo, hhi⟩ := cursor_leaf (hcur ▸ hc)
    rw [hf'] at hf
    cases hf
    refine ⟨rfl, (fun e => by cases e), nopark, ⟨_, hl, rfl, Int.le_add_one hlo, ?_⟩⟩
    show (if (false : Bool) = true then _ else _)
    rw [if_neg Bool.false_ne_true]
    exact Int.lt_iff_le_and_ne.2 ⟨Int.add_one_le_of_lt hhi, hi⟩
  | pair => exact ⟨rfl, (fun e => by cases e), nopark, hc⟩
  | closeNone => exact ⟨rfl, (fun e => by cases e), nopark, hc⟩
  | close => exact ⟨by split <;> rfl, (fun e => by cases e), nopark, trivial⟩

theorem startOp_post_aux (t : Nat) (s : St K V) (op : COp K V) (hole : Option Nat) (htree : TreeOk hole s.tree)
    (hc : CursorOk s.tree false s.cursor) (hnf : opFault s op = false) :
    StartPost s (startOp t s op).1 (startOp t s op).2 :=
  startOp_cases t s op (Q := fun r => StartPost s r.1 r.2)
    (fun k hk hm => by
      have : misuse s = false := by cases op <;> first | exact hnf | cases hk
      rw [hm] at this
      cases this)
    (fun k hk hcl => by
      -- the five map operations: wait for `rootMutex`, nothing held
      have hkk : KontOk s.tree k ∧ ParkPre s.cursor (.want .tree k) ∧ kontExtra s.tree k = [] ∧
          parkHole (.want .tree k) = none ∧ isHop (.want .tree k) = false := by
        cases op <;> cases hk <;> exact ⟨trivial, hcl, rfl, rfl, rfl⟩
      refine ⟨rfl, (fun e => by cases e), fun p hp => ?_, ?_⟩
      · cases hp
        exact ⟨hkk.1, hkk.2.1, hkk.2.2.1, hkk.2.2.2.1⟩
      · show CursorOk s.tree (isHop (.want .tree k)) s.cursor
        rw [hkk.2.2.2.2]
        exact hc)
    (fun _ _ h => h.startPost htree hc hnf)
    (fun _ => ⟨rfl, (fun e => by cases e), (fun p hp => by cases hp; exact ⟨trivial, trivial, rfl, rfl⟩), hc⟩)

theorem startOp_post (t : Nat) (s : St K V) (op : COp K V) (hole : Option Nat) (htree : TreeOk hole s.tree)
    (hc : CursorOk s.tree false s.cursor) (hnf : opFault s op = false) :
    (startOp t s op).1.tree = s.tree ∧ (startOp t s op).2 ≠ .panic ∧
    (∀ p, (startOp t s op).2 = .park p →
        parkKontOk s.tree p ∧ ParkPre (startOp t s op).1.cursor p ∧ parkExtra s.tree p = [] ∧ parkHole p = none) ∧
    CursorOk s.tree (flowIsHop (startOp t s op).2) (startOp t s op).1.cursor :=
  startOp_post_aux t s op hole htree hc hnf

end Gobptree.Conc
