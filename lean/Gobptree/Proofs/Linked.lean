/-
  The leaf chain: `Linked d after n` says the leaves beneath `n` are linked in
  order through `next` and the last one points to `after`.
-/
import Gobptree.Node

namespace Gobptree

variable {K V : Type} {lt : K → K → Bool}

def Node.firstId : {d : Nat} → Node K V d → Nat
  | 0, (l : Leaf K V) => l.id
  | d + 1, (i : Inner K (Node K V d)) =>
    match i.kids with
    | [] => 0
    | c :: _ => Node.firstId (d := d) c

/-- what the entry in front of `rest` must point to -/
def afterOf {C : Type} (first : C → Nat) (after : Option Nat) : List C → Option Nat
  | [] => after
  | c :: _ => some (first c)

def LinkedKids {C : Type} (L : Option Nat → C → Prop) (first : C → Nat) (after : Option Nat) :
    List C → Prop
  | [] => True
  | c :: rest => L (afterOf first after rest) c ∧ LinkedKids L first after rest

def Linked : (d : Nat) → Option Nat → Node K V d → Prop
  | 0, after, (l : Leaf K V) => l.next = after
  | d + 1, after, (i : Inner K (Node K V d)) => LinkedKids (Linked d) (Node.firstId (d := d)) after i.kids

theorem LinkedKids_append {C : Type} (L : Option Nat → C → Prop) (first : C → Nat) (after : Option Nat)
    (l r : List C) :
    LinkedKids L first after (l ++ r) ↔ LinkedKids L first (afterOf first after r) l ∧ LinkedKids L first after r := by
  induction l with
  | nil => simp [LinkedKids]
  | cons c l ih =>
    have hn : afterOf first after (l ++ r) = afterOf first (afterOf first after r) l := by
      cases l <;> rfl
    simp only [List.cons_append, LinkedKids, ih, hn, and_assoc]

theorem LinkedKids_cons {C : Type} (L : Option Nat → C → Prop) (first : C → Nat) (after : Option Nat)
    (c : C) (rest : List C) :
    LinkedKids L first after (c :: rest) ↔ L (afterOf first after rest) c ∧ LinkedKids L first after rest :=
  Iff.rfl

theorem firstId_mk_cons {d : Nat} (id : Nat) (runts : List K) (c : Node K V d) (rest : List (Node K V d)) :
    Node.firstId (d := d + 1) (Inner.mk id runts (c :: rest) : Inner K (Node K V d)) = Node.firstId c := rfl

theorem firstId_mk_append {d : Nat} {id id' : Nat} {runts runts' : List K} (a : List (Node K V d))
    {c x : Node K V d} (hx : Node.firstId x = Node.firstId c) {b y : List (Node K V d)} :
    Node.firstId (d := d + 1) (Inner.mk id' runts' (a ++ x :: y) : Inner K (Node K V d)) =
    Node.firstId (d := d + 1) (Inner.mk id runts (a ++ c :: b) : Inner K (Node K V d)) := by
  cases a with
  | nil => exact hx
  | cons a0 a' => rfl

end Gobptree
