/-
  The specification's contents are always strictly ascending in the key order, hence
  contain every key (modulo equivalence) at most once.
-/
import Gobptree.Run
import Gobptree.Proofs.Order

namespace Gobptree

variable {K V : Type} {lt : K → K → Bool}

def KSorted (lt : K → K → Bool) (m : List (K × V)) : Prop := m.Pairwise (fun a b => lt a.1 b.1 = true)

theorem KSorted_zip (keys : List K) (vals : List V) (hs : Sorted lt keys) : KSorted lt (keys.zip vals) := by
  induction keys generalizing vals with
  | nil => simp [KSorted]
  | cons k ks ih =>
    cases vals with
    | nil => simp [KSorted]
    | cons v vs =>
      have hq := List.pairwise_cons.mp hs
      rw [List.zip_cons_cons]
      refine List.pairwise_cons.mpr ⟨?_, ih vs hq.2⟩
      intro p hp
      exact hq.1 p.1 (List.of_mem_zip hp).1

theorem sorted_of_zip {keys : List K} {vals : List V} (hl : keys.length ≤ vals.length)
    (hs : KSorted lt (keys.zip vals)) : Sorted lt keys := by
  rw [← List.map_fst_zip hl]
  exact List.pairwise_map.2 hs

theorem Spec.insert_mem_key (m : List (K × V)) (k : K) (v : V) :
    ∀ p ∈ Spec.insert lt m k v, p.1 = k ∨ ∃ q ∈ m, q.1 = p.1 := by
  induction m with
  | nil => intro p hp; simp [Spec.insert] at hp; left; rw [hp]
  | cons q m ih =>
    obtain ⟨k', v'⟩ := q
    intro p hp
    simp only [Spec.insert] at hp
    split at hp
    · cases List.mem_cons.mp hp with
      | inl e => left; rw [e]
      | inr e => right; exact ⟨p, e, rfl⟩
    · split at hp
      · cases List.mem_cons.mp hp with
        | inl e => right; exact ⟨(k', v'), by simp, by rw [e]⟩
        | inr e =>
          cases ih p e with
          | inl e' => left; exact e'
          | inr e' => obtain ⟨q, hq, e''⟩ := e'; right; exact ⟨q, by simp [hq], e''⟩
      · cases List.mem_cons.mp hp with
        | inl e => right; exact ⟨(k', v'), by simp, by rw [e]⟩
        | inr e => right; exact ⟨p, by simp [e], rfl⟩

theorem Spec.insert_sorted (h : SWO lt) (m : List (K × V)) (k : K) (v : V) (hs : KSorted lt m) :
    KSorted lt (Spec.insert lt m k v) := by
  induction m with
  | nil => simp [Spec.insert, KSorted]
  | cons q m ih =>
    obtain ⟨k', v'⟩ := q
    have hq := List.pairwise_cons.mp hs
    simp only [Spec.insert]
    split
    · rename_i hlt
      refine List.pairwise_cons.mpr ⟨?_, hs⟩
      intro p hp
      cases List.mem_cons.mp hp with
      | inl e => rw [e]; exact hlt
      | inr e => exact h.trans _ _ _ hlt (hq.1 p e)
    · split
      · rename_i hnlt hgt
        refine List.pairwise_cons.mpr ⟨?_, ih hq.2⟩
        intro p hp
        cases Spec.insert_mem_key (lt := lt) m k v p hp with
        | inl e => rw [e]; exact hgt
        | inr e => obtain ⟨q, hqm, e'⟩ := e; rw [← e']; exact hq.1 q hqm
      · exact List.pairwise_cons.mpr ⟨fun p hp => hq.1 p hp, hq.2⟩

theorem Spec.erase_sorted (m : List (K × V)) (k : K) (hs : KSorted lt m) : KSorted lt (Spec.erase lt m k) :=
  List.Pairwise.sublist (List.filter_sublist) hs

theorem Spec.from_sorted (m : List (K × V)) (s : K) (hs : KSorted lt m) : KSorted lt (Spec.from lt m s) :=
  List.Pairwise.sublist (List.filter_sublist) hs

theorem Spec.step_sorted (h : SWO lt) (m : List (K × V)) (op : Op K V) (hs : KSorted lt m) :
    KSorted lt (Spec.step lt m op).1 := by
  cases op with
  | insert k v => exact Spec.insert_sorted h m k v hs
  | update k f => exact Spec.insert_sorted h m k _ hs
  | delete k => exact Spec.erase_sorted m k hs
  | search k => exact hs

theorem Spec.run_sorted (h : SWO lt) (ops : List (Op K V)) :
    ∀ (m : List (K × V)), KSorted lt m → KSorted lt (Spec.run lt m ops).1 := by
  induction ops with
  | nil => intro m hs; exact hs
  | cons op ops ih =>
    intro m hs
    simp only [Spec.run]
    exact ih _ (Spec.step_sorted h m op hs)

theorem KSorted.unique (h : SWO lt) (m : List (K × V)) (hs : KSorted lt m) (i j : Nat)
    (hi : i < m.length) (hj : j < m.length) (he : eqv lt m[i].1 m[j].1 = true) : i = j := by
  rcases Nat.lt_trichotomy i j with hlt | heq | hgt
  · have := List.pairwise_iff_getElem.mp hs i j hi hj hlt
    simp [eqv, this] at he
  · exact heq
  · have := List.pairwise_iff_getElem.mp hs j i hj hi hgt
    simp [eqv, this] at he

end Gobptree
