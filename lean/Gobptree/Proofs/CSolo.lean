/-
  A single-threaded run of the concurrent small-step model (`Conc.lean`) computes exactly
  what the sequential big-step model (`Ops.lean`, `Run.lean`) computes: the same tree
  (same node identities, same allocation counter, same depth and order) and the same
  results — one operation (`solo_step'`), a whole history (`solo_run'`), and with `RunOk.lean`
  the map specification (`solo_refines_spec`).

  The hypotheses on the tree are `IdsOk` (node identities pairwise distinct and below the
  allocation counter — what `find`/`modify` need to address the right node) and that its order
  is the one of the parameters (`Tree.delete` reads the former, `Delete` the latter); both are
  preserved by the sequential model.  The hypothesis that the sequential model returns `.ok` is
  what excludes Go panics (e.g. Delete at order 2).
-/
import Gobptree.Proofs.CSoloOp
import Gobptree.Proofs.CSoloIds
import Gobptree.Proofs.RunOk

namespace Gobptree.Conc
open Gobptree

variable {K V : Type}

theorem Tree.step_idsOk (P : Params K) (t t' : Tree K V) (op : Op K V) (out : Out V)
    (hids : IdsOk t) (h : Tree.step P t op = .ok (t', out)) : IdsOk t' ∧ t'.order = t.order := by
  have h := Tree.step_inv P t t' op out h
  cases op with
  | insert k v => obtain ⟨cb, hup, -⟩ := h; exact Tree.upsert_idsOk P k _ t t' cb hids hup
  | update k f => obtain ⟨cb, hup, -⟩ := h; exact Tree.upsert_idsOk P k f t t' cb hids hup
  | delete k => exact Tree.delete_idsOk P k t t' hids h.1
  | search k => obtain ⟨v, -, ht, -⟩ := h; subst ht; exact ⟨hids, rfl⟩

theorem threadLoop_done_some (th : Thread K V) (s' : St K V) (r : Res K V) (pc : Nat) (op2 : Op K V)
    (hop : th.prog[pc + 1]? = some (copOf op2)) (hcur : s'.cursor = none) :
    threadLoop 0 th th.prog.length s' (.done r) pc =
      ({ th with pc := pc + 1, park := .want .tree (kontOf op2), held := s'.held, cursor := s'.cursor,
                 exhausted := s'.exhausted },
        (s'.note 0 (.ret pc r)).note 0 (.inv (pc + 1)), false) := by
  have hlen : pc + 1 < th.prog.length := (List.getElem?_eq_some_iff.1 hop).1
  obtain ⟨n, hn⟩ : ∃ n, th.prog.length = n + 1 := ⟨th.prog.length - 1, by omega⟩
  rw [hn]
  unfold threadLoop
  simp only [hop]
  rw [startOp_copOf _ op2 (by exact hcur)]
  cases n <;> rfl

theorem threadLoop_done_none (th : Thread K V) (s' : St K V) (r : Res K V) (pc : Nat)
    (hop : th.prog[pc + 1]? = none) :
    threadLoop 0 th th.prog.length s' (.done r) pc =
      ({ th with pc := pc + 1, park := .finished, held := s'.held, cursor := s'.cursor, exhausted := s'.exhausted },
        s'.note 0 (.ret pc r), false) := by
  cases th.prog.length <;> simp [threadLoop, hop] <;> rfl

structure Ready (c : Config K V) (th : Thread K V) (op : Op K V) : Prop where
  threads : c.threads = [th]
  park : th.park = .want .tree (kontOf op)
  held : th.held = []
  owner : c.owner = []
  cursor : th.cursor = none

theorem solo_op (c : Config K V) (th : Thread K V) (op : Op K V) (t' : Tree K V) (out : Out V)
    (hr : Ready c th op) (hids : IdsOk c.tree) (hord : c.tree.order = c.P.order)
    (hseq : Tree.step c.P c.tree op = .ok (t', out)) :
    ∃ n s' r cbs, c.run (List.replicate (n + 1) 0) =
        (cfgOf c (threadLoop 0 th th.prog.length s' (.done r) th.pc), none) ∧
      SoloPost (sOf c th) s' t' cbs ∧ ResMatches out r cbs := by
  have ho : OwnOk (sOf c th) := by
    unfold OwnOk sOf
    simp only [hr.owner, hr.held]
    exact List.Perm.nil
  obtain ⟨r, cbs, hsolo, hm⟩ := op_fin c.P op t' out (sOf c th) (idInv_top_iff.2 hids) hord hseq
  obtain ⟨s', hf, hp⟩ := hsolo.post (flowOk_kontOf _ op hr.held hr.cursor) hr.cursor ho
  obtain ⟨n, hn⟩ := fin_run c th .tree (kontOf op) s' r hr.threads hr.park hf ho (flowOk_kontOf _ op hr.held hr.cursor)
  exact ⟨n, s', r, cbs, hn, hp, hm⟩

theorem init_step (P : Params K) (t : Tree K V) (op : Op K V) (rest : List (COp K V)) :
    ∃ c1 th, (Config.init P t [copOf op :: rest]).step 0 = some c1 ∧ Ready c1 th op ∧
      th.prog = copOf op :: rest ∧ th.pc = 0 ∧ c1.tree = t ∧ c1.P = P ∧ c1.dead = false ∧
      c1.log = [Ev.note 0 (.inv 0), Ev.dec 0 [0]] := by
  refine ⟨{ P := P, tree := t, owner := [], threads := [_], log := [Ev.note 0 (.inv 0), Ev.dec 0 [0]], dead := false },
    { prog := copOf op :: rest, pc := 0, park := .want .tree (kontOf op), held := [], cursor := none, exhausted := false },
    ?_, ⟨rfl, rfl, rfl, rfl, rfl⟩, rfl, rfl, rfl, rfl, rfl, rfl⟩
  rw [step_lone _ { prog := copOf op :: rest, pc := 0, park := .start, held := [], cursor := none, exhausted := false } rfl rfl,
    runThread_start _ _ _ _ rfl (op := copOf op) rfl, startOp_copOf _ op rfl, threadLoop_at_park]
  rfl

def ResOk : Out V → Res K V → Prop
  | .done, .ok => True
  | .callback _, .ok => True
  | .found v, .found v' => v' = v
  | _, _ => False

def outCb : Out V → List (Option V)
  | .callback a => [a]
  | _ => []

theorem ResMatches.split {out : Out V} {r : Res K V} {cbs : List (Option V)} (h : ResMatches out r cbs) :
    ResOk out r ∧ cbs = outCb out := by
  cases out <;> cases r <;> simp_all [ResMatches, ResOk, outCb]

def ResAll : List (Out V) → List (Res K V) → Prop
  | [], [] => True
  | o :: os, r :: rs => ResOk o r ∧ ResAll os rs
  | _, _ => False

def numbered : Nat → List (Res K V) → List (Nat × Res K V)
  | _, [] => []
  | i, r :: rs => (i, r) :: numbered (i + 1) rs

theorem solo_run_append (a b : List Nat) : ∀ (c c1 c2 : Config K V), c.run a = (c1, none) → c1.run b = (c2, none) →
    c.run (a ++ b) = (c2, none) := by
  intro c c1 c2 h1
  refine run_induct (M := fun ts c c1 => c1.run b = (c2, none) → c.run (ts ++ b) = (c2, none)) (fun _ h => h) ?_ a c c1 h1
  intro t ts c c' c1 hs _ ih h2
  show c.run (t :: (ts ++ b)) = _
  rw [run_step hs]
  exact ih h2

theorem reachable_run (c0 : Config K V) : ∀ (sched : List Nat) (c c' : Config K V), Reachable c0 c →
    c.run sched = (c', none) → Reachable c0 c' :=
  reachable_of_run c0

theorem after_op_some (c : Config K V) (th : Thread K V) (s' : St K V) (r : Res K V) (op2 : Op K V)
    (hop : th.prog[th.pc + 1]? = some (copOf op2)) (hcur : s'.cursor = none) (hheld : s'.held = []) (hown : s'.owner = []) :
    ∃ th', Ready (cfgOf c (threadLoop 0 th th.prog.length s' (.done r) th.pc)) th' op2 ∧
      th'.prog = th.prog ∧ th'.pc = th.pc + 1 ∧
      (cfgOf c (threadLoop 0 th th.prog.length s' (.done r) th.pc)).tree = s'.tree ∧
      (cfgOf c (threadLoop 0 th th.prog.length s' (.done r) th.pc)).P = c.P ∧
      (cfgOf c (threadLoop 0 th th.prog.length s' (.done r) th.pc)).dead = c.dead ∧
      (cfgOf c (threadLoop 0 th th.prog.length s' (.done r) th.pc)).log =
        Ev.note 0 (.inv (th.pc + 1)) :: Ev.note 0 (.ret th.pc r) :: s'.evs := by
  rw [threadLoop_done_some th s' r th.pc op2 hop hcur]
  refine ⟨_, ⟨rfl, rfl, hheld, hown, hcur⟩, rfl, rfl, rfl, rfl, ?_, rfl⟩
  show (c.dead || false) = c.dead
  simp

theorem after_op_none (c : Config K V) (th : Thread K V) (s' : St K V) (r : Res K V)
    (hop : th.prog[th.pc + 1]? = none) :
    (cfgOf c (threadLoop 0 th th.prog.length s' (.done r) th.pc)).unfinished = false ∧
      (cfgOf c (threadLoop 0 th th.prog.length s' (.done r) th.pc)).tree = s'.tree ∧
      (cfgOf c (threadLoop 0 th th.prog.length s' (.done r) th.pc)).owner = s'.owner ∧
      (cfgOf c (threadLoop 0 th th.prog.length s' (.done r) th.pc)).dead = c.dead ∧
      (cfgOf c (threadLoop 0 th th.prog.length s' (.done r) th.pc)).log = Ev.note 0 (.ret th.pc r) :: s'.evs := by
  rw [threadLoop_done_none th s' r th.pc hop]
  refine ⟨?_, rfl, rfl, ?_, rfl⟩
  · simp [Config.unfinished, cfgOf]
  · show (c.dead || false) = c.dead
    simp

theorem Tree.run_cons_inv (P : Params K) (t t' : Tree K V) (op : Op K V) (rest : List (Op K V)) (outs : List (Out V))
    (h : Tree.run P t (op :: rest) = .ok (t', outs)) :
    ∃ t1 o os, Tree.step P t op = .ok (t1, o) ∧ Tree.run P t1 rest = .ok (t', os) ∧ outs = o :: os := by
  rw [Tree.run] at h
  obtain ⟨⟨t1, o⟩, h1, h⟩ := bind_ok h
  obtain ⟨⟨t2, os⟩, h2, h⟩ := bind_ok h
  cases h
  exact ⟨t1, o, os, h1, h2, rfl⟩

def outCbs (outs : List (Out V)) : List (Option V) := outs.flatMap outCb

theorem outCb_reverse (o : Out V) : (outCb o).reverse = outCb o := by
  cases o <;> rfl

theorem solo_rest : ∀ (ops : List (Op K V)) (c : Config K V) (th : Thread K V) (s' : St K V) (r : Res K V)
    (t' : Tree K V) (outs : List (Out V)),
    s'.held = [] → s'.owner = [] → s'.cursor = none → IdsOk s'.tree → s'.tree.order = c.P.order →
    (∀ j, th.prog[th.pc + 1 + j]? = (ops.map copOf)[j]?) →
    Tree.run c.P s'.tree ops = .ok (t', outs) →
    ∃ n c' mid rs, (cfgOf c (threadLoop 0 th th.prog.length s' (.done r) th.pc)).run (List.replicate n 0) = (c', none) ∧
      c'.unfinished = false ∧ c'.dead = c.dead ∧ c'.tree = t' ∧ c'.owner = [] ∧
      c'.log = mid ++ Ev.note 0 (.ret th.pc r) :: s'.evs ∧
      retNotes mid = (numbered (th.pc + 1) rs).reverse ∧ ResAll outs rs ∧ cbNotes mid = (outCbs outs).reverse := by
  intro ops
  induction ops with
  | nil =>
    intro c th s' r t' outs _ hown _ _ _ hprog hseq
    cases hseq
    obtain ⟨hunf, htr, hown', hd, hlog⟩ := after_op_none c th s' r (hprog 0)
    exact ⟨0, _, [], [], rfl, hunf, hd, htr, hown'.trans hown, hlog, rfl, trivial, rfl⟩
  | cons op rest ih =>
    intro c th s' r t' outs hheld hown hcur hids hord hprog hseq
    obtain ⟨t1, o, os, hstep, hrun, houts⟩ := Tree.run_cons_inv c.P s'.tree t' op rest outs hseq
    subst houts
    obtain ⟨hids1, hord1⟩ := Tree.step_idsOk c.P s'.tree t1 op o hids hstep
    obtain ⟨th', hr', hprog', hpc', htr, hP, hd, hlog⟩ :=
      after_op_some c th s' r op (hprog 0) hcur hheld hown
    generalize cfgOf c (threadLoop 0 th th.prog.length s' (.done r) th.pc) = c1 at hr' htr hP hd hlog ⊢
    obtain ⟨n, s2, r2, cbs, hn, hp, hm⟩ := solo_op c1 th' op t1 o hr' (by rw [htr]; exact hids)
      (by rw [htr, hP]; exact hord) (by rw [hP, htr]; exact hstep)
    obtain ⟨hres, hcbs⟩ := hm.split
    obtain ⟨pre, hevs, hcb, hret⟩ := hp.evs
    obtain ⟨n2, c2, mid, rs, hn2, hunf, hdead2, htree2, hown2, hlog2, hrets, hall, hcbs2⟩ :=
      ih c1 th' s2 r2 t' os hp.held (hp.own.nil hp.held) (hp.cursor.trans hr'.cursor)
        (by rw [hp.tree]; exact hids1) (by rw [hp.tree, hP, hord1]; exact hord)
        (fun j => by
          rw [hprog', hpc', Nat.add_assoc (th.pc + 1) 1 j, Nat.add_comm 1 j, hprog (j + 1)]
          rfl)
        (by rw [hP, hp.tree]; exact hrun)
    rw [hpc'] at hlog2 hrets
    refine ⟨(n + 1) + n2, c2, mid ++ Ev.note 0 (.ret (th.pc + 1) r2) :: (pre ++ [Ev.note 0 (.inv (th.pc + 1))]), r2 :: rs,
      ?_, hunf, hdead2.trans hd, htree2, hown2, ?_, ?_, ⟨hres, hall⟩, ?_⟩
    · rw [← List.replicate_append_replicate]
      exact solo_run_append _ _ c1 _ c2 hn hn2
    · rw [hlog2, hevs]
      show mid ++ _ :: (pre ++ c1.log) = _
      rw [hlog]
      simp only [List.append_assoc, List.cons_append, List.nil_append]
    · rw [retNotes_append, hrets]
      show _ ++ (th.pc + 1, r2) :: retNotes (pre ++ [_]) = ((th.pc + 1, r2) :: numbered (th.pc + 1 + 1) rs).reverse
      rw [retNotes_append, hret, List.reverse_cons]
      rfl
    · rw [cbNotes_append, hcbs2]
      show _ ++ cbNotes (pre ++ [_]) = ((o :: os).flatMap outCb).reverse
      rw [cbNotes_append, hcb, hcbs, List.flatMap_cons, List.reverse_append, outCb_reverse]
      show _ ++ (outCb o ++ []) = _
      rw [List.append_nil]
      rfl

theorem solo_first (P : Params K) (t : Tree K V) (op : Op K V) (rest : List (Op K V)) (t1 t' : Tree K V) (o : Out V)
    (os : List (Out V)) (hids : IdsOk t) (ho : t.order = P.order)
    (hstep : Tree.step P t op = .ok (t1, o)) (hrun : Tree.run P t1 rest = .ok (t', os)) :
    ∃ n c' r pre mid rs, (Config.init P t [(op :: rest).map copOf]).run (List.replicate n 0) = (c', none) ∧
      c'.unfinished = false ∧ c'.dead = false ∧ c'.tree = t' ∧ c'.owner = [] ∧
      c'.log = mid ++ Ev.note 0 (.ret 0 r) :: (pre ++ [Ev.note 0 (.inv 0), Ev.dec 0 [0]]) ∧
      retNotes pre = [] ∧ ResMatches o r (cbNotes pre) ∧
      retNotes mid = (numbered 1 rs).reverse ∧ ResAll os rs ∧ cbNotes mid = (outCbs os).reverse := by
  obtain ⟨c1, th, hst, hr, hprog, hpc, htree1, hP1, hdead1, hlog1⟩ := init_step P t op (rest.map copOf)
  obtain ⟨hids1, hord1⟩ := Tree.step_idsOk P t t1 op o hids hstep
  obtain ⟨n, s', r, cbs, hn, hp, hm⟩ := solo_op c1 th op t1 o hr (by rw [htree1]; exact hids)
    (by rw [htree1, hP1]; exact ho) (by rw [htree1, hP1]; exact hstep)
  obtain ⟨pre, hevs, hcb, hret⟩ := hp.evs
  obtain ⟨n2, c2, mid, rs, hn2, hunf, hdead2, htree2, hown2, hlog2, hrets, hall, hcbs2⟩ :=
    solo_rest rest c1 th s' r t' os hp.held (hp.own.nil hp.held) (hp.cursor.trans hr.cursor)
      (by rw [hp.tree]; exact hids1) (by rw [hp.tree, hP1, hord1]; exact ho)
      (fun j => by rw [hprog, hpc, Nat.zero_add, Nat.add_comm 1 j, List.getElem?_cons_succ])
      (by rw [hP1, hp.tree]; exact hrun)
  rw [hpc] at hlog2 hrets
  refine ⟨(n + 1) + n2 + 1, c2, r, pre, mid, rs, ?_, hunf, hdead2.trans hdead1, htree2, hown2, ?_, hret,
    by rw [hcb]; exact hm, hrets, hall, hcbs2⟩
  · have hst' : (Config.init P t [(op :: rest).map copOf]).step 0 = some c1 := hst
    rw [List.replicate_succ, run_step hst', ← List.replicate_append_replicate]
    exact solo_run_append _ _ c1 _ c2 hn hn2
  · rw [hlog2, hevs]
    show mid ++ _ :: (pre ++ c1.log) = _
    rw [hlog1]

/-- **one operation from the initial configuration.**  If the sequential model performs `op` on
    `t` (distinct identities below the counter) without a Go panic, giving `t'` and `out`, then the
    concurrent model, running the single client call `copOf op` alone, finishes without panic with
    EXACTLY the tree `t'` (same identities, same counter, same depth, same order); the call returns
    the corresponding result and the callback notes of the run are those of the operation. -/
theorem solo_step' (P : Params K) (t : Tree K V) (op : Op K V) (t' : Tree K V) (out : Out V)
    (hids : IdsOk t) (ho : t.order = P.order)
    (hseq : Tree.step P t op = .ok (t', out)) :
    ∃ n c', (Config.init P t [[copOf op]]).run (List.replicate n 0) = (c', none) ∧
      c'.unfinished = false ∧ c'.dead = false ∧ c'.tree = t' ∧ c'.owner = [] ∧
      ∃ r, Ev.note 0 (.ret 0 r) ∈ c'.log ∧ retNotes c'.log = [(0, r)] ∧ ResMatches out r (cbNotes c'.log) := by
  obtain ⟨n, c', r, pre, mid, rs, hn, hunf, hdead, htree, hown, hlog, hret, hm, hrets, hall, hcbs⟩ :=
    solo_first P t op [] t' t' out [] hids ho hseq rfl
  cases rs with
  | cons _ _ => exact hall.elim
  | nil =>
    refine ⟨n, c', hn, hunf, hdead, htree, hown, r, ?_, ?_, ?_⟩
    · rw [hlog]; exact List.mem_append_right _ List.mem_cons_self
    · rw [hlog, retNotes_append, hrets]
      show (0, r) :: retNotes (pre ++ _) = _
      rw [retNotes_append, hret]
      rfl
    · rw [hlog, cbNotes_append, hcbs]
      show ResMatches out r (cbNotes (pre ++ _))
      rw [cbNotes_append]
      show ResMatches out r (cbNotes pre ++ [])
      rw [List.append_nil]
      exact hm

theorem solo_step (P : Params K) (t : Tree K V) (op : Op K V) (t' : Tree K V) (out : Out V)
    (hok : TreeOk none t) (ho : t.order = P.order)
    (hseq : Tree.step P t op = .ok (t', out)) :
    ∃ n c', (Config.init P t [[copOf op]]).run (List.replicate n 0) = (c', none) ∧
      c'.unfinished = false ∧ c'.dead = false ∧ c'.tree = t' ∧ c'.owner = [] ∧
      ∃ r, Ev.note 0 (.ret 0 r) ∈ c'.log ∧ retNotes c'.log = [(0, r)] ∧ ResMatches out r (cbNotes c'.log) :=
  solo_step' P t op t' out hok.ids ho hseq

/-- **whole histories.**  If the sequential model runs the history `ops` from `t` (distinct
    identities below the counter) without a Go panic, giving `t'` and the outputs `outs`, then the
    concurrent model, running the program `ops.map copOf` alone, finishes without panic with EXACTLY
    the tree `t'`; the `ret` notes of the log are, oldest first, `(0, r₀), (1, r₁), …` with `rᵢ` the
    result corresponding to `outsᵢ`, and the callback notes are, oldest first, the callback
    arguments of the Updates. -/
theorem solo_run' (P : Params K) (t : Tree K V) (ops : List (Op K V)) (t' : Tree K V) (outs : List (Out V))
    (hids : IdsOk t) (ho : t.order = P.order)
    (hseq : Tree.run P t ops = .ok (t', outs)) :
    ∃ n c', (Config.init P t [ops.map copOf]).run (List.replicate n 0) = (c', none) ∧
      c'.unfinished = false ∧ c'.dead = false ∧ c'.tree = t' ∧ c'.owner = [] ∧
      ∃ rs, (retNotes c'.log).reverse = numbered 0 rs ∧ ResAll outs rs ∧ (cbNotes c'.log).reverse = outCbs outs := by
  cases ops with
  | nil =>
    cases hseq
    refine ⟨1, ⟨P, t, [], [⟨[], 0, .finished, [], none, false⟩], [Ev.dec 0 [0]], false⟩, ?_, ?_, rfl, rfl, rfl, [], rfl,
      trivial, rfl⟩
    · show Config.run (Config.init P t [[]]) [0] = _
      rw [run_cons, step_lone _ ⟨[], 0, .start, [], none, false⟩ rfl rfl, runThread_start_nil _ _ _ _ rfl rfl]
      rfl
    · simp [Config.unfinished]
  | cons op rest =>
    obtain ⟨t1, o, os, hstep, hrun, houts⟩ := Tree.run_cons_inv P t t' op rest outs hseq
    subst houts
    obtain ⟨n, c', r, pre, mid, rs, hn, hunf, hdead, htree, hown, hlog, hret, hm, hrets, hall, hcbs⟩ :=
      solo_first P t op rest t1 t' o os hids ho hstep hrun
    obtain ⟨hres, hcb⟩ := hm.split
    refine ⟨n, c', hn, hunf, hdead, htree, hown, r :: rs, ?_, ⟨hres, hall⟩, ?_⟩
    · rw [hlog, retNotes_append, hrets]
      show (_ ++ (0, r) :: retNotes (pre ++ _)).reverse = (0, r) :: numbered 1 rs
      rw [retNotes_append, hret, List.reverse_append, List.reverse_reverse]
      rfl
    · rw [hlog, cbNotes_append, hcbs]
      show (_ ++ cbNotes (pre ++ _)).reverse = (o :: os).flatMap outCb
      rw [cbNotes_append, hcb, List.reverse_append, List.reverse_reverse, List.flatMap_cons]
      show (outCb o ++ []).reverse ++ _ = _
      rw [List.append_nil, outCb_reverse]
      rfl

theorem solo_run (P : Params K) (t : Tree K V) (ops : List (Op K V)) (t' : Tree K V) (outs : List (Out V))
    (hok : TreeOk none t) (ho : t.order = P.order)
    (hseq : Tree.run P t ops = .ok (t', outs)) :
    ∃ n c', (Config.init P t [ops.map copOf]).run (List.replicate n 0) = (c', none) ∧
      c'.unfinished = false ∧ c'.dead = false ∧ c'.tree = t' ∧ c'.owner = [] ∧
      ∃ rs, (retNotes c'.log).reverse = numbered 0 rs ∧ ResAll outs rs ∧ (cbNotes c'.log).reverse = outCbs outs :=
  solo_run' P t ops t' outs hok.ids ho hseq

theorem solo_run_new (P : Params K) (ops : List (Op K V)) (t' : Tree K V) (outs : List (Out V))
    (hseq : Tree.run P (Tree.new P.order) ops = .ok (t', outs)) :
    ∃ n c', (Config.init P (Tree.new P.order) [ops.map copOf]).run (List.replicate n 0) = (c', none) ∧
      c'.unfinished = false ∧ c'.dead = false ∧ c'.tree = t' ∧ c'.owner = [] ∧
      ∃ rs, (retNotes c'.log).reverse = numbered 0 rs ∧ ResAll outs rs ∧ (cbNotes c'.log).reverse = outCbs outs := by
  exact solo_run' P _ ops t' outs (new_idsOk P.order) rfl hseq

/-- Corollary (with the sequential refinement theorem `run_ok`): a lone thread of the CONCURRENT
    model, started on a fresh tree, never panics and refines the map specification — final
    contents, results and callback arguments are those of `Spec.run`. -/
theorem solo_refines_spec (lt : K → K → Bool) (P : Params K) (hp : ParamsOk lt P) (ops : List (Op K V))
    (hdel : ∀ op ∈ ops, op.isDelete = true → 4 ≤ P.order) :
    ∃ n c', (Config.init P (Tree.new P.order) [ops.map copOf]).run (List.replicate n 0) = (c', none) ∧
      c'.unfinished = false ∧ c'.dead = false ∧ c'.owner = [] ∧
      Node.pairs c'.tree.root = (Spec.run lt [] ops).1 ∧
      ∃ rs, (retNotes c'.log).reverse = numbered 0 rs ∧ ResAll (Spec.run lt ([] : List (K × V)) ops).2 rs ∧
        (cbNotes c'.log).reverse = outCbs (Spec.run lt ([] : List (K × V)) ops).2 := by
  obtain ⟨hinv0, hpairs0⟩ := new_ok (lt := lt) (K := K) (V := V) P.order
  obtain ⟨t', hrun, _, _, hpairs⟩ := run_ok hp ops (Tree.new P.order : Tree K V) rfl hinv0 hdel
  rw [hpairs0] at hrun hpairs
  obtain ⟨n, c', hn, hunf, hdead, htree, hown, rs, hrets, hall, hcbs⟩ := solo_run_new P ops t' _ hrun
  exact ⟨n, c', hn, hunf, hdead, hown, by rw [htree]; exact hpairs, rs, hrets, hall, hcbs⟩

end Gobptree.Conc
