/-
  Monotonicity of `WF` in its bounds, the pairs below a list of
  (separator, child) entries (`pairsE`) and their key bounds.
-/
import Gobptree.Proofs.WFLemmas

namespace Gobptree

variable {K V : Type} {lt : K → K → Bool}

theorem WF_mono_hi (h : SWO lt) {o : Nat} : ∀ {d : Nat} {m : Nat} {lo hi hi' : Option K} {n : Node K V d},
    hiLe lt hi hi' → WF lt o d m lo hi n → WF lt o d m lo hi' n := by
  intro d
  induction d with
  | zero =>
    intro m lo hi hi' n hh hw
    obtain ⟨a, b, c, e, f⟩ := hw
    exact ⟨a, b, c, e, fun k hk => ⟨(f k hk).1, ltO_mono h hh (f k hk).2⟩⟩
  | succ d ih =>
    intro m lo hi hi' n hh hw
    obtain ⟨a, b, c, e, f, g⟩ := hw
    refine ⟨a, b, c, e, f, ?_⟩
    exact Kids_mono_hi (R := RWF lt o d) h (fun a b b' c hb hr => ih hb hr) hh _ g

theorem WF_mono_lo (h : SWO lt) {o : Nat} {d : Nat} {m : Nat} {lo lo' hi : Option K} {n : Node K V d}
    (hh : loLe lt lo' lo) (hw : WF lt o d m lo hi n) : WF lt o d m lo' hi n := by
  cases d with
  | zero =>
    obtain ⟨a, b, c, e, f⟩ := hw
    exact ⟨a, b, c, e, fun k hk => ⟨leO_mono h hh (f k hk).1, (f k hk).2⟩⟩
  | succ d =>
    obtain ⟨a, b, c, e, f, g⟩ := hw
    exact ⟨a, b, c, e, fun k hk => leO_mono h hh (f k hk), g⟩

section zipped
variable {C : Type}

theorem map_snd_zip_eq (runts : List K) (kids : List C) (hlen : runts.length = kids.length) :
    (runts.zip kids).map Prod.snd = kids :=
  List.map_snd_zip (Nat.le_of_eq hlen.symm)

theorem map_fst_zip_eq (runts : List K) (kids : List C) (hlen : runts.length = kids.length) :
    (runts.zip kids).map Prod.fst = runts :=
  List.map_fst_zip (Nat.le_of_eq hlen)

end zipped

def pairsE {d : Nat} (es : List (K × Node K V d)) : List (K × V) :=
  es.flatMap (fun e => Node.pairs e.2)

theorem pairsE_append {d : Nat} (a b : List (K × Node K V d)) : pairsE (a ++ b) = pairsE a ++ pairsE b := by
  simp [pairsE]

theorem pairsE_cons {d : Nat} (k : K) (c : Node K V d) (b : List (K × Node K V d)) :
    pairsE ((k, c) :: b) = Node.pairs c ++ pairsE b := by
  simp [pairsE]

theorem pairsE_zip {d : Nat} (r : List K) (c : List (Node K V d)) (hlen : r.length = c.length) :
    pairsE (r.zip c) = c.flatMap (Node.pairs (d := d)) := by
  unfold pairsE
  conv => rhs; rw [← map_snd_zip_eq r c hlen]
  rw [List.flatMap_map]

theorem pairs_inner_eq {d : Nat} (i : Inner K (Node K V d)) (hlen : i.runts.length = i.kids.length) :
    Node.pairs (d := d + 1) i = pairsE (i.runts.zip i.kids) :=
  (pairsE_zip i.runts i.kids hlen).symm

theorem Kids_pairs_bounds (h : SWO lt) {d : Nat} {R : Option K → Option K → Node K V d → Prop}
    (hi : Option K) (es : List (K × Node K V d))
    (hR : ∀ e ∈ es, ∀ a b, R a b e.2 → ∀ p ∈ Node.pairs e.2, leO lt a p.1 ∧ ltO lt p.1 b)
    (hk : Kids lt R hi es) :
    ∀ p ∈ pairsE es, ltO lt p.1 hi ∧ ∀ e, es.head? = some e → lt p.1 e.1 = false := by
  induction es with
  | nil => intro p hp; simp [pairsE] at hp
  | cons e es ih =>
    obtain ⟨k, c⟩ := e
    obtain ⟨hc, hklt, hrest⟩ := hk
    intro p hp
    rw [pairsE_cons] at hp
    rcases List.mem_append.mp hp with hpc | hpr
    · have hb := hR (k, c) List.mem_cons_self _ _ hc p hpc
      -- p.1 < next separator < hi
      exact ⟨ltO_nextLo h hi es hrest p.1 hb.2, fun e he => by cases he; exact hb.1⟩
    · obtain ⟨h1, h2⟩ := ih (fun e he => hR e (List.mem_cons_of_mem _ he)) hrest p hpr
      refine ⟨h1, fun e he => ?_⟩
      cases he
      cases es with
      | nil => simp [pairsE] at hpr
      | cons e2 es2 =>
        -- k < next separator ≤ p.1
        obtain ⟨k2, c2⟩ := e2
        exact h.le_of_lt (h.lt_of_lt_of_le hklt (h2 _ rfl))

theorem WF_pairs_bounds (h : SWO lt) {o : Nat} : ∀ {d : Nat} {m : Nat} {lo hi : Option K} {n : Node K V d},
    WF lt o d m lo hi n → ∀ p ∈ Node.pairs n, leO lt lo p.1 ∧ ltO lt p.1 hi := by
  intro d
  induction d with
  | zero =>
    intro m lo hi n hw p hp
    exact hw.2.2.2.2 p.1 (List.of_mem_zip hp).1
  | succ d ih =>
    intro m lo hi n hw p hp
    obtain ⟨hlen, _, _, _, hlo, hk⟩ := hw
    rw [pairs_inner_eq n hlen] at hp
    obtain ⟨hb1, hb2⟩ := Kids_pairs_bounds h hi _ (fun _ _ _ _ hc => ih hc) hk p hp
    refine ⟨?_, hb1⟩
    -- lo ≤ first separator ≤ p.1
    cases hz : n.runts.zip n.kids with
    | nil => rw [hz] at hp; simp [pairsE] at hp
    | cons e es =>
      have hh : n.runts.head? = some e.1 := by
        rw [← map_fst_zip_eq n.runts n.kids hlen, hz]; rfl
      exact leO_trans h (hlo _ hh) (hb2 e (by rw [hz]; rfl))

end Gobptree
