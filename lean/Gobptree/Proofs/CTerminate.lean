/-
  GLOBAL termination of the small-step model: every execution is finite, with an explicit bound.

  A thread that waits for a held mutex is not enabled (no spinning), every own step of a thread
  moves it strictly down a height-based variant (`CProgress`), and the variant of a thread is
  not disturbed by the others (`other_step_measure_eq`) except at the very first park of an
  operation.  The one subtlety is that the depth of the tree — on which the variant's range
  depends — may GROW: a root split, performed by an Insert/Update in its root step.  Each
  Insert/Update does that at most once, so

      depthBound c = depth + #{Insert/Update operations not yet past their root step}

  never increases (`step_depthBound`), and with `w ≥ 3 · depthBound c + 8` the potential

      pot w c = Σ_threads  [ (#operations after the current one) · (w + 1) + cur ],
      cur = w                                 at `want rootMutex _` (first park of an operation),
            opMeasure tree park + 1  (≤ w)    at every other park inside an operation,
      (not started: `#operations · (w + 1) + 1`; finished: `0`)

  strictly decreases in EVERY step of EVERY thread (`step_pot`).  Hence no schedule runs for more
  than `termBound c = pot (3 · depthBound c + 8) c` steps (`executions_bounded_explicit`), and every maximal
  execution ends with all operations returned (`all_operations_return`, by `CInv.not_deadlocked`).
-/
import Gobptree.Proofs.CTerminateBlocks
import Gobptree.Proofs.ConcRank
import Gobptree.Proofs.CProgress

namespace Gobptree.Conc
open Gobptree

variable {K V : Type}

def upCount (l : List (COp K V)) : Nat := l.countP isUp

/-- Insert/Update operations of a thread that have not yet made their root step: the ones not
    yet started, and the current one while its continuation is `upTree`/`upRoot` -/
def thG (th : Thread K V) : Nat :=
  match th.park with
  | .start => upCount th.prog
  | .finished => 0
  | .want _ k => upCount (th.prog.drop (th.pc + 1)) + kontG k
  | .yielded k => upCount (th.prog.drop (th.pc + 1)) + kontG k

def depthBound (c : Config K V) : Nat := c.tree.depth + (c.threads.map thG).sum

theorem thG_finished {th : Thread K V} (h : th.park = .finished) : thG th = 0 := by
  unfold thG; rw [h]

theorem thG_start {th : Thread K V} (h : th.park = .start) : thG th = upCount th.prog := by
  unfold thG; rw [h]

theorem thG_live {th : Thread K V} (h : parkLive th.park) :
    thG th = upCount (th.prog.drop (th.pc + 1)) + parkG th.park := by
  unfold thG
  cases hp : th.park with
  | start => rw [hp] at h; exact absurd h id
  | finished => rw [hp] at h; exact absurd h id
  | want l k => rfl
  | yielded k => rfl

theorem upCount_drop_le (l : List (COp K V)) (m n : Nat) (h : m ≤ n) :
    upCount (l.drop n) ≤ upCount (l.drop m) := by
  have e : l.drop n = (l.drop m).drop (n - m) := by
    rw [List.drop_drop]; congr 1; omega
  unfold upCount
  rw [e]
  exact (List.drop_sublist _ _).countP_le

theorem upCount_drop_op (l : List (COp K V)) (n : Nat) (op : COp K V) (h : l[n]? = some op) :
    upCount (l.drop n) = opG op + upCount (l.drop (n + 1)) := by
  obtain ⟨hn, hget⟩ := List.getElem?_eq_some_iff.1 h
  rw [List.drop_eq_getElem_cons hn, hget]
  unfold upCount opG
  rw [List.countP_cons]
  omega

theorem thG_of_op {t : Nat} {r : Thread K V} {prog : List (COp K V)} (hprog : r.prog = prog) {s1 : St K V}
    {op : COp K V} (hop : prog[r.pc]? = some op) (hst : (startOp t s1 op).2 = .park r.park) {m : Nat} (hm : m ≤ r.pc) :
    thG r ≤ upCount (prog.drop m) ∧ parkLive r.park ∧ r.pc < prog.length := by
  have hlive := startOp_park_live t s1 op _ hst
  have hg := startOp_dep t s1 op
  rw [hst] at hg
  have h1 := upCount_drop_op prog r.pc op hop
  have h2 := upCount_drop_le prog m r.pc hm
  refine ⟨?_, hlive, (List.getElem?_eq_some_iff.1 hop).1⟩
  rw [thG_live hlive, hprog]
  have : flowG (Flow.park r.park) = parkG r.park := rfl
  omega

theorem dep_add {a b u g x : Nat} (h : a ≤ b + g) (hx : x ≤ u) : a + x ≤ b + (u + g) := by omega

theorem dep_mid {a b u p g : Nat} (h : a + p ≤ b + g) : a + (u + p) ≤ b + (u + g) := by omega

theorem own_step_shape {c c' : Config K V} {t : Nat} {th : Thread K V} {r : Thread K V × St K V × Bool}
    (S : Stepped c c' t th r) :
    r.1.prog = th.prog ∧ c'.tree.depth + thG r.1 ≤ c.tree.depth + thG th ∧
    (r.1.park = .finished ∨
      (parkLive r.1.park ∧ ((th.park ≠ .start ∧ r.1.pc = th.pc) ∨
        ((th.park = .start ∨ th.pc < r.1.pc) ∧ r.1.pc < th.prog.length)))) := by
  have hprog := S.rprog
  rcases own_step_src S with ⟨hs, htree, h | ⟨s1, op, hop, hst⟩⟩ | ⟨k, hk, htree, _, hcase⟩
  · exact ⟨hprog, by rw [htree, thG_finished h]; exact Nat.add_le_add_left (Nat.zero_le _) _, Or.inl h⟩
  · have := thG_of_op hprog hop hst (Nat.zero_le _)
    exact ⟨hprog, by rw [htree, thG_start hs]; exact Nat.add_le_add_left this.1 _,
      Or.inr ⟨this.2.1, Or.inr ⟨Or.inl hs, this.2.2⟩⟩⟩
  · have hdep : (resume c.P t (stepSt c t th) k).1.tree.depth + flowG (resume c.P t (stepSt c t th) k).2 ≤
        c.tree.depth + kontG k := resume_dep c.P t (stepSt c t th) k
    have hg : thG th = upCount (th.prog.drop (th.pc + 1)) + kontG k := by
      rw [thG_live (parkLive_iff_kont.2 ⟨k, hk⟩), parkG_kont hk]
    rw [htree, hg]
    rcases hcase with ⟨hfl, hpc⟩ | ⟨_, h | ⟨hlt, s1, op, hop, hst⟩⟩
    · have hlive := resume_park_live c.P t _ k _ hfl
      rw [hfl] at hdep
      refine ⟨hprog, by rw [thG_live hlive, hprog, hpc]; exact dep_mid hdep, Or.inr ⟨hlive, Or.inl ⟨?_, hpc⟩⟩⟩
      intro e; rw [e] at hk; cases hk
    · exact ⟨hprog, by rw [thG_finished h]; exact dep_add (Nat.le_of_add_right_le hdep) (Nat.zero_le _), Or.inl h⟩
    · have := thG_of_op hprog hop hst (m := th.pc + 1) hlt
      exact ⟨hprog, dep_add (Nat.le_of_add_right_le hdep) this.1, Or.inr ⟨this.2.1, Or.inr ⟨Or.inr hlt, this.2.2⟩⟩⟩

theorem sum_set_map {α : Type} (f g : α → Nat) : ∀ (l : List α) (t : Nat) (a a' : α), l[t]? = some a →
    (∀ j b, j ≠ t → l[j]? = some b → g b = f b) → ((l.set t a').map g).sum + f a = (l.map f).sum + g a' := by
  intro l
  induction l with
  | nil => intro t a a' h; cases h
  | cons x l ih =>
    intro t a a' h hoth
    cases t with
    | zero =>
      cases h
      have : l.map g = l.map f := List.map_congr_left fun b hb => by
        obtain ⟨j, hj⟩ := List.getElem?_of_mem hb
        exact hoth (j + 1) b (Nat.succ_ne_zero j) hj
      simp only [List.set_cons_zero, List.map_cons, List.sum_cons, this]
      rw [Nat.add_comm (g a'), Nat.add_right_comm, Nat.add_comm _ (f x)]
    | succ t =>
      have := ih t a a' h fun j b hj hb => hoth (j + 1) b (fun e => hj (Nat.succ.inj e)) hb
      have hx := hoth 0 x (Nat.succ_ne_zero t).symm rfl
      simp only [List.set_cons_succ, List.map_cons, List.sum_cons, hx]
      rw [Nat.add_assoc, this, Nat.add_assoc]

theorem swap_le {d d' g g' S S' : Nat} (hg : d' + g' ≤ d + g) (h : S' + g = S + g') : d' + S' ≤ d + S := by omega

theorem swap_lt {p p' S S' : Nat} (h : S' + p = S + p') (hp : p' < p) : S' < S := by omega

theorem step_depthBound (c c' : Config K V) (t : Nat) (hstep : c.step t = some c') :
    depthBound c' ≤ depthBound c := by
  obtain ⟨th, r, S⟩ := step_stepped hstep
  have hsw := sum_set_map thG thG c.threads t th r.1 S.get fun _ _ _ _ => rfl
  unfold depthBound
  rw [S.threads]
  exact swap_le (own_step_shape S).2.1 hsw

theorem depth_le_depthBound (c : Config K V) : c.tree.depth ≤ depthBound c := Nat.le_add_right _ _

def curPot (w : Nat) (T : Tree K V) : Park K V → Nat
  | .want .tree _ => w
  | .want (.node _) k => kMeasure T k + 1
  | .yielded k => kMeasure T k + 1
  | _ => 0

def thPot (w : Nat) (T : Tree K V) (th : Thread K V) : Nat :=
  match th.park with
  | .start => th.prog.length * (w + 1) + 1
  | .finished => 0
  | .want l k => (th.prog.length - (th.pc + 1)) * (w + 1) + curPot w T (.want l k)
  | .yielded k => (th.prog.length - (th.pc + 1)) * (w + 1) + curPot w T (.yielded k)

def pot (w : Nat) (c : Config K V) : Nat := (c.threads.map (thPot w c.tree)).sum

def termBound (c : Config K V) : Nat := pot (3 * depthBound c + 8) c

theorem thPot_finished {w : Nat} {T : Tree K V} {th : Thread K V} (h : th.park = .finished) : thPot w T th = 0 := by
  unfold thPot; rw [h]

theorem thPot_start {w : Nat} {T : Tree K V} {th : Thread K V} (h : th.park = .start) :
    thPot w T th = th.prog.length * (w + 1) + 1 := by
  unfold thPot; rw [h]

theorem thPot_live {w : Nat} {T : Tree K V} {th : Thread K V} (h : parkLive th.park) :
    thPot w T th = (th.prog.length - (th.pc + 1)) * (w + 1) + curPot w T th.park := by
  unfold thPot
  cases hp : th.park with
  | start => rw [hp] at h; exact absurd h id
  | finished => rw [hp] at h; exact absurd h id
  | want l k => rfl
  | yielded k => rfl

theorem curPot_nt {w : Nat} {T : Tree K V} {p : Park K V} (h : parkNT p = true) : curPot w T p = opMeasure T p + 1 := by
  cases p with
  | start => cases h
  | finished => cases h
  | yielded k => rfl
  | want l k =>
    cases l with
    | tree => cases h
    | node n => rfl

theorem curPot_tree {w : Nat} {T : Tree K V} {p : Park K V} (hl : parkLive p) (h : parkNT p = false) : curPot w T p = w := by
  cases p with
  | start => exact absurd hl id
  | finished => exact absurd hl id
  | yielded k => cases h
  | want l k =>
    cases l with
    | tree => rfl
    | node n => cases h

theorem curPot_le {w : Nat} {T : Tree K V} {p : Park K V} (hl : parkLive p) (h : opMeasure T p + 1 ≤ w) : curPot w T p ≤ w := by
  cases hnt : parkNT p with
  | true => rw [curPot_nt hnt]; exact h
  | false => rw [curPot_tree hl hnt]; exact Nat.le_refl _

theorem curPot_pos {w : Nat} {T : Tree K V} {p : Park K V} (hl : parkLive p) (hw : 1 ≤ w) : 1 ≤ curPot w T p := by
  cases hnt : parkNT p with
  | true => rw [curPot_nt hnt]; omega
  | false => rw [curPot_tree hl hnt]; exact hw

theorem thPot_pos {w : Nat} {T : Tree K V} {th : Thread K V} (hnf : th.park ≠ .finished) (hw : 1 ≤ w) :
    0 < thPot w T th := by
  by_cases hs : th.park = .start
  · rw [thPot_start hs]; exact Nat.succ_pos _
  · have hl := parkLive_of_ne hs hnf
    rw [thPot_live hl]
    exact Nat.lt_of_lt_of_le (curPot_pos hl hw) (Nat.le_add_left _ _)

/-- the potential of a thread orders (operations left, share of the current one)
    lexicographically, because a share never exceeds `w` -/
theorem pot_lex {R R' cur cur' w : Nat} (h : (R' < R ∧ cur' ≤ w) ∨ (R' = R ∧ cur' < cur)) :
    R' * (w + 1) + cur' < R * (w + 1) + cur := by
  rcases h with ⟨hR, hc⟩ | ⟨rfl, hc⟩
  · have h1 : (R' + 1) * (w + 1) ≤ R * (w + 1) := Nat.mul_le_mul_right _ hR
    rw [Nat.succ_mul] at h1
    omega
  · omega

theorem share_lt {d w m : Nat} (hw : 3 * d + 8 ≤ w) (hm : m ≤ 3 * d + 6) : m + 1 < w := by omega

theorem own_step_pot (w : Nat) {c c' : Config K V} {t : Nat} (hstep : c.step t = some c') {th : Thread K V}
    {r : Thread K V × St K V × Bool} (F : CStep c c' t th r) (hw : 3 * c'.tree.depth + 8 ≤ w) :
    thPot w c'.tree r.1 < thPot w c.tree th := by
  obtain ⟨hprog, _, hsh⟩ := own_step_shape F.toStepped
  have hnf := F.nf
  have hm' := share_lt hw (opMeasure_le c' F.inv' r.1 (List.mem_of_getElem? F.own))
  have hw1 : 1 ≤ w := Nat.le_of_lt (Nat.lt_of_le_of_lt (Nat.le_add_left 1 _) hm')
  rcases hsh with h' | ⟨hl', ⟨hs, hpc⟩ | ⟨hlater, hlen⟩⟩
  · rw [thPot_finished h']; exact thPot_pos hnf hw1
  · -- still inside the same operation: its share has gone down
    have hl := parkLive_of_ne hs hnf
    rcases own_step_cases c c' t hstep F.inv th r.1 F.get F.own hs with h | h | ⟨hlt, _, hnt'⟩
    · exact absurd (hpc ▸ h) (Nat.lt_irrefl _)
    · rw [h] at hl'; exact absurd hl' id
    · rw [thPot_live hl, thPot_live hl', hprog, hpc, curPot_nt hnt']
      refine pot_lex (Or.inr ⟨rfl, ?_⟩)
      cases hnt : parkNT th.park with
      | true => rw [curPot_nt hnt]; exact Nat.succ_lt_succ hlt
      -- waiting for `rootMutex` the share is `w`, whatever the depth has become meanwhile: any measure
      -- the operation has once it is under way (at most `3 · depth + 6`) is below it
      | false => rw [curPot_tree hl hnt]; exact hm'
  · -- at a later operation of the program: fewer operations are left
    have hcur' : curPot w c'.tree r.1.park ≤ w := curPot_le hl' (Nat.le_of_lt hm')
    rw [thPot_live hl', hprog]
    by_cases hs : th.park = .start
    · rw [thPot_start hs]
      exact pot_lex (Or.inl ⟨Nat.sub_lt (Nat.lt_of_le_of_lt (Nat.zero_le _) hlen) (Nat.succ_pos _), hcur'⟩)
    · have hlt : th.pc < r.1.pc := hlater.resolve_left hs
      rw [thPot_live (parkLive_of_ne hs hnf)]
      exact pot_lex (Or.inl ⟨Nat.sub_lt_sub_left (Nat.lt_of_le_of_lt (Nat.succ_le_of_lt hlt) hlen)
        (Nat.succ_lt_succ hlt), hcur'⟩)

theorem other_step_pot (w : Nat) (c c' : Config K V) (t j : Nat) (hstep : c.step t = some c') (hinv : CInv c)
    (b : Thread K V) (hj : c.threads[j]? = some b) (hne : j ≠ t) : thPot w c'.tree b = thPot w c.tree b := by
  by_cases hs : b.park = .start
  · rw [thPot_start hs, thPot_start hs]
  · by_cases hf : b.park = .finished
    · rw [thPot_finished hf, thPot_finished hf]
    · have hl := parkLive_of_ne hs hf
      rw [thPot_live hl, thPot_live hl]
      cases hnt : parkNT b.park with
      | true =>
        rw [curPot_nt hnt, curPot_nt hnt, other_step_measure_eq c c' t j hstep hinv b hj hne (parkNT_spec hnt)]
      | false => rw [curPot_tree hl hnt, curPot_tree hl hnt]

theorem step_pot (w : Nat) (c c' : Config K V) (t : Nat) (hstep : c.step t = some c') (hinv : CInv c)
    (hw : 3 * depthBound c + 8 ≤ w) : pot w c' < pot w c := by
  obtain ⟨th, r, F⟩ := step_cstep hstep hinv
  have hw' : 3 * c'.tree.depth + 8 ≤ w :=
    Nat.le_trans (Nat.add_le_add_right (Nat.mul_le_mul_left 3
      (Nat.le_trans (depth_le_depthBound c') (step_depthBound c c' t hstep))) 8) hw
  have hown := own_step_pot w hstep F hw'
  have hsw := sum_set_map (thPot w c.tree) (thPot w c'.tree) c.threads t th r.1 F.get
    fun j b hj hb => other_step_pot w c c' t j hstep hinv b hb hj
  unfold pot
  rw [F.threads]
  exact swap_lt hsw hown

theorem run_pot (w : Nat) : ∀ (ts : List Nat) (c c' : Config K V), CInv c → 3 * depthBound c + 8 ≤ w →
    c.run ts = (c', none) → ts.length + pot w c' ≤ pot w c := by
  intro ts c c' hinv hw hrun
  revert hinv hw
  refine run_induct (M := fun ts c c' => CInv c → 3 * depthBound c + 8 ≤ w → ts.length + pot w c' ≤ pot w c)
    (fun c _ _ => by simp) ?_ ts c c' hrun
  intro t ts c c1 c' hs _ ih hinv hw
  have hD := step_depthBound c c1 t hs
  have h1 := step_pot w c c1 t hs hinv hw
  have h2 := ih (step_cinv blocks_ok c c1 t hs hinv).1 (by omega)
  simp only [List.length_cons]
  omega

theorem executions_bounded_inv (c : Config K V) (hinv : CInv c) (ts : List Nat) (c' : Config K V)
    (hrun : c.run ts = (c', none)) : ts.length ≤ termBound c := by
  have := run_pot (3 * depthBound c + 8) ts c c' hinv (Nat.le_refl _) hrun
  unfold termBound
  omega

theorem executions_bounded_explicit (P : Params K) (tree : Tree K V) (progs : List (List (COp K V)))
    (ht : TreeOk none tree) (ho : tree.order = P.order) (hp : PadOk P) (hd : Disciplined progs)
    (hdel : 4 ≤ tree.order ∨ NoDelete progs)
    (c : Config K V) (hr : Reachable (Config.init P tree progs) c)
    (ts : List Nat) (c' : Config K V) (hrun : c.run ts = (c', none)) : ts.length ≤ termBound c :=
  executions_bounded_inv c (reachable_cinv P tree progs ht ho hp hd hdel c hr) ts c' hrun

theorem executions_bounded (P : Params K) (tree : Tree K V) (progs : List (List (COp K V)))
    (ht : TreeOk none tree) (ho : tree.order = P.order) (hp : PadOk P) (hd : Disciplined progs)
    (hdel : 4 ≤ tree.order ∨ NoDelete progs)
    (c : Config K V) (hr : Reachable (Config.init P tree progs) c) :
    ∃ B : Nat, ∀ (ts : List Nat) (c' : Config K V), c.run ts = (c', none) → ts.length ≤ B :=
  ⟨termBound c, fun ts c' hrun => executions_bounded_explicit P tree progs ht ho hp hd hdel c hr ts c' hrun⟩

theorem CInv.not_deadlocked {c : Config K V} (hinv : CInv c) (hfin : FinishedClean c) (hu : c.unfinished = true) :
    c.enabledSet ≠ [] :=
  ranked_not_deadlocked (posRank c.tree) c hinv.s.owner (sinv_ranked c hinv.s) hfin hu

theorem all_operations_return (P : Params K) (tree : Tree K V) (progs : List (List (COp K V)))
    (ht : TreeOk none tree) (ho : tree.order = P.order) (hp : PadOk P) (hd : Disciplined progs)
    (hdel : 4 ≤ tree.order ∨ NoDelete progs)
    (c : Config K V) (hr : Reachable (Config.init P tree progs) c)
    (ts : List Nat) (c' : Config K V) (hrun : c.run ts = (c', none)) (hstuck : c'.enabledSet = [])
    (hfin : FinishedClean c') : c'.unfinished = false := by
  have hinv := reachable_cinv P tree progs ht ho hp hd hdel c' (reachable_of_run _ ts c c' hr hrun)
  cases hu : c'.unfinished with
  | false => rfl
  | true => exact absurd hstuck (hinv.not_deadlocked hfin hu)

theorem enabled_step (c : Config K V) (t : Nat) (h : t ∈ c.enabledSet) : ∃ c', c.step t = some c' := by
  unfold Config.enabledSet at h
  obtain ⟨_, h2⟩ := List.mem_filter.1 h
  cases hth : c.threads[t]? with
  | none => rw [hth] at h2; cases h2
  | some th => rw [hth] at h2; exact step_of_enabled hth h2

theorem sum_map_le_mul {α : Type} (f g : α → Nat) (k : Nat) : ∀ (l : List α), (∀ x ∈ l, f x ≤ g x * k) →
    (l.map f).sum ≤ (l.map g).sum * k := by
  intro l
  induction l with
  | nil => intro _; simp
  | cons a l ih =>
    intro h
    have h1 := h a (by simp)
    have h2 := ih (fun x hx => h x (by simp [hx]))
    simp only [List.map_cons, List.sum_cons, Nat.add_mul]
    omega

/-- the bound in closed form: at most `3 · depthBound c + 9` steps per operation (and per thread
    start), where `depthBound c ≤ depth + number of Insert/Update operations of the programs` -/
theorem termBound_le (c : Config K V) (hinv : CInv c) :
    termBound c ≤ (c.threads.map fun th => th.prog.length + 1).sum * (3 * depthBound c + 9) := by
  unfold termBound pot
  have e : 3 * depthBound c + 9 = (3 * depthBound c + 8) + 1 := rfl
  rw [e]
  generalize hw : 3 * depthBound c + 8 = w
  apply sum_map_le_mul
  intro th hth
  have hm : opMeasure c.tree th.park ≤ 3 * depthBound c + 6 :=
    Nat.le_trans (opMeasure_le c hinv th hth)
      (Nat.add_le_add_right (Nat.mul_le_mul_left 3 (depth_le_depthBound c)) 6)
  rw [Nat.succ_mul th.prog.length (w + 1)]
  by_cases hs : th.park = .start
  · rw [thPot_start hs]; exact Nat.add_le_add_left (Nat.le_add_left 1 w) _
  · by_cases hf : th.park = .finished
    · rw [thPot_finished hf]; exact Nat.zero_le _
    · have hl := parkLive_of_ne hs hf
      have hc := curPot_le (w := w) (T := c.tree) hl (Nat.le_of_lt (share_lt (Nat.le_of_eq hw) hm))
      rw [thPot_live hl]
      exact Nat.add_le_add (Nat.mul_le_mul_right _ (Nat.sub_le _ _)) (Nat.le_succ_of_le hc)

theorem no_infinite_execution (c : Config K V) (hinv : CInv c) :
    ¬ ∃ f : Nat → Nat, ∀ n, (c.run ((List.range n).map f)).2 = none := by
  intro ⟨f, hf⟩
  have h := hf (termBound c + 1)
  have hrun : c.run ((List.range (termBound c + 1)).map f) =
      ((c.run ((List.range (termBound c + 1)).map f)).1, none) := by
    rw [← h]
  have := executions_bounded_inv c hinv _ _ hrun
  simp only [List.length_map, List.length_range] at this
  omega

/-- the bound is computable: two threads on a fresh tree of order 4 -/
example : termBound (Config.init (Params.mk (fun a b : Nat => decide (a < b)) (fun _ => some 0) 4) (Tree.new 4 : Tree Nat Nat)
    [[COp.ins 1 1, COp.get 1], [COp.del 1]]) = 38 := by decide

end Gobptree.Conc

#print axioms Gobptree.Conc.step_depthBound
#print axioms Gobptree.Conc.step_pot
#print axioms Gobptree.Conc.executions_bounded_inv
#print axioms Gobptree.Conc.executions_bounded_explicit
#print axioms Gobptree.Conc.executions_bounded
#print axioms Gobptree.Conc.all_operations_return
#print axioms Gobptree.Conc.termBound_le
#print axioms Gobptree.Conc.no_infinite_execution
