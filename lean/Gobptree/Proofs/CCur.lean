/-
  C04: cursor steps are atomic successor queries.  The audits of the theorems Props/C04 rests on.
-/
import Gobptree.Proofs.CCurExec

#print axioms Gobptree.Conc.Tree.abs_sorted
#print axioms Gobptree.Conc.CurPosW.suffix
#print axioms Gobptree.Conc.CurPos.aheadSpec
#print axioms Gobptree.Conc.CurPosW.aheadSpec
#print axioms Gobptree.Conc.CurPosW.head_least
#print axioms Gobptree.Conc.CurPosW.ahead_nil_iff
#print axioms Gobptree.Conc.CurPosW.strengthen
#print axioms Gobptree.Conc.resume_newScanner
#print axioms Gobptree.Conc.scan_inleaf
#print axioms Gobptree.Conc.scan_park
#print axioms Gobptree.Conc.scan_exhaust
#print axioms Gobptree.Conc.pair_spec
#print axioms Gobptree.Conc.resume_hop
#print axioms Gobptree.Conc.step_stable_routes
#print axioms Gobptree.Conc.other_curPosW
#print axioms Gobptree.Conc.step_cursorPosW
#print axioms Gobptree.Conc.reachable_cursorPosW
#print axioms Gobptree.Conc.reachable_cursorPos
#print axioms Gobptree.Conc.stepExec_inv
#print axioms Gobptree.Conc.exec_scan
#print axioms Gobptree.Conc.exec_pair
#print axioms Gobptree.Conc.step_newScanner
#print axioms Gobptree.Conc.step_hop
