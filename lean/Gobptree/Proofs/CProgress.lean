/-
  Variant argument for "every operation eventually returns".  `opMeasure c.tree th.park` bounds
  the number of own steps the current operation of a parked thread still takes: an own step
  completes the operation or strictly decreases it (`own_step_progress`); steps of other threads
  leave it unchanged except at the very first park of an operation, `want .tree _`, where the
  thread holds nothing yet and the depth may grow under it (`other_step_measure_eq`,
  `tree_park_leaves`); it is at most `3 * depth + 6` (`opMeasure_le`).  So an operation that
  acquired `rootMutex` in a tree of depth `d` returns after at most `3 * d + 6` further own steps.
-/
import Gobptree.Proofs.CProgressBlocks
import Gobptree.Proofs.CSFinal

namespace Gobptree.Conc
open Gobptree

variable {K V : Type}

theorem own_step_cases (c c' : Config K V) (t : Nat) (hstep : c.step t = some c') (hinv : CInv c)
    (th th' : Thread K V) (ht : c.threads[t]? = some th) (ht' : c'.threads[t]? = some th')
    (hp : th.park ≠ .start) :
    th.pc < th'.pc ∨ th'.park = .finished ∨
      (opMeasure c'.tree th'.park < opMeasure c.tree th.park ∧ th'.pc = th.pc ∧ parkNT th'.park = true) := by
  obtain ⟨r, S⟩ := step_stepped_at hstep ht
  cases S.the' ht'
  rcases own_step_src S with ⟨hs, _⟩ | ⟨k, hk, htree, _, ⟨hfl, hpc⟩ | ⟨_, h | ⟨hlt, _⟩⟩⟩
  · exact absurd hs hp
  · have hks := (parkKontOk_kont hk _).mp (hinv.s.threads th (List.mem_of_getElem? ht)).1
    refine Or.inr (Or.inr ⟨?_, hpc, (resume_succ hfl).nt⟩)
    rw [htree, opMeasure_kont hk]
    exact (resume_meas c.P t (stepSt c t th) k _ (stepper_pre hinv.s ht hk).1 hks).park hfl
  · exact Or.inr (Or.inl h)
  · exact Or.inl hlt

theorem own_step_progress (c c' : Config K V) (t : Nat) (hstep : c.step t = some c') (hinv : CInv c)
    (th th' : Thread K V) (ht : c.threads[t]? = some th) (ht' : c'.threads[t]? = some th')
    (hp : th.park ≠ .start) :
    th.pc < th'.pc ∨ th'.park = .finished ∨ opMeasure c'.tree th'.park < opMeasure c.tree th.park :=
  (own_step_cases c c' t hstep hinv th th' ht ht' hp).imp_right (Or.imp_right And.left)

theorem tree_park_leaves (c c' : Config K V) (t : Nat) (hstep : c.step t = some c') (hinv : CInv c)
    (th th' : Thread K V) (ht : c.threads[t]? = some th) (ht' : c'.threads[t]? = some th')
    (k : Kont K V) (hp : th.park = .want .tree k) :
    th'.pc = th.pc ∧ c'.tree = c.tree ∧ ∃ k', th'.park = .want (.node c.tree.rootId) k' := by
  obtain ⟨r, S⟩ := step_stepped_at hstep ht
  cases S.the' ht'
  have hlock : kontLock k = some .tree := by
    have := (hinv.s.cfg th (List.mem_of_getElem? ht)).2.2
    rw [hp] at this
    exact this
  rw [S.tree, S.run, runThread_want _ _ _ _ hp]
  cases k with
  | roTree sc key => rw [resume, threadLoop_at_park]; exact ⟨rfl, rfl, _, rfl⟩
  | upTree key f y => rw [resume, threadLoop_at_park]; exact ⟨rfl, rfl, _, rfl⟩
  | delTree key => rw [resume, threadLoop_at_park]; exact ⟨rfl, rfl, _, rfl⟩
  | _ => cases hlock

theorem kMeasure_congr {T T' : Tree K V} (k : Kont K V) (hnt : kontLock k ≠ some Lk.tree)
    (hd : Lk.tree ∈ kontHeld k → T'.depth = T.depth)
    (hl : ∀ id, Lk.node id ∈ kontHeld k → T'.look id = T.look id) :
    kMeasure T' k = kMeasure T k := by
  cases k with
  | roTree _ _ | upTree _ _ _ | delTree _ => exact absurd rfl hnt
  | roNode sc key hold want =>
    cases hold with
    | tree => simp only [kMeasure, hd (List.mem_cons_self ..)]
    | node p => simp only [kMeasure, hgt_congr (hl p (List.mem_cons_self ..))]
  | upRoot _ _ _ _ | delRoot _ _ | delLeft _ _ _ _ _ _ | delChild _ _ _ _ _ _ _ =>
    simp only [kMeasure, hd (List.mem_cons_self ..)]
  | upRootSib _ _ _ n _ | upSib _ _ _ _ n _ =>
    simp only [kMeasure, hgt_congr (hl n (List.mem_cons_of_mem _ (List.mem_cons_self ..)))]
  | upChild _ _ _ n _ _ => simp only [kMeasure, hgt_congr (hl n (List.mem_cons_self ..))]
  | upCallback _ _ _ _ | delRight _ _ _ _ _ | hop _ _ | paused => rfl

theorem Kept.measure {T T' : Tree K V} {b : Thread K V} (F : Kept T T' b) (hok : ThreadOk b)
    (hnt : parkWant b.park ≠ some Lk.tree) : opMeasure T' b.park = opMeasure T b.park := by
  have hheld : ∀ l ∈ parkHeld b.park, l ∈ b.held := fun l hl => parkHeld_sub_held hok l (List.mem_append_left _ hl)
  have hd : Lk.tree ∈ parkHeld b.park → T'.depth = T.depth := fun h => (F.root (hheld _ h)).2
  have hl : ∀ id, Lk.node id ∈ parkHeld b.park → T'.look id = T.look id := fun id h => F.look id (Or.inl (hheld _ h))
  have hlock := hok.2.2
  cases hp : b.park with
  | start => rfl
  | finished => rfl
  | want l k =>
    rw [hp] at hd hl hlock hnt
    exact kMeasure_congr k (fun e => hnt (hlock.symm.trans e)) hd hl
  | yielded k =>
    rw [hp] at hd hl hlock
    exact kMeasure_congr k (fun e => by rw [show kontLock k = none from hlock] at e; cases e) hd hl

theorem other_step_measure_eq (c c' : Config K V) (t j : Nat) (hstep : c.step t = some c') (hinv : CInv c)
    (b : Thread K V) (hj : c.threads[j]? = some b) (hne : j ≠ t)
    (hnt : parkWant b.park ≠ some Lk.tree) :
    opMeasure c'.tree b.park = opMeasure c.tree b.park :=
  let ⟨_, _, F⟩ := step_cstep hstep hinv
  (F.kept hne hj).measure (hinv.s.cfg b (List.mem_of_getElem? hj)) hnt

theorem other_step_measure (c c' : Config K V) (t j : Nat) (hstep : c.step t = some c') (hinv : CInv c)
    (b : Thread K V) (hj : c.threads[j]? = some b) (hne : j ≠ t)
    (hnt : parkWant b.park ≠ some Lk.tree) :
    opMeasure c'.tree b.park ≤ opMeasure c.tree b.park :=
  Nat.le_of_eq (other_step_measure_eq c c' t j hstep hinv b hj hne hnt)

theorem mul3_add_le {h d c : Nat} (hh : h ≤ d) (hc : c ≤ 6) : 3 * h + c ≤ 3 * d + 6 :=
  Nat.add_le_add (Nat.mul_le_mul_left 3 hh) hc

theorem unwind_le (d n : Nat) : d + 2 + 2 * (d - n) + 1 ≤ 3 * d + 6 := by omega

theorem frames_le {h n d : Nat} (e : h + n = d) : n + 1 ≤ 3 * d + 6 := by omega

theorem opMeasure_le (c : Config K V) (hinv : CInv c) (th : Thread K V) (hth : th ∈ c.threads) :
    opMeasure c.tree th.park ≤ 3 * c.tree.depth + 6 := by
  have hi := hinv.s.tree.ids
  have hks := (hinv.s.threads th hth).1
  have key : ∀ k, KontOk c.tree k → kMeasure c.tree k ≤ 3 * c.tree.depth + 6 := by
    intro k hk
    cases k with
    | roTree _ _ | upTree _ _ _ | delTree _ => exact Nat.le_refl _
    | roNode sc key hold want =>
      cases hold with
      | tree => exact mul3_add_le (Nat.le_refl _) (by decide)
      | node p => exact mul3_add_le (c := 0) (hgt_le_depth c.tree p) (by decide)
    | upRoot _ _ _ _ | delRoot _ _ => exact mul3_add_le (Nat.le_refl _) (by decide)
    | upRootSib _ _ _ n _ | upSib _ _ _ _ n _ => exact mul3_add_le (hgt_le_depth c.tree n) (by decide)
    | upChild _ _ _ n _ _ => exact mul3_add_le (c := 0) (hgt_le_depth c.tree n) (by decide)
    | upCallback _ _ _ _ | hop _ _ | paused => exact Nat.zero_le _
    | delLeft _ frames _ _ _ _ => exact unwind_le _ _
    | delChild _ frames _ _ _ _ _ => exact Nat.le_trans (Nat.le_succ _) (unwind_le _ frames.length)
    | delRight key rest fr right root =>
      obtain ⟨hr, ⟨_, _, hrest⟩, _, _⟩ := hk
      subst hr
      exact frames_le (frames_len hi rest fr.node hrest)
  cases hp : th.park with
  | start => exact Nat.zero_le _
  | finished => exact Nat.zero_le _
  | want l k => rw [hp] at hks; exact key k hks
  | yielded k => rw [hp] at hks; exact key k hks

theorem step_thread (c c' : Config K V) (t : Nat) (hstep : c.step t = some c') (j : Nat) (b : Thread K V)
    (hj : c.threads[j]? = some b) (hns : b.park ≠ .start) :
    ∃ b', c'.threads[j]? = some b' ∧ b.pc ≤ b'.pc ∧ (b.park = .finished → b'.park = .finished) ∧
      b'.park ≠ .start ∧ (j ≠ t → b' = b) := by
  obtain ⟨th, r, S⟩ := step_stepped hstep
  by_cases e : j = t
  · subst e
    cases S.the hj
    rcases own_step_src S with ⟨hs, _⟩ | ⟨k, hk, _, hpc, hcase⟩
    · exact absurd hs hns
    · refine ⟨r.1, S.own, hpc, fun hf => (by rw [hf] at hk; cases hk), ?_, fun h => absurd rfl h⟩
      have live_ne : parkLive r.1.park → r.1.park ≠ .start := by
        intro hl e; rw [e] at hl; exact hl
      rcases hcase with ⟨h, _⟩ | ⟨_, h | ⟨_, s1, op, _, h⟩⟩
      · exact live_ne (resume_park_live _ _ _ _ _ h)
      · rw [h]; intro e; cases e
      · exact live_ne (startOp_park_live _ _ _ _ h)
  · exact ⟨b, (S.other e).trans hj, Nat.le_refl _, id, hns, fun _ => rfl⟩

theorem run_thread (j : Nat) : ∀ (ts : List Nat) (c c' : Config K V), c.run ts = (c', none) →
    ∀ b, c.threads[j]? = some b → b.park ≠ .start →
      ∃ b', c'.threads[j]? = some b' ∧ b.pc ≤ b'.pc ∧ (b.park = .finished → b'.park = .finished) := by
  refine run_induct (fun c b hj _ => ⟨b, hj, Nat.le_refl _, id⟩) ?_
  intro t ts c c1 c' hs _ ih b hj hns
  obtain ⟨b1, hj1, hpc1, hfin1, hns1, _⟩ := step_thread c c1 t hs j b hj hns
  obtain ⟨b', hj', hpc', hfin'⟩ := ih b1 hj1 hns1
  exact ⟨b', hj', Nat.le_trans hpc1 hpc', fun h => hfin' (hfin1 h)⟩

/-- **an operation takes boundedly many own steps.**  Along every schedule from a configuration
    satisfying the invariant, as long as thread `j` (past its acquisition of `rootMutex`) is
    still inside the same operation, the number of its own steps so far plus its current
    measure is at most its initial measure. -/
theorem own_steps_bounded (j : Nat) : ∀ (ts : List Nat) (c c' : Config K V), CInv c → c.run ts = (c', none) →
    ∀ b b', c.threads[j]? = some b → c'.threads[j]? = some b' →
      parkWant b.park ≠ some Lk.tree → b.park ≠ .start →
      b'.pc = b.pc → b'.park ≠ .finished →
      ts.count j + opMeasure c'.tree b'.park ≤ opMeasure c.tree b.park := by
  intro ts c c' hinv hrun
  revert hinv
  refine run_induct (M := fun ts c c' => CInv c → ∀ b b', c.threads[j]? = some b → c'.threads[j]? = some b' →
      parkWant b.park ≠ some Lk.tree → b.park ≠ .start → b'.pc = b.pc → b'.park ≠ .finished →
      ts.count j + opMeasure c'.tree b'.park ≤ opMeasure c.tree b.park) ?_ ?_ ts c c' hrun
  · intro c _ b b' hj hj' _ _ _ _
    rw [hj] at hj'
    cases hj'
    simp
  · intro t ts c c1 c' hs hrun ih hinv b b' hj hj' hnt hns hpc hnf
    have hinv1 := (step_cinv blocks_ok c c1 t hs hinv).1
    obtain ⟨b1, hj1, hpc1, _, hns1, hsame⟩ := step_thread c c1 t hs j b hj hns
    obtain ⟨b2, hj2, hpc2, hfin2⟩ := run_thread j ts c1 c' hrun b1 hj1 hns1
    rw [hj'] at hj2
    cases hj2
    by_cases e : j = t
    · subst e
      rcases own_step_cases c c1 j hs hinv b b1 hj hj1 hns with h | h | ⟨hlt, hpceq, hnt1⟩
      · omega
      · exact absurd (hfin2 h) hnf
      · have := ih hinv1 b1 b' hj1 hj' (parkNT_spec hnt1) hns1 (by omega) hnf
        simp only [List.count_cons_self]
        omega
    · have hb1 : b1 = b := hsame e
      subst hb1
      have heq := other_step_measure_eq c c1 t j hs hinv b1 hj e hnt
      have := ih hinv1 b1 b' hj1 hj' hnt hns hpc hnf
      rw [List.count_cons_of_ne (Ne.symm e)]
      omega

theorem own_steps_le (j : Nat) (ts : List Nat) (c c' : Config K V) (hinv : CInv c) (hrun : c.run ts = (c', none))
    (b b' : Thread K V) (hj : c.threads[j]? = some b) (hj' : c'.threads[j]? = some b')
    (hnt : parkWant b.park ≠ some Lk.tree) (hns : b.park ≠ .start)
    (hpc : b'.pc = b.pc) (hnf : b'.park ≠ .finished) :
    ts.count j ≤ 3 * c.tree.depth + 6 := by
  have h1 := own_steps_bounded j ts c c' hinv hrun b b' hj hj' hnt hns hpc hnf
  have h2 := opMeasure_le c hinv b (List.mem_of_getElem? hj)
  omega

end Gobptree.Conc


#print axioms Gobptree.Conc.own_step_cases
#print axioms Gobptree.Conc.own_step_progress
#print axioms Gobptree.Conc.tree_park_leaves
#print axioms Gobptree.Conc.other_step_measure_eq
#print axioms Gobptree.Conc.other_step_measure
#print axioms Gobptree.Conc.opMeasure_le
#print axioms Gobptree.Conc.own_steps_bounded
#print axioms Gobptree.Conc.own_steps_le
