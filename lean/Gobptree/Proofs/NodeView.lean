/-
  A node of any height as `(id, keys, entries, next)`: beside each key a leaf holds a value and
  an inner node a child.  On this view the three sibling operations of Delete are one idea:
  the keys and entries of two adjacent nodes are a pool, and each operation cuts the pool at
  another place (one further right, one further left, at the end), keeping both identities;
  `maybeSplit` cuts one node in two halves.  Each operation has one equation (what it returns
  on nodes of the right form) and one inversion (a success has that form), for both heights.
-/
import Gobptree.Proofs.Slice
import Gobptree.Proofs.Search
import Gobptree.Node

namespace Gobptree

variable {K V : Type}

/-- what stands beside a key in a node of height `d`.  `Ent K V (d + 1)` unfolds to
    `Node K V d`, but `simp only` lemmas and `++` do not see through it: a term keeps one of
    the two spellings. -/
def Ent (K V : Type) : Nat → Type
  | 0 => V
  | d + 1 => Node K V d

namespace Node

def keys : {d : Nat} → Node K V d → List K
  | 0, (l : Leaf K V) => l.keys
  | _ + 1, (i : Inner K _) => i.runts

def ents : {d : Nat} → Node K V d → List (Ent K V d)
  | 0, (l : Leaf K V) => l.vals
  | _ + 1, (i : Inner K _) => i.kids

def nxt : {d : Nat} → Node K V d → Option Nat
  | 0, (l : Leaf K V) => l.next
  | _ + 1, _ => none

def put : {d : Nat} → Node K V d → List K → List (Ent K V d) → Option Nat → Node K V d
  | 0, (l : Leaf K V), ks, es, nx => ({ l with keys := ks, vals := es, next := nx } : Leaf K V)
  | d + 1, (i : Inner K (Node K V d)), ks, es, _ => ({ i with runts := ks, kids := es } : Inner K (Node K V d))

def make : {d : Nat} → Nat → List K → List (Ent K V d) → Option Nat → Node K V d
  | 0, i, ks, es, nx => (Leaf.mk i ks es nx : Leaf K V)
  | d + 1, i, ks, es, _ => (Inner.mk i ks es : Inner K (Node K V d))

theorem id_put {d : Nat} (n : Node K V d) ks es nx : id (put n ks es nx) = id n := by
  cases d <;> rfl

theorem keys_put {d : Nat} (n : Node K V d) ks es nx : keys (put n ks es nx) = ks := by
  cases d <;> rfl

theorem ents_put {d : Nat} (n : Node K V d) ks es nx : ents (put n ks es nx) = es := by
  cases d <;> rfl

theorem id_make {d : Nat} (i : Nat) ks (es : List (Ent K V d)) nx : id (make i ks es nx) = i := by
  cases d <;> rfl

theorem keys_make {d : Nat} (i : Nat) ks (es : List (Ent K V d)) nx : keys (make i ks es nx) = ks := by
  cases d <;> rfl

theorem ents_make {d : Nat} (i : Nat) ks (es : List (Ent K V d)) nx : ents (make i ks es nx) = es := by
  cases d <;> rfl

theorem count_eq_keys {d : Nat} (n : Node K V d) : count n = (keys n).length := by
  cases d <;> rfl

theorem smallest_of_keys : ∀ {d : Nat} (n : Node K V d) (k : K) (ks : List K), keys n = k :: ks → smallest n = .ok k
  | 0, (l : Leaf K V), k, ks, h => by
    show (match l.keys with | [] => throw .noChildren | k :: _ => pure k : R K) = .ok k
    rw [show l.keys = k :: ks from h]; rfl
  | _ + 1, (i : Inner K _), k, ks, h => by
    show (match i.runts with | [] => throw .noChildren | k :: _ => pure k : R K) = .ok k
    rw [show i.runts = k :: ks from h]; rfl

end Node

theorem adoptFromRight_leaf_eval (lid rid : Nat) (lk rk : List K) (lv rv : List V) (k : K) (v : V)
    (ln rn : Option Nat) :
    Node.adoptFromRight (V := V) (d := 0) (Leaf.mk lid lk lv ln) (Leaf.mk rid (k :: rk) (v :: rv) rn) =
      .ok ((Leaf.mk lid (lk ++ [k]) (lv ++ [v]) ln : Leaf K V), (Leaf.mk rid rk rv rn : Leaf K V)) := by
  simp [Node.adoptFromRight, popFrontIdiom_eq]; rfl

theorem adoptFromRight_inner_eval {d : Nat} (lid rid : Nat) (lr rr : List K) (lk rk : List (Node K V d))
    (k : K) (c : Node K V d) :
    Node.adoptFromRight (V := V) (d := d + 1) (Inner.mk lid lr lk) (Inner.mk rid (k :: rr) (c :: rk)) =
      .ok ((Inner.mk lid (lr ++ [k]) (lk ++ [c]) : Inner K (Node K V d)),
           (Inner.mk rid rr rk : Inner K (Node K V d))) := by
  simp [Node.adoptFromRight, popFrontIdiom_eq]; rfl

theorem adoptFromLeft_leaf_eval (P : Params K) (hpad : ∀ k, P.pad (some k) ≠ none)
    (lid rid : Nat) (ks rk : List K) (s r0 : K) (vs rv : List V) (v : V) (ln rn : Option Nat)
    (hlen : ks.length = vs.length) :
    Node.adoptFromLeft (V := V) (d := 0) P (Leaf.mk lid (ks ++ [s]) (vs ++ [v]) ln) (Leaf.mk rid (r0 :: rk) rv rn) =
      .ok ((Leaf.mk lid ks vs ln : Leaf K V), (Leaf.mk rid (s :: r0 :: rk) (v :: rv) rn : Leaf K V)) := by
  cases hp : P.pad (some r0) with
  | none => exact absurd hp (hpad r0)
  | some pad => simp [Node.adoptFromLeft, hp, hlen, pushFrontIdiom_eq]; rfl

theorem adoptFromLeft_inner_eval {d : Nat} (P : Params K) (hpad : ∀ k, P.pad (some k) ≠ none)
    (lid rid : Nat) (ks rr : List K) (s r0 : K) (cs rk : List (Node K V d)) (c : Node K V d)
    (hlen : ks.length = cs.length) :
    Node.adoptFromLeft (V := V) (d := d + 1) P (Inner.mk lid (ks ++ [s]) (cs ++ [c])) (Inner.mk rid (r0 :: rr) rk) =
      .ok ((Inner.mk lid ks cs : Inner K (Node K V d)),
           (Inner.mk rid (s :: r0 :: rr) (c :: rk) : Inner K (Node K V d))) := by
  cases hp : P.pad (some r0) with
  | none => exact absurd hp (hpad r0)
  | some pad => simp [Node.adoptFromLeft, hp, hlen, pushFrontIdiom_eq]; rfl

theorem sublist_flatMap {α β : Type} (f : α → List β) {l₁ l₂ : List α} (h : l₁.Sublist l₂) :
    (l₁.flatMap f).Sublist (l₂.flatMap f) := by
  induction h with
  | slnil => simp
  | cons a _ ih =>
    rw [List.flatMap_cons]
    exact ih.trans (List.sublist_append_right _ _)
  | cons_cons a _ ih =>
    rw [List.flatMap_cons, List.flatMap_cons]
    exact List.Sublist.append (List.Sublist.refl _) ih

theorem last_forms {α β : Type} (l : List α) (m : List β) (k : α) (e : β) (hk : l[l.length - 1]? = some k)
    (he : m[l.length - 1]? = some e) :
    l = l.take (l.length - 1) ++ [k] ∧ m = m.take (l.length - 1) ++ e :: m.drop (l.length - 1 + 1) ∧
      (l.take (l.length - 1)).length = (m.take (l.length - 1)).length := by
  obtain ⟨hi, hke⟩ := List.getElem?_eq_some_iff.1 hk
  obtain ⟨hj, hee⟩ := List.getElem?_eq_some_iff.1 he
  have h1 := self_form l _ hi
  have h2 := self_form m _ hj
  have hd : l.drop (l.length - 1 + 1) = [] := List.drop_eq_nil_of_le (Nat.le_succ_of_pred_le (Nat.le_refl _))
  rw [hke, hd] at h1
  rw [hee] at h2
  exact ⟨h1, h2, (length_take_of_lt l _ hi).trans (length_take_of_lt m _ hj).symm⟩

namespace Node

theorem adoptFromRight_cons : ∀ {d : Nat} (x y : Node K V d) {k : K} {ks : List K} {e : Ent K V d} {es : List (Ent K V d)},
    keys y = k :: ks → ents y = e :: es →
    adoptFromRight x y = .ok (put x (keys x ++ [k]) (ents x ++ [e]) (nxt x), put y ks es (nxt y))
  | 0, ⟨xid, xk, xv, xn⟩, ⟨yid, yk, yv, yn⟩, k, ks, e, es, hk, he => by
    cases (hk : yk = k :: ks); cases (he : yv = e :: es)
    exact adoptFromRight_leaf_eval xid yid xk ks xv es k e xn yn
  | d + 1, ⟨xid, xk, xv⟩, ⟨yid, yk, yv⟩, k, ks, e, es, hk, he => by
    cases (hk : yk = k :: ks); cases (he : yv = e :: es)
    exact adoptFromRight_inner_eval xid yid xk ks xv es k e

theorem adoptFromRight_inv : ∀ {d : Nat} {x y x' y' : Node K V d}, adoptFromRight x y = .ok (x', y') →
    ∃ k ks e es, keys y = k :: ks ∧ ents y = e :: es ∧
      x' = put x (keys x ++ [k]) (ents x ++ [e]) (nxt x) ∧ y' = put y ks es (nxt y)
  | 0, _, ⟨_, [], _, _⟩, _, _, h => nomatch h
  | 0, _, ⟨_, _ :: _, [], _⟩, _, _, h => nomatch h
  | 0, x, ⟨yid, k :: ks, e :: es, yn⟩, _, _, h => by
    rw [adoptFromRight_cons (d := 0) x ⟨yid, k :: ks, e :: es, yn⟩ rfl rfl] at h
    obtain ⟨h1, h2⟩ := Prod.mk.inj (Except.ok.inj h)
    exact ⟨k, ks, e, es, rfl, rfl, h1.symm, h2.symm⟩
  | d + 1, _, ⟨_, [], _⟩, _, _, h => nomatch h
  | d + 1, _, ⟨_, _ :: _, []⟩, _, _, h => nomatch h
  | d + 1, x, ⟨yid, k :: ks, e :: es⟩, _, _, h => by
    rw [adoptFromRight_cons (d := d + 1) x ⟨yid, k :: ks, e :: es⟩ rfl rfl] at h
    obtain ⟨h1, h2⟩ := Prod.mk.inj (Except.ok.inj h)
    exact ⟨k, ks, e, es, rfl, rfl, h1.symm, h2.symm⟩

theorem adoptFromLeft_snoc (P : Params K) (hpad : ∀ k, P.pad (some k) ≠ none) :
    ∀ {d : Nat} (x y : Node K V d) {k r0 : K} {ks rk : List K} {e : Ent K V d} {es : List (Ent K V d)},
    keys x = ks ++ [k] → ents x = es ++ [e] → ks.length = es.length → keys y = r0 :: rk →
    adoptFromLeft P x y = .ok (put x ks es (nxt x), put y (k :: keys y) (e :: ents y) (nxt y))
  | 0, ⟨xid, xk, xv, xn⟩, ⟨yid, yk, yv, yn⟩, k, r0, ks, rk, e, es, hk, he, hl, hr => by
    cases (hk : xk = ks ++ [k]); cases (he : xv = es ++ [e]); cases (hr : yk = r0 :: rk)
    exact adoptFromLeft_leaf_eval P hpad xid yid ks rk k r0 es yv e xn yn hl
  | d + 1, ⟨xid, xk, xv⟩, ⟨yid, yk, yv⟩, k, r0, ks, rk, e, es, hk, he, hl, hr => by
    cases (hk : xk = ks ++ [k]); cases (he : xv = es ++ [e]); cases (hr : yk = r0 :: rk)
    exact adoptFromLeft_inner_eval P hpad xid yid ks rk k r0 es yv e hl

/-- no invariant is assumed, so `x` may hold more entries than keys (`rest`); parallel arrays
    make `rest = []` -/
theorem adoptFromLeft_inv (P : Params K) : ∀ {d : Nat} {x y x' y' : Node K V d}, adoptFromLeft P x y = .ok (x', y') →
    ∃ ks k es e rest, keys x = ks ++ [k] ∧ ents x = es ++ e :: rest ∧ ks.length = es.length ∧
      x' = put x ks es (nxt x) ∧ y' = put y (k :: keys y) (e :: ents y) (nxt y)
  | 0, (x : Leaf K V), (y : Leaf K V), x', y', h => by
    simp only [adoptFromLeft] at h
    split at h
    · cases h
    · split at h
      · cases h
      · split at h
        · rename_i k e hk he
          cases h
          obtain ⟨h1, h2, h3⟩ := last_forms x.keys x.vals k e hk he
          exact ⟨_, k, _, e, _, h1, h2, h3, rfl, by rw [pushFrontIdiom_eq, pushFrontIdiom_eq]; rfl⟩
        · cases h
  | d + 1, (x : Inner K (Node K V d)), (y : Inner K (Node K V d)), x', y', h => by
    simp only [adoptFromLeft] at h
    split at h
    · cases h
    · split at h
      · cases h
      · split at h
        · rename_i k e hk he
          cases h
          obtain ⟨h1, h2, h3⟩ := last_forms x.runts x.kids k e hk he
          exact ⟨_, k, _, e, _, h1, h2, h3, rfl, by rw [pushFrontIdiom_eq, pushFrontIdiom_eq]; rfl⟩
        · cases h

theorem absorbRight_eq : ∀ {d : Nat} (x y : Node K V d), (d = 0 → nxt x = some (id y)) →
    absorbRight x y = .ok (put x (keys x ++ keys y) (ents x ++ ents y) (nxt y))
  | 0, (_ : Leaf K V), (_ : Leaf K V), h => if_neg (fun hc => hc (h rfl))
  | _ + 1, _, _, _ => rfl

theorem absorbRight_inv : ∀ {d : Nat} {x y m : Node K V d}, absorbRight x y = .ok m →
    (d = 0 → nxt x = some (id y)) ∧ m = put x (keys x ++ keys y) (ents x ++ ents y) (nxt y)
  | 0, (x : Leaf K V), (y : Leaf K V), m, h => by
    by_cases hn : x.next = some y.id
    · rw [absorbRight_eq (d := 0) x y (fun _ => hn)] at h
      exact ⟨fun _ => hn, (Except.ok.inj h).symm⟩
    · exact nomatch (if_pos hn).symm.trans h
  | _ + 1, _, _, _, h => ⟨nofun, (Except.ok.inj h).symm⟩

theorem adoptFromRight_pool {d : Nat} {x y x' y' : Node K V d} (h : adoptFromRight x y = .ok (x', y')) :
    id x' = id x ∧ id y' = id y ∧ ents x' ++ ents y' = ents x ++ ents y := by
  obtain ⟨k, ks, e, es, -, he, rfl, rfl⟩ := adoptFromRight_inv h
  refine ⟨id_put .., id_put .., ?_⟩
  rw [ents_put, ents_put, he, List.append_assoc]; rfl

/-- no invariant is assumed, so `x` may hold entries beyond its keys: those are dropped -/
theorem adoptFromLeft_pool (P : Params K) {d : Nat} {x y x' y' : Node K V d}
    (h : adoptFromLeft P x y = .ok (x', y')) :
    id x' = id x ∧ id y' = id y ∧ (ents x' ++ ents y').Sublist (ents x ++ ents y) := by
  obtain ⟨ks, k, es, e, rest, -, he, -, rfl, rfl⟩ := adoptFromLeft_inv P h
  rw [ents_put, ents_put, he, List.append_assoc]
  exact ⟨id_put .., id_put ..,
    (List.Sublist.refl es).append ((List.Sublist.refl [e]).append (List.sublist_append_right rest _))⟩

theorem absorbRight_pool {d : Nat} {x y m : Node K V d} (h : absorbRight x y = .ok m) :
    id m = id x ∧ ents m = ents x ++ ents y := by
  obtain ⟨-, rfl⟩ := absorbRight_inv h
  exact ⟨id_put .., ents_put ..⟩

def splitNext : (d : Nat) → Nat → Option Nat
  | 0, fresh => some fresh
  | _ + 1, _ => none

theorem maybeSplit_view (o fresh : Nat) {d : Nat} (n : Node K V d) :
    maybeSplit o fresh n =
      if (keys n).length < o then pure (n, none)
      else if (keys n).length < (o >>> 1) + (o >>> 1) ∨ (ents n).length < (o >>> 1) + (o >>> 1) then throw .indexOutOfRange
      else pure (put n ((keys n).take (o >>> 1)) ((ents n).take (o >>> 1)) (splitNext d fresh),
        some (make fresh (((keys n).drop (o >>> 1)).take (o >>> 1)) (((ents n).drop (o >>> 1)).take (o >>> 1)) (nxt n))) := by
  cases d <;> rfl

theorem maybeSplit_inv (o fresh : Nat) {d : Nat} {n l : Node K V d} {r? : Option (Node K V d)}
    (h : maybeSplit o fresh n = .ok (l, r?)) :
    (l = n ∧ r? = none) ∨
    ((o >>> 1) + (o >>> 1) ≤ (keys n).length ∧ (o >>> 1) + (o >>> 1) ≤ (ents n).length ∧
      l = put n ((keys n).take (o >>> 1)) ((ents n).take (o >>> 1)) (splitNext d fresh) ∧
      r? = some (make fresh (((keys n).drop (o >>> 1)).take (o >>> 1)) (((ents n).drop (o >>> 1)).take (o >>> 1)) (nxt n))) := by
  rw [maybeSplit_view] at h
  by_cases h1 : (keys n).length < o
  · rw [if_pos h1] at h
    obtain ⟨e1, e2⟩ := Prod.mk.inj (Except.ok.inj h)
    exact .inl ⟨e1.symm, e2.symm⟩
  · rw [if_neg h1] at h
    by_cases h2 : (keys n).length < (o >>> 1) + (o >>> 1) ∨ (ents n).length < (o >>> 1) + (o >>> 1)
    · rw [if_pos h2] at h; cases h
    · rw [if_neg h2] at h
      obtain ⟨e1, e2⟩ := Prod.mk.inj (Except.ok.inj h)
      exact .inr ⟨Nat.le_of_not_lt fun c => h2 (.inl c), Nat.le_of_not_lt fun c => h2 (.inr c), e1.symm, e2.symm⟩

end Node

theorem halves_sublist {α : Type} (ks : List α) (h : Nat) : (ks.take h ++ (ks.drop h).take h).Sublist ks := by
  have : (ks.take h ++ (ks.drop h).take h).Sublist (ks.take h ++ ks.drop h) :=
    List.Sublist.append (List.Sublist.refl _) (List.take_sublist _ _)
  rwa [List.take_append_drop] at this

theorem length_halves {α : Type} (L : List α) {hh : Nat} (hl : L.length = hh + hh) :
    (L.take hh).length = hh ∧ (L.drop hh).length = hh :=
  ⟨List.length_take_of_le (hl ▸ Nat.le_add_right hh hh), by rw [List.length_drop, hl, Nat.add_sub_cancel]⟩

theorem zip_halves {α β : Type} (ks : List α) (es : List β) {hh : Nat} (hk : ks.length = hh + hh)
    (he : es.length = hh + hh) :
    ks.zip es = (ks.take hh).zip (es.take hh) ++ (ks.drop hh).zip (es.drop hh) := by
  rw [← List.zip_append ((length_halves ks hk).1.trans (length_halves es he).1.symm), List.take_append_drop,
    List.take_append_drop]

theorem halves_cons {α : Type} (L : List α) {hh : Nat} (hpos : 1 ≤ hh) (hl : L.length = hh + hh) :
    (L.take hh).length = hh ∧ (L.drop hh).length = hh ∧
    (∃ a A, L.take hh = a :: A) ∧ ∃ b B, L.drop hh = b :: B :=
  have ⟨h1, h2⟩ := length_halves L hl
  ⟨h1, h2, List.exists_cons_of_length_pos (h1.symm ▸ hpos), List.exists_cons_of_length_pos (h2.symm ▸ hpos)⟩

theorem maybeSplit_lt {d : Nat} (o fresh : Nat) (n : Node K V d) (hc : Node.count n < o) :
    Node.maybeSplit o fresh n = .ok (n, none) := by
  rw [Node.count_eq_keys] at hc
  exact (Node.maybeSplit_view o fresh n).trans (if_pos hc)

theorem half_add_half {o : Nat} (h : o % 2 = 0) : o / 2 + o / 2 = o :=
  (Nat.mul_two _).symm.trans (Nat.div_mul_cancel (Nat.dvd_of_mod_eq_zero h))

/-- a full node with as many entries as keys is cut in the middle: for an even `o` the second
    `take` of `maybeSplit` takes all that is left -/
theorem maybeSplit_full {o : Nat} (hev : o % 2 = 0) (fresh : Nat) {d : Nat} (n : Node K V d)
    (hk : (Node.keys n).length = o) (he : (Node.ents n).length = o) :
    Node.maybeSplit o fresh n = .ok
      (Node.put n ((Node.keys n).take (o / 2)) ((Node.ents n).take (o / 2)) (Node.splitNext d fresh),
       some (Node.make fresh ((Node.keys n).drop (o / 2)) ((Node.ents n).drop (o / 2)) (Node.nxt n))) := by
  have h2 := half_add_half hev
  have hd : ∀ {α : Type} (l : List α), l.length = o → (l.drop (o / 2)).take (o / 2) = l.drop (o / 2) :=
    fun l hl => List.take_of_length_le (Nat.le_of_eq (length_halves l (hl.trans h2.symm)).2)
  rw [Node.maybeSplit_view, shiftRight_one_eq, hk, he, h2, if_neg (Nat.lt_irrefl o),
    if_neg (fun e => e.elim (Nat.lt_irrefl o) (Nat.lt_irrefl o)), hd _ hk, hd _ he]
  rfl

theorem maybeSplit_eval {o : Nat} (hev : o % 2 = 0) (fresh : Nat) {d : Nat} (n : Node K V d)
    (hle : (Node.keys n).length ≤ o) (hp : (Node.keys n).length = (Node.ents n).length) :
    ((Node.keys n).length < o ∧ Node.maybeSplit o fresh n = .ok (n, none)) ∨
    ((Node.keys n).length = o ∧ Node.maybeSplit o fresh n = .ok
      (Node.put n ((Node.keys n).take (o / 2)) ((Node.ents n).take (o / 2)) (Node.splitNext d fresh),
       some (Node.make fresh ((Node.keys n).drop (o / 2)) ((Node.ents n).drop (o / 2)) (Node.nxt n)))) := by
  by_cases hlt : (Node.keys n).length < o
  · exact .inl ⟨hlt, maybeSplit_lt o fresh n (by rw [Node.count_eq_keys]; exact hlt)⟩
  · have hk := Nat.le_antisymm hle (Nat.le_of_not_lt hlt)
    exact .inr ⟨hk, maybeSplit_full hev fresh n hk (hp ▸ hk)⟩

end Gobptree
