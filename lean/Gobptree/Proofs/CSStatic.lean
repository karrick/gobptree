/-
  Static facts about one tree (no step involved): a node has one parent,
  the leaf chain is injective, every identity a continuation mentions is
  a node of the tree, and the conflict lemma behind the `extra` clause of `SInv`
  (`want_extra_conflict`).
-/
import Gobptree.Proofs.CSRank
import Gobptree.Proofs.CSFrame
import Gobptree.Proofs.Slice

namespace Gobptree.Conc
open Gobptree

variable {K V : Type}

def UniqueParent (l : List (Nat × Shallow K V)) : Prop :=
  ∀ (p p' : Nat) (sh sh' : Shallow K V) (i j w : Nat), (p, sh) ∈ l → (p', sh') ∈ l →
    sh.kids[i]? = some w → sh'.kids[j]? = some w → p = p'

theorem forest_kid {d : Nat} (ks : List (Node K V d)) (p : Nat) (sh : Shallow K V) (j c : Nat)
    (hp : (p, sh) ∈ ks.flatMap (flat (d := d))) (hj : sh.kids[j]? = some c) :
    ∃ shc, (c, shc) ∈ ks.flatMap (flat (d := d)) ∧ shc.height + 1 = sh.height ∧ sh.height ≤ d := by
  obtain ⟨k, hk, hpk⟩ := List.mem_flatMap.mp hp
  obtain ⟨shc, hc, hh⟩ := flat_kid k p sh j c hpk hj
  exact ⟨shc, List.mem_flatMap.mpr ⟨k, hk, hc⟩, hh, flat_height_le k _ hpk⟩

theorem forest_unique_parent {d : Nat}
    (ih : ∀ n : Node K V d, ((flat n).map Prod.fst).Nodup → UniqueParent (flat n)) :
    ∀ ks : List (Node K V d), ((ks.flatMap (flat (d := d))).map Prod.fst).Nodup →
      UniqueParent (ks.flatMap (flat (d := d))) := by
  intro ks
  induction ks with
  | nil => intro _ p p' sh sh' i j w hp; simp at hp
  | cons k ks ihl =>
    intro hn p p' sh sh' i j w hp hp' hi hj
    rw [List.flatMap_cons] at hn hp hp'
    rw [List.map_append, List.nodup_append] at hn
    obtain ⟨hn1, hn2, hdis⟩ := hn
    rcases List.mem_append.mp hp with h | h <;> rcases List.mem_append.mp hp' with h' | h'
    · exact ih k hn1 p p' sh sh' i j w h h' hi hj
    · exfalso
      obtain ⟨shc, hc, _⟩ := flat_kid k p sh i w h hi
      obtain ⟨shc', hc', _⟩ := forest_kid ks p' sh' j w h' hj
      exact hdis w (List.mem_map.mpr ⟨_, hc, rfl⟩) w (List.mem_map.mpr ⟨_, hc', rfl⟩) rfl
    · exfalso
      obtain ⟨shc, hc, _⟩ := forest_kid ks p sh i w h hi
      obtain ⟨shc', hc', _⟩ := flat_kid k p' sh' j w h' hj
      exact hdis w (List.mem_map.mpr ⟨_, hc', rfl⟩) w (List.mem_map.mpr ⟨_, hc, rfl⟩) rfl
    · exact ihl hn2 p p' sh sh' i j w h h' hi hj

theorem head_forest_disjoint {d : Nat} (n : Inner K (Node K V d))
    (hn : ((n.kids.flatMap (flat (d := d))).map Prod.fst).Nodup) {i j w p' : Nat} {sh' : Shallow K V}
    (hi : (shallow (d := d + 1) n).kids[i]? = some w)
    (hp' : (p', sh') ∈ n.kids.flatMap (flat (d := d))) (hj : sh'.kids[j]? = some w) : False := by
  obtain ⟨k, hk, rfl⟩ := (shallow_kids_getElem n i w).1 hi
  have h1 : (Node.id k, shallow k) ∈ n.kids.flatMap (flat (d := d)) :=
    List.mem_flatMap.mpr ⟨k, List.mem_of_getElem? hk, self_mem_flat k⟩
  obtain ⟨shc, h2, hh, hle⟩ := forest_kid n.kids p' sh' j _ hp' hj
  have e : shallow k = shc := Option.some.inj ((lookup_of_mem _ _ _ hn h1).symm.trans (lookup_of_mem _ _ _ hn h2))
  have : (shallow k).height = d := shallow_height k
  rw [e] at this
  omega

theorem flat_unique_parent : ∀ {d : Nat} (n : Node K V d),
    ((flat n).map Prod.fst).Nodup → UniqueParent (flat n) := by
  intro d
  induction d with
  | zero =>
    intro n _ p p' sh sh' i j w hp _ hi _
    rw [flat_leaf (n : Leaf K V)] at hp
    simp only [List.mem_singleton, Prod.mk.injEq] at hp
    rw [hp.2, shallow_leaf_kids (n : Leaf K V)] at hi
    simp at hi
  | succ d ih =>
    intro n hn p p' sh sh' i j w hp hp' hi hj
    rw [flat_inner (n : Inner K (Node K V d))] at hn hp hp'
    rw [List.map_cons, List.nodup_cons] at hn
    obtain ⟨_, hn2⟩ := hn
    rcases List.mem_cons.mp hp with h | h <;> rcases List.mem_cons.mp hp' with h' | h'
    · simp only [Prod.mk.injEq] at h h'
      rw [h.1, h'.1]
    · exfalso
      simp only [Prod.mk.injEq] at h
      obtain ⟨_, rfl⟩ := h
      exact head_forest_disjoint (n : Inner K (Node K V d)) hn2 hi h' hj
    · exfalso
      simp only [Prod.mk.injEq] at h'
      obtain ⟨_, rfl⟩ := h'
      exact head_forest_disjoint (n : Inner K (Node K V d)) hn2 hj h hi
    · exact forest_unique_parent ih _ hn2 p p' sh sh' i j w h h' hi hj

theorem kid_unique_parent {t : Tree K V} (hi : IdsOk t) {p p' i j w : Nat}
    (h : t.kidAt p i = some w) (h' : t.kidAt p' j = some w) : p = p' := by
  obtain ⟨sh, hp, hk⟩ := kidAt_look h
  obtain ⟨sh', hp', hk'⟩ := kidAt_look h'
  exact flat_unique_parent t.root hi.1 p p' sh sh' i j w (look_mem hp) (look_mem hp') hk hk'

theorem flatLeaves_nodup {t : Tree K V} (hi : IdsOk t) : ((flatLeaves t.flat).map Prod.fst).Nodup := by
  have hs : (flatLeaves t.flat).Sublist t.flat := List.filter_sublist
  exact (hs.map Prod.fst).nodup hi.1

theorem chain_getElem? {l : List (Nat × Shallow K V)} (hc : Chain l) (i : Nat) (p : Nat × Shallow K V)
    (h : l[i]? = some p) : p.2.next = (l[i + 1]?).map Prod.fst := by
  obtain ⟨hi, rfl⟩ := List.getElem?_eq_some_iff.1 h
  rw [← List.head?_drop]
  exact Chain.next_eq (l.take i) l[i] _ (self_form l i hi ▸ hc)

theorem chain_pred_unique_list (l : List (Nat × Shallow K V)) (hc : Chain l) (hn : (l.map Prod.fst).Nodup)
    (p p' : Nat × Shallow K V) (w : Nat) (hp : p ∈ l) (hp' : p' ∈ l) (hw : p.2.next = some w)
    (hw' : p'.2.next = some w) : p = p' := by
  obtain ⟨i, hi⟩ := List.getElem?_of_mem hp
  obtain ⟨j, hj⟩ := List.getElem?_of_mem hp'
  have e1 : (l.map Prod.fst)[i + 1]? = some w := by
    rw [List.getElem?_map, ← chain_getElem? hc i p hi, hw]
  have e2 : (l.map Prod.fst)[j + 1]? = some w := by
    rw [List.getElem?_map, ← chain_getElem? hc j p' hj, hw']
  have hlt : i + 1 < (l.map Prod.fst).length := (List.getElem?_eq_some_iff.1 e1).1
  have e : i + 1 = j + 1 := (List.getElem?_inj hlt hn).1 (e1.trans e2.symm)
  rw [show i = j by omega] at hi
  exact Option.some.inj (hi.symm.trans hj)

theorem chain_pred_unique {t : Tree K V} (hi : IdsOk t) (hc : ChainOk t) {a b w : Nat} {sha shb : Shallow K V}
    (ha : t.look a = some sha) (ha0 : sha.height = 0) (han : sha.next = some w)
    (hb : t.look b = some shb) (hb0 : shb.height = 0) (hbn : shb.next = some w) : a = b := by
  have := chain_pred_unique_list _ hc (flatLeaves_nodup hi) (a, sha) (b, shb) w
    (leaf_mem_flatLeaves ha ha0) (leaf_mem_flatLeaves hb hb0) han hbn
  exact (Prod.mk.inj this).1

theorem cursor_present {t : Tree K V} {b : Bool} {cursor : Option (Option Nat × Int)}
    (hcur : CursorOk t b cursor) {id : Nat} (h : Lk.node id ∈ cursorLocks cursor) : present t id := by
  cases cursor with
  | none => simp [cursorLocks] at h
  | some p =>
    obtain ⟨leaf?, i⟩ := p
    cases leaf? with
    | none => simp [cursorLocks] at h
    | some leaf =>
      simp only [cursorLocks, List.mem_singleton, Lk.node.injEq] at h
      subst h
      obtain ⟨sh, h1, _⟩ := hcur
      exact ⟨sh, h1⟩

theorem held_present {t : Tree K V} (hi : IdsOk t) (hc : ChainOk t) {k : Kont K V} (hk : KontOk t k) {id : Nat}
    (h : Lk.node id ∈ kontHeld k) : present t id :=
  lockChain_present hi hc _ (kont_lockChain (cur := none) hi hk (by cases k <;> first | rfl | trivial) (.inr rfl)) (.node id)
    (List.mem_append_right _ (List.mem_reverse.2 h))

theorem extra_present {t : Tree K V} (hi : IdsOk t) {k : Kont K V} (hk : KontOk t k) {id : Nat}
    (h : id ∈ kontExtra t k) : present t id := by
  cases k with
  | upRootSib key f y root sib =>
    obtain ⟨⟨sh, hsh, hkids⟩, _⟩ := hk
    simp only [kontExtra, List.mem_cons, List.not_mem_nil, or_false] at h
    rcases h with rfl | rfl
    · exact root_present hi
    · exact (kid_present hi (kids_pair hsh hkids).2).2
  | upSib key f y parent child sib =>
    obtain ⟨⟨i, _, hsi⟩, _⟩ := hk
    cases List.mem_singleton.1 h
    exact (kid_present hi hsi).2
  | _ => exact absurd h List.not_mem_nil

/-- the four ways a continuation comes to wait for a node `w`: under `rootMutex` for the root, under a
    held parent for its child, for a node the stretch itself allocated or was handed (`kontExtra`),
    from the cursor's leaf along `next` -/
theorem want_class {t : Tree K V} (kb : Kont K V) (cb : Option (Option Nat × Int))
    (hkb : KontOk t kb) (hpb : KontPre cb kb) (w : Nat) (hw : kontLock kb = some (Lk.node w)) :
    (Lk.tree ∈ kontHeld kb ∧ w = t.rootId) ∨
    (∃ p i, Lk.node p ∈ kontHeld kb ∧ t.kidAt p i = some w) ∨
    w ∈ kontExtra t kb ∨
    (∃ cur sh, Lk.node cur ∈ cursorLocks cb ∧ t.look cur = some sh ∧ sh.height = 0 ∧ sh.next = some w) := by
  cases kb <;> simp only [kontLock, Option.some.injEq, Lk.node.injEq, reduceCtorEq] at hw <;> subst hw
  case roNode sc key hold want =>
    cases hold with
    | tree => exact Or.inl ⟨List.mem_cons_self .., hkb⟩
    | node p =>
      obtain ⟨i, hk'⟩ : ∃ i, t.kidAt p i = some _ := hkb
      exact Or.inr (Or.inl ⟨p, i, List.mem_cons_self .., hk'⟩)
  case upRoot key f y r => exact Or.inl ⟨List.mem_cons_self .., hkb⟩
  case delRoot key r => exact Or.inl ⟨List.mem_cons_self .., hkb⟩
  case upRootSib key f y root sib => exact Or.inr (Or.inr (Or.inl (List.mem_cons_of_mem _ (List.mem_cons_self ..))))
  case upSib key f y parent child sib => exact Or.inr (Or.inr (Or.inl (List.mem_cons_self ..)))
  case upChild key f y parent index child => exact Or.inr (Or.inl ⟨parent, index, List.mem_cons_self .., hkb.1⟩)
  case delLeft key frames node index left root =>
    obtain ⟨_, hfr, _, hleft, _⟩ := hkb
    refine Or.inr (Or.inl ⟨node, index - 1, ?_, hleft⟩)
    simp only [kontHeld, List.mem_cons]
    exact Or.inr ((FramesOk_top hfr).imp (congrArg Lk.node) id)
  case delChild key frames node index left child root =>
    obtain ⟨_, hfr, hkid, _⟩ := hkb
    refine Or.inr (Or.inl ⟨node, index, ?_, hkid⟩)
    simp only [kontHeld, List.mem_cons, List.mem_append]
    exact Or.inr ((FramesOk_top hfr).imp (congrArg Lk.node) Or.inl)
  case delRight key rest fr right root =>
    obtain ⟨_, ⟨_, _, hrest⟩, hright, _⟩ := hkb
    refine Or.inr (Or.inl ⟨fr.node, fr.index + 1, ?_, hright⟩)
    simp only [kontHeld, framesHeld, List.mem_cons, List.mem_append]
    exact Or.inr ((FramesOk_top hrest).imp (congrArg Lk.node) Or.inl)
  case hop cur next =>
    have hc : cursorLocks cb = [.node cur] := hpb
    obtain ⟨sh, hsh, h0, hn⟩ := hkb
    exact Or.inr (Or.inr (Or.inr ⟨cur, sh, hc ▸ List.mem_cons_self .., hsh, h0, hn⟩))

theorem kont_present {t : Tree K V} (hi : IdsOk t) (hc : ChainOk t) (k : Kont K V) (cursor : Option (Option Nat × Int)) (b : Bool)
    (hk : KontOk t k) (hpre : KontPre cursor k) (hcur : CursorOk t b cursor) (id : Nat)
    (h : Lk.node id ∈ kontHeld k ++ cursorLocks cursor ∨ id ∈ kontExtra t k ∨ kontLock k = some (Lk.node id)) :
    present t id := by
  rcases h with h | h | h
  · rcases List.mem_append.1 h with h | h
    · exact held_present hi hc hk h
    · exact cursor_present hcur h
  · exact extra_present hi hk h
  · have := lockChain_present hi hc _ (kont_lockChain hi hk hpre (.inl (h ▸ Option.some_ne_none _))) (.node id)
    rw [h] at this
    exact this (List.mem_cons_self ..)

theorem hop_sib {t : Tree K V} (hi : IdsOk t) (hc : ChainOk t) {parent child w i i' cur : Nat}
    {sh : Shallow K V} (hci : t.kidAt parent i = some child) (hwi : t.kidAt parent i' = some w) (hlt : i < i')
    (hnext : ∀ sh, t.look child = some sh → sh.height = 0 → sh.next = some w)
    (hcur : t.look cur = some sh) (h0 : sh.height = 0) (hn : sh.next = some w) : cur = child := by
  obtain ⟨shw, hlw, hw0⟩ := next_is_leaf hi hc hcur h0 hn
  obtain ⟨sha, shb, hla, hlb, hh, _⟩ := sib_look hi hci hwi hlt
  rw [hlw] at hlb
  cases hlb
  have ha0 : sha.height = 0 := by omega
  exact chain_pred_unique hi hc hcur h0 hn hla ha0 (hnext sha hla ha0)

/-- if thread B waits for a node that thread A relies on without holding it (`kontExtra`), then
    either they hold a common mutex, or B holds one of A's extras, or the node is B's own
    freshly allocated sibling -/
theorem want_extra_conflict {t : Tree K V} (hi : IdsOk t) (hc : ChainOk t) (ka kb : Kont K V)
    (ca cb : Option (Option Nat × Int)) (hka : KontOk t ka) (hkb : KontOk t kb)
    (hpa : KontPre ca ka) (hpb : KontPre cb kb) (w : Nat)
    (hw : kontLock kb = some (Lk.node w)) (hx : w ∈ kontExtra t ka) :
    (∃ l, l ∈ kontHeld ka ∧ l ∈ kontHeld kb ++ cursorLocks cb) ∨
    (∃ x ∈ kontExtra t ka, Lk.node x ∈ kontHeld kb) ∨
    w ∈ kontExtra t kb := by
  have hcls := want_class kb cb hkb hpb w hw
  cases ka with
  | upSib key f y parent child sib =>
    simp only [kontExtra, List.mem_singleton] at hx
    subst hx
    obtain ⟨⟨i, hci, hsi⟩, _, hnext⟩ := hka
    rcases hcls with ⟨_, hroot⟩ | ⟨p, j, hp, hkid⟩ | hext | ⟨cur, sh, hcur, hl, h0, hn⟩
    · rw [hroot] at hsi
      exact absurd hsi (root_not_kid hi)
    · have e := kid_unique_parent hi hkid hsi
      subst e
      exact Or.inl ⟨.node p, by simp [kontHeld], List.mem_append_left _ hp⟩
    · exact Or.inr (Or.inr hext)
    · have e := hop_sib hi hc hci hsi (Nat.lt_succ_self i) hnext hl h0 hn
      subst e
      exact Or.inl ⟨.node cur, by simp [kontHeld], List.mem_append_right _ hcur⟩
  | upRootSib key f y root sib =>
    obtain ⟨⟨shr, hshr, hkids⟩, _, hnext⟩ := hka
    obtain ⟨hk0, hk1⟩ := kids_pair hshr hkids
    have htree : Lk.tree ∈ kontHeld (Kont.upRootSib (K := K) (V := V) key f y root sib) := by simp [kontHeld]
    simp only [kontExtra, List.mem_cons, List.not_mem_nil, or_false] at hx
    rcases hcls with ⟨hbt, _⟩ | ⟨p, j, hp, hkid⟩ | hext | ⟨cur, sh, hcur, hl, h0, hn⟩
    · exact Or.inl ⟨.tree, htree, List.mem_append_left _ hbt⟩
    · rcases hx with hx | hx
      · rw [hx] at hkid
        exact absurd hkid (root_not_kid hi)
      · subst hx
        have e := kid_unique_parent hi hkid hk1
        subst e
        exact Or.inr (Or.inl ⟨t.rootId, by simp [kontExtra], hp⟩)
    · exact Or.inr (Or.inr hext)
    · rcases hx with hx | hx
      · exfalso
        subst hx
        obtain ⟨shw, hlw, hw0⟩ := next_is_leaf hi hc hl h0 hn
        obtain ⟨shc, _, hh⟩ := kid_look hi hk0 hshr
        rw [hshr] at hlw
        cases hlw
        omega
      · subst hx
        have e := hop_sib hi hc hk0 hk1 (by omega) hnext hl h0 hn
        subst e
        exact Or.inl ⟨.node cur, by simp [kontHeld], List.mem_append_right _ hcur⟩
  | _ => exact absurd hx List.not_mem_nil

end Gobptree.Conc

#print axioms Gobptree.Conc.kid_unique_parent
#print axioms Gobptree.Conc.root_not_kid
#print axioms Gobptree.Conc.next_is_leaf
#print axioms Gobptree.Conc.chain_pred_unique
#print axioms Gobptree.Conc.kont_present
#print axioms Gobptree.Conc.want_extra_conflict
