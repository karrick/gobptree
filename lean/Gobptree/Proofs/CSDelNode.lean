/-
  Node-level operations of Delete (`adoptFromRight`, `adoptFromLeft`, `absorbRight`) on
  nodes with parallel arrays: they do not panic, and what is below the two nodes, taken
  together, is below the results; so the flat views of the results arise from those of the
  arguments by a local rewrite (`Rw`).  Leaf and inner node are read alike, through NodeView;
  only `etail`, what the entries contribute to the flat view, knows the height.
-/
import Gobptree.Proofs.CSUpNode
import Gobptree.Proofs.CSDelList

namespace Gobptree.Conc
open Gobptree

variable {K V : Type}

@[simp] theorem id_mk_inner {d : Nat} (id : Nat) (runts : List K) (kids : List (Node K V d)) :
    Node.id (d := d + 1) (Inner.mk id runts kids : Inner K (Node K V d)) = id := rfl

@[simp] theorem id_mk_leaf (id : Nat) (keys : List K) (vals : List V) (next : Option Nat) :
    Node.id (d := 0) (Leaf.mk id keys vals next : Leaf K V) = id := rfl

theorem next_put {d : Nat} (b n : Node K V d) ks es : (shallow (Node.put n ks es (Node.nxt b))).next = (shallow b).next := by
  cases d <;> rfl

theorem put_facts {d : Nat} (n : Node K V d) (ks : List K) (es : List (Ent K V d)) (nx : Option Nat)
    (hl : ks.length = es.length) (h1 : d ≠ 0 → 1 ≤ ks.length) :
    Node.id (Node.put n ks es nx) = Node.id n ∧ Node.count (Node.put n ks es nx) = ks.length ∧
    Par (shallow (Node.put n ks es nx)) ∧ ftail (Node.put n ks es nx) = etail es := by
  refine ⟨Node.id_put .., ?_, ?_, ?_⟩
  · rw [Node.count_eq_keys, Node.keys_put]
  · rw [par_view, Node.keys_put, Node.ents_put]; exact ⟨hl, h1⟩
  · rw [ftail_view, Node.ents_put]

theorem rw_of_tails {d : Nat} (x y x' y' : Node K V d) (hidx : Node.id x' = Node.id x) (hidy : Node.id y' = Node.id y)
    (hnx : (shallow x').next = (shallow x).next) (hny : (shallow y').next = (shallow y).next)
    (ht : ftail x' ++ ftail y' = ftail x ++ ftail y) (hn : ((flat x ++ flat y).map Prod.fst).Nodup) :
    Rw [Node.id x, Node.id y] [(Node.id x', shallow x'), (Node.id y', shallow y')]
      (flat x ++ flat y) (flat x' ++ flat y') := by
  rw [flat_eq_cons x, flat_eq_cons y] at hn ⊢
  rw [flat_eq_cons x', flat_eq_cons y', hidx, hidy]
  cases d with
  | zero =>
    exact (Rw.single (Node.id x) (shallow x) (shallow x') rfl fun _ => hnx).append
      (Rw.single (Node.id y) (shallow y) (shallow y') rfl fun _ => hny) hn
  | succ d =>
    exact Rw.shift _ _ _ _ _ [(_, _)] (ftail x) (ftail y) (ftail x') (ftail y') ht.symm (Nat.succ_ne_zero d) rfl
      (Nat.succ_ne_zero d) (.inr ⟨_, rfl, Nat.succ_ne_zero d⟩) hn

theorem rw_of_tails_merge {d : Nat} (x y m : Node K V d) (hid : Node.id m = Node.id x)
    (hnm : (shallow m).next = (shallow y).next) (ht : ftail m = ftail x ++ ftail y)
    (hn : ((flat x ++ flat y).map Prod.fst).Nodup) :
    Rw [Node.id x, Node.id y] [(Node.id m, shallow m)] (flat x ++ flat y) (flat m) := by
  rw [flat_eq_cons x, flat_eq_cons y] at hn ⊢
  rw [flat_eq_cons m, hid]
  cases d with
  | zero => exact Rw.mergeLeaf _ _ _ _ _ rfl rfl rfl hnm
  | succ d =>
    exact Rw.shift _ _ _ _ _ [] (ftail x) (ftail y) [] (ftail m) ht.symm (Nat.succ_ne_zero d) rfl
      (Nat.succ_ne_zero d) (.inl rfl) hn

theorem adoptFromRight_rw {d : Nat} (c r : Node K V d) (hc : Par (shallow c)) (hr : Par (shallow r))
    (h2 : 2 ≤ Node.count r) (hn : ((flat c ++ flat r).map Prod.fst).Nodup) :
    ∃ c' r' sm, Node.adoptFromRight c r = .ok (c', r') ∧ Node.smallest r' = .ok sm ∧
      Node.id c' = Node.id c ∧ Node.id r' = Node.id r ∧
      Node.count c' = Node.count c + 1 ∧ Node.count r' + 1 = Node.count r ∧
      Par (shallow c') ∧ Par (shallow r') ∧
      Rw [Node.id c, Node.id r] [(Node.id c', shallow c'), (Node.id r', shallow r')]
        (flat c ++ flat r) (flat c' ++ flat r') := by
  rw [par_view] at hc hr
  rw [Node.count_eq_keys] at h2
  obtain ⟨k, k2, ks, hk⟩ := exists_cons_cons h2
  obtain ⟨e, e2, es, he⟩ := exists_cons_cons (l := Node.ents r) (hr.1 ▸ h2)
  rw [hk, he] at hr
  obtain ⟨a1, a2, a3, a4⟩ := put_facts c (Node.keys c ++ [k]) (Node.ents c ++ [e]) (Node.nxt c)
    (by rw [List.length_append, List.length_append, hc.1]; rfl) (fun _ => by rw [List.length_append]; exact Nat.le_add_left ..)
  obtain ⟨b1, b2, b3, b4⟩ := put_facts r (k2 :: ks) (e2 :: es) (Node.nxt r) (Nat.succ.inj hr.1) (fun _ => Nat.succ_pos _)
  refine ⟨_, _, k2, Node.adoptFromRight_cons c r hk he, Node.smallest_of_keys _ k2 ks (Node.keys_put ..), a1, b1, ?_, ?_,
    a3, b3, rw_of_tails c r _ _ a1 b1 (next_put ..) (next_put ..) ?_ hn⟩
  · rw [a2, List.length_append, Node.count_eq_keys]; rfl
  · rw [b2, Node.count_eq_keys, hk]; rfl
  · rw [a4, b4, ftail_view c, ftail_view r, he, etail_append, List.append_assoc, ← etail_append]; rfl

theorem adoptFromLeft_rw (P : Params K) (hp : PadOk P) {d : Nat} (l c : Node K V d)
    (hl : Par (shallow l)) (hc : Par (shallow c)) (h2 : 2 ≤ Node.count l) (h1 : 1 ≤ Node.count c)
    (hn : ((flat l ++ flat c).map Prod.fst).Nodup) :
    ∃ l' c' sm, Node.adoptFromLeft P l c = .ok (l', c') ∧ Node.smallest c' = .ok sm ∧
      Node.id l' = Node.id l ∧ Node.id c' = Node.id c ∧
      Node.count l' + 1 = Node.count l ∧ Node.count c' = Node.count c + 1 ∧
      Par (shallow l') ∧ Par (shallow c') ∧
      Rw [Node.id l, Node.id c] [(Node.id l', shallow l'), (Node.id c', shallow c')]
        (flat l ++ flat c) (flat l' ++ flat c') := by
  rw [par_view] at hl hc
  rw [Node.count_eq_keys] at h2 h1
  obtain ⟨ks, k, hk, hkl⟩ := snoc_of_length_pos (Node.keys l) (Nat.le_of_succ_le h2)
  obtain ⟨es, e, he, hel⟩ := snoc_of_length_pos (Node.ents l) (hl.1 ▸ Nat.le_of_succ_le h2)
  obtain ⟨r0, rk, hr⟩ := List.exists_cons_of_length_pos h1
  have hlen : ks.length = es.length := Nat.succ.inj (hkl.trans (hl.1.trans hel.symm))
  obtain ⟨a1, a2, a3, a4⟩ := put_facts l ks es (Node.nxt l) hlen
    (fun _ => Nat.le_of_succ_le_succ (Nat.le_trans h2 (Nat.le_of_eq hkl.symm)))
  obtain ⟨b1, b2, b3, b4⟩ := put_facts c (k :: Node.keys c) (e :: Node.ents c) (Node.nxt c) (congrArg Nat.succ hc.1)
    (fun _ => Nat.succ_pos _)
  refine ⟨_, _, k, Node.adoptFromLeft_snoc P hp l c hk he hlen hr, Node.smallest_of_keys _ k _ (Node.keys_put ..), a1, b1,
    ?_, ?_, a3, b3, rw_of_tails l c _ _ a1 b1 (next_put ..) (next_put ..) ?_ hn⟩
  · rw [a2, Node.count_eq_keys]; exact hkl
  · rw [b2, Node.count_eq_keys]; rfl
  · rw [a4, b4, ftail_view l, ftail_view c, he, etail_append es, List.append_assoc, ← etail_append [e]]; rfl

theorem absorbRight_rw {d : Nat} (a b : Node K V d) (ha : Par (shallow a)) (hb : Par (shallow b))
    (hnx : (shallow a).height = 0 → (shallow a).next = some (Node.id b))
    (hn : ((flat a ++ flat b).map Prod.fst).Nodup) :
    ∃ m, Node.absorbRight a b = .ok m ∧ Node.id m = Node.id a ∧
      Node.count m = Node.count a + Node.count b ∧ Par (shallow m) ∧
      Rw [Node.id a, Node.id b] [(Node.id m, shallow m)] (flat a ++ flat b) (flat m) := by
  rw [par_view] at ha hb
  obtain ⟨a1, a2, a3, a4⟩ := put_facts a (Node.keys a ++ Node.keys b) (Node.ents a ++ Node.ents b) (Node.nxt b)
    (by rw [List.length_append, List.length_append, ha.1, hb.1])
    (fun h0 => by rw [List.length_append]; exact Nat.le_trans (ha.2 h0) (Nat.le_add_right ..))
  refine ⟨_, Node.absorbRight_eq a b ?_, a1, ?_, a3, rw_of_tails_merge a b _ a1 (next_put ..) ?_ hn⟩
  · intro h0; subst h0; exact hnx rfl
  · rw [a2, List.length_append, Node.count_eq_keys, Node.count_eq_keys]
  · rw [a4, etail_append, ftail_view, ftail_view]

end Gobptree.Conc
