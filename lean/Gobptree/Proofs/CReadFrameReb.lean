/-
  Read frame: the node-level operations of Delete's rebalancing map nodes with the
  same own fields to nodes with the same own fields, and so does `rebalance`.  Each operation
  rebuilds its arguments from their keys and entries by one equation for both heights
  (NodeView), so the two runs are rewritten by the same equation and what is left is list
  surgery on related keys and entries (`ERel`).
-/
import Gobptree.Proofs.CReadFrameKids
namespace Gobptree.Conc
open Gobptree
variable {K V : Type}

/-- entries with the same own fields: equal values in a leaf, children with the same identities
    in an inner node -/
def ERel : {d : Nat} → List (Ent K V d) → List (Ent K V d) → Prop
  | 0, a, b => a = b
  | d + 1, (a : List (Node K V d)), (b : List (Node K V d)) => a.map (Node.id (d := d)) = b.map (Node.id (d := d))

theorem ERel.append {d : Nat} {a1 a2 b1 b2 : List (Ent K V d)} (ha : ERel a1 a2) (hb : ERel b1 b2) :
    ERel (a1 ++ b1) (a2 ++ b2) := by
  cases d with
  | zero => exact congr (congrArg _ ha) hb
  | succ d => exact (List.map_append ..).trans ((congr (congrArg _ ha) hb).trans (List.map_append ..).symm)

theorem ERel.append_inv {d : Nat} {a1 a2 b1 b2 : List (Ent K V d)} (h : ERel (a1 ++ b1) (a2 ++ b2))
    (hl : a1.length = a2.length) : ERel a1 a2 ∧ ERel b1 b2 := by
  cases d with
  | zero => exact List.append_inj h hl
  | succ d =>
    exact List.append_inj ((List.map_append ..).symm.trans (h.trans (List.map_append ..)))
      ((List.length_map (as := (a1 : List (Node K V d))) _).trans (hl.trans (List.length_map (as := (a2 : List (Node K V d))) _).symm))

theorem NRel.view {d : Nat} {n1 n2 : Node K V d} (h : NRel n1 n2) :
    Node.keys n1 = Node.keys n2 ∧ ERel (Node.ents n1) (Node.ents n2) := by
  cases d with
  | zero => exact ⟨congrArg Shallow.keys h.2, congrArg Shallow.vals h.2⟩
  | succ d => exact ⟨congrArg Shallow.keys h.2, congrArg Shallow.kids h.2⟩

theorem NRel.put {d : Nat} {n1 n2 b1 b2 : Node K V d} {ks1 ks2 : List K} {es1 es2 : List (Ent K V d)}
    (hn : NRel n1 n2) (hb : NRel b1 b2) (hk : ks1 = ks2) (he : ERel es1 es2) :
    NRel (Node.put n1 ks1 es1 (Node.nxt b1)) (Node.put n2 ks2 es2 (Node.nxt b2)) := by
  cases d with
  | zero =>
    refine ⟨hn.1, ?_⟩
    show Shallow.mk 0 ks1 es1 (shallow b1).next [] = Shallow.mk 0 ks2 es2 (shallow b2).next []
    rw [hk, show es1 = es2 from he, hb.2]
  | succ d => exact nrel_mk hn.1 hk he

theorem adoptFromRight_nrel {d : Nat} {c1 r1 c2 r2 c1' r1' c2' r2' : Node K V d} (hc : NRel c1 c2) (hr : NRel r1 r2)
    (h1 : Node.adoptFromRight c1 r1 = .ok (c1', r1')) (h2 : Node.adoptFromRight c2 r2 = .ok (c2', r2')) :
    NRel c1' c2' ∧ NRel r1' r2' := by
  obtain ⟨k1, ks1, e1, es1, hk1, he1, rfl, rfl⟩ := Node.adoptFromRight_inv h1
  obtain ⟨k2, ks2, e2, es2, hk2, he2, rfl, rfl⟩ := Node.adoptFromRight_inv h2
  obtain ⟨hck, hce⟩ := hc.view
  obtain ⟨hrk, hre⟩ := hr.view
  rw [hk1, hk2] at hrk
  rw [he1, he2] at hre
  obtain ⟨hk, hks⟩ := List.cons.inj hrk
  obtain ⟨he, hes⟩ := hre.append_inv (a1 := [e1]) (a2 := [e2]) rfl
  exact ⟨NRel.put hc hc (by rw [hck, hk]) (hce.append he), NRel.put hr hr hks hes⟩

theorem adoptFromLeft_nrel (P : Params K) {d : Nat} {l1 c1 l2 c2 l1' c1' l2' c2' : Node K V d} (hl : NRel l1 l2) (hc : NRel c1 c2)
    (h1 : Node.adoptFromLeft P l1 c1 = .ok (l1', c1')) (h2 : Node.adoptFromLeft P l2 c2 = .ok (l2', c2')) :
    NRel l1' l2' ∧ NRel c1' c2' := by
  obtain ⟨ks1, k1, es1, e1, rest1, hk1, he1, hl1, rfl, rfl⟩ := Node.adoptFromLeft_inv P h1
  obtain ⟨ks2, k2, es2, e2, rest2, hk2, he2, hl2, rfl, rfl⟩ := Node.adoptFromLeft_inv P h2
  obtain ⟨hlk, hle⟩ := hl.view
  obtain ⟨hck, hce⟩ := hc.view
  rw [hk1, hk2] at hlk
  rw [he1, he2] at hle
  obtain ⟨hks, hk⟩ := List.append_inj' hlk rfl
  obtain ⟨hes, hrest⟩ := hle.append_inv (hl1.symm.trans ((congrArg List.length hks).trans hl2))
  obtain ⟨he, -⟩ := hrest.append_inv (a1 := [e1]) (a2 := [e2]) rfl
  exact ⟨NRel.put hl hl hks hes, NRel.put hc hc (by rw [(List.cons.inj hk).1, hck]) (he.append hce)⟩

theorem absorbRight_nrel {d : Nat} {a1 b1 a2 b2 m1 m2 : Node K V d} (ha : NRel a1 a2) (hb : NRel b1 b2)
    (h1 : Node.absorbRight a1 b1 = .ok m1) (h2 : Node.absorbRight a2 b2 = .ok m2) : NRel m1 m2 := by
  rw [(Node.absorbRight_inv h1).2, (Node.absorbRight_inv h2).2]
  exact NRel.put ha hb (by rw [ha.view.1, hb.view.1]) (ha.view.2.append hb.view.2)

section
variable {S : Nat → Prop}

theorem KRel.nrel_at {d : Nat} {k1 k2 : List (Node K V d)} (h : KRel S k1 k2) {j : Nat} {c1 c2 : Node K V d}
    (h1 : k1[j]? = some c1) (h2 : k2[j]? = some c2) (hs : S (Node.id c1)) : NRel c1 c2 :=
  ⟨(h.2 j c1 c2 h1 h2).1, (h.2 j c1 c2 h1 h2).2 hs⟩

theorem count_of_shallow {d : Nat} {n1 n2 : Node K V d} (h : shallow n1 = shallow n2) :
    Node.count n1 = Node.count n2 := by
  rw [count_eq, count_eq, h]

theorem window_rf {d : Nat} {i1 i2 : Inner K (Node K V d)} {a1 b1 a2 b2 w1 w2 w1' w2' : List (Node K V d)} (ru : List K)
    (hk : KRel S i1.kids i2.kids)
    (hab1 : i1.kids = a1 ++ (w1 ++ b1)) (hab2 : i2.kids = a2 ++ (w2 ++ b2))
    (ha : a1.length = a2.length) (hw : w1.length = w2.length) (hw' : KRel S w1' w2') :
    shallow (d := d + 1) (Inner.mk i1.id ru (a1 ++ (w1' ++ b1)) : Inner K (Node K V d)) =
      shallow (d := d + 1) (Inner.mk i2.id ru (a2 ++ (w2' ++ b2)) : Inner K (Node K V d)) ∧
    KRel S (a1 ++ (w1' ++ b1)) (a2 ++ (w2' ++ b2)) := by
  rw [hab1, hab2] at hk
  obtain ⟨hkA, hkR⟩ := hk.split ha
  have hk' := hkA.append (hw'.append (hkR.split hw).2)
  exact ⟨(nrel_mk (id1 := i1.id) rfl rfl hk'.ids).2, hk'⟩

/-- `rebalance` in the two runs: the same outcome, rewritten nodes with the same own fields -/
def RebRel (S : Nat → Prop) (P : Params K) (o : Nat) {d : Nat} (i1 i2 : Inner K (Node K V d)) (index : Nat)
    (child1 child2 : Node K V d) : Prop :=
  ∃ i1' i2' small, rebalance P {} (o / 2) i1 index child1 = .ok (i1', small) ∧
    rebalance P {} (o / 2) i2 index child2 = .ok (i2', small) ∧
    i1'.id = i1.id ∧ i2'.id = i2.id ∧ shallow (d := d + 1) i1' = shallow (d := d + 1) i2' ∧ KRel S i1'.kids i2'.kids

section
variable {P : Params K} {o d : Nat} {i1 i2 : Inner K (Node K V d)} {index j : Nat} {child1 child2 : Node K V d}
  {a1 b1 a2 b2 : List (Node K V d)} {x1 y1 x2 y2 : Node K V d}

theorem RebRel.borrow {x1' y1' x2' y2' : Node K V d} {sm1 sm2 : K}
    (hru : i1.runts = i2.runts) (hk : KRel S i1.kids i2.kids)
    (hab1 : i1.kids = a1 ++ x1 :: y1 :: b1) (ha1 : a1.length = j)
    (hab2 : i2.kids = a2 ++ x2 :: y2 :: b2) (ha2 : a2.length = j)
    (hxy : NRel x1' x2' ∧ NRel y1' y2')
    (hsm1 : Node.smallest y1' = .ok sm1) (hsm2 : Node.smallest y2' = .ok sm2)
    (hev1 : rebalance P {} (o / 2) i1 index child1 =
      .ok (Inner.mk i1.id (i1.runts.set (j + 1) sm1) (a1 ++ x1' :: y1' :: b1), false))
    (hev2 : rebalance P {} (o / 2) i2 index child2 =
      .ok (Inner.mk i2.id (i2.runts.set (j + 1) sm2) (a2 ++ x2' :: y2' :: b2), false)) :
    RebRel S P o i1 i2 index child1 child2 := by
  have hsm : sm1 = sm2 := by
    have := smallest_of_shallow hxy.2.2
    rw [hsm1, hsm2] at this
    cases this; rfl
  subst hsm
  rw [← hru] at hev2
  obtain ⟨e1, e2⟩ := window_rf (S := S) (w1 := [x1, y1]) (w2 := [x2, y2]) (w1' := [x1', y1']) (w2' := [x2', y2'])
    (i1.runts.set (j + 1) sm1) hk hab1 hab2 (ha1.trans ha2.symm) rfl
    ((KRel.single hxy.1).append (KRel.single hxy.2))
  exact ⟨_, _, false, hev1, hev2, rfl, rfl, e1, e2⟩

theorem RebRel.merge {m1 m2 : Node K V d}
    (hru : i1.runts = i2.runts) (hk : KRel S i1.kids i2.kids)
    (hab1 : i1.kids = a1 ++ x1 :: y1 :: b1) (ha1 : a1.length = j)
    (hab2 : i2.kids = a2 ++ x2 :: y2 :: b2) (ha2 : a2.length = j)
    (hm : NRel m1 m2)
    (hev1 : rebalance P {} (o / 2) i1 index child1 =
      .ok (Inner.mk i1.id (deleteIdiom i1.runts (j + 1)) (a1 ++ m1 :: b1),
        decide ((deleteIdiom i1.runts (j + 1)).length < o / 2)))
    (hev2 : rebalance P {} (o / 2) i2 index child2 =
      .ok (Inner.mk i2.id (deleteIdiom i2.runts (j + 1)) (a2 ++ m2 :: b2),
        decide ((deleteIdiom i2.runts (j + 1)).length < o / 2))) :
    RebRel S P o i1 i2 index child1 child2 := by
  rw [← hru] at hev2
  obtain ⟨e1, e2⟩ := window_rf (S := S) (w1 := [x1, y1]) (w2 := [x2, y2]) (w1' := [m1]) (w2' := [m2])
    (deleteIdiom i1.runts (j + 1)) hk hab1 hab2 (ha1.trans ha2.symm) rfl (KRel.single hm)
  exact ⟨_, _, _, hev1, hev2, rfl, rfl, e1, e2⟩

end

/-- the left sibling is tried when there is no right sibling to borrow from -/
theorem reb_left_rf (P : Params K) (hp : PadOk P) (o : Nat) {d : Nat} {i1 i2 : Inner K (Node K V d)} {j : Nat}
    {child1 child2 : Node K V d}
    (hin1 : RebIn o i1 (j + 1) child1) (hin2 : RebIn o i2 (j + 1) child2)
    (hsh : shallow (d := d + 1) i1 = shallow (d := d + 1) i2) (hk : KRel S i1.kids i2.kids)
    (hwin : ∀ jj c, i1.kids[jj]? = some c → j + 1 ≤ jj + 1 → jj ≤ j + 1 + 1 → S (Node.id c))
    (hnoR1 : j + 1 + 1 < i1.runts.length → ∃ right, i1.kids[j + 1 + 1]? = some right ∧ Node.count right ≤ o / 2)
    (hnoR2 : j + 1 + 1 < i2.runts.length → ∃ right, i2.kids[j + 1 + 1]? = some right ∧ Node.count right ≤ o / 2) :
    RebRel S P o i1 i2 (j + 1) child1 child2 := by
  have hru : i1.runts = i2.runts := (inner_of_shallow hsh).1
  obtain ⟨_, hidk1, _, _, _⟩ := hin1.lens
  obtain ⟨_, hidk2, _, _, _⟩ := hin2.lens
  obtain ⟨left1, hleft1⟩ : ∃ l, i1.kids[j]? = some l := ⟨i1.kids[j]'(Nat.lt_of_succ_lt hidk1), List.getElem?_eq_getElem _⟩
  obtain ⟨left2, hleft2⟩ : ∃ l, i2.kids[j]? = some l := ⟨i2.kids[j]'(Nat.lt_of_succ_lt hidk2), List.getElem?_eq_getElem _⟩
  have hnl : NRel left1 left2 := hk.nrel_at hleft1 hleft2 (hwin j left1 hleft1 (Nat.le_refl _) (Nat.le_add_right _ 2))
  have hnc : NRel child1 child2 := hk.nrel_at hin1.hc hin2.hc (hwin (j + 1) child1 hin1.hc (Nat.le_succ _) (Nat.le_succ _))
  have hcnt : Node.count left1 = Node.count left2 := count_of_shallow hnl.2
  obtain ⟨a1, b1, hab1, ha1, cs1⟩ := rebalance_left P hp o i1 j child1 left1 hin1 hnoR1 hleft1
  obtain ⟨a2, b2, hab2, ha2, cs2⟩ := rebalance_left P hp o i2 j child2 left2 hin2 hnoR2 hleft2
  rcases cs1 with ⟨hLc1, l1', c1', sm1, had1, hsm1, hev1, _⟩ | ⟨hLc1, m1, habs1, hev1, _⟩ <;>
  rcases cs2 with ⟨hLc2, l2', c2', sm2, had2, hsm2, hev2, _⟩ | ⟨hLc2, m2, habs2, hev2, _⟩
  · exact RebRel.borrow hru hk hab1 ha1 hab2 ha2 (adoptFromLeft_nrel P hnl hnc had1 had2)
      hsm1 hsm2 hev1 hev2
  · exact absurd (hcnt ▸ hLc1) (Nat.not_lt.2 hLc2)
  · exact absurd (hcnt ▸ hLc2) (Nat.not_lt.2 hLc1)
  · exact RebRel.merge hru hk hab1 ha1 hab2 ha2 (absorbRight_nrel hnl hnc habs1 habs2) hev1 hev2

theorem rebalance_rf (P : Params K) (hp : PadOk P) (o : Nat) {d : Nat} {i1 i2 : Inner K (Node K V d)} {index : Nat}
    {child1 child2 : Node K V d}
    (hin1 : RebIn o i1 index child1) (hin2 : RebIn o i2 index child2)
    (hsh : shallow (d := d + 1) i1 = shallow (d := d + 1) i2) (hk : KRel S i1.kids i2.kids)
    (hwin : ∀ jj c, i1.kids[jj]? = some c → index ≤ jj + 1 → jj ≤ index + 1 → S (Node.id c)) :
    RebRel S P o i1 i2 index child1 child2 := by
  have hru : i1.runts = i2.runts := (inner_of_shallow hsh).1
  obtain ⟨hlen1, hidk1, _, _, _⟩ := hin1.lens
  obtain ⟨hlen2, hidk2, _, _, _⟩ := hin2.lens
  have hnc : NRel child1 child2 := hk.nrel_at hin1.hc hin2.hc (hwin index child1 hin1.hc (Nat.le_succ _) (Nat.le_succ _))
  by_cases hR : index + 1 < i1.runts.length
  · have hR2 : index + 1 < i2.runts.length := by rw [← hru]; exact hR
    obtain ⟨right1, hright1⟩ : ∃ r, i1.kids[index + 1]? = some r :=
      ⟨i1.kids[index + 1]'(hlen1 ▸ hR), List.getElem?_eq_getElem _⟩
    obtain ⟨right2, hright2⟩ : ∃ r, i2.kids[index + 1]? = some r :=
      ⟨i2.kids[index + 1]'(hlen2 ▸ hR2), List.getElem?_eq_getElem _⟩
    have hnr : NRel right1 right2 := hk.nrel_at hright1 hright2 (hwin (index + 1) right1 hright1 (Nat.le_add_right _ 2) (Nat.le_refl _))
    have hcnt : Node.count right1 = Node.count right2 := count_of_shallow hnr.2
    by_cases hRc : Node.count right1 > o / 2
    · obtain ⟨a1, b1, c1', r1', sm1, hab1, ha1, had1, hsm1, hev1, _⟩ :=
        rebalance_borrowR P o i1 index child1 right1 hin1 hR hright1 hRc
      obtain ⟨a2, b2, c2', r2', sm2, hab2, ha2, had2, hsm2, hev2, _⟩ :=
        rebalance_borrowR P o i2 index child2 right2 hin2 hR2 hright2 (hcnt ▸ hRc)
      exact RebRel.borrow hru hk hab1 ha1 hab2 ha2 (adoptFromRight_nrel hnc hnr had1 had2)
        hsm1 hsm2 hev1 hev2
    · by_cases hL : 0 < index
      · obtain ⟨j, rfl⟩ : ∃ j, index = j + 1 := ⟨index - 1, (Nat.sub_add_cancel hL).symm⟩
        exact reb_left_rf P hp o hin1 hin2 hsh hk hwin (fun _ => ⟨right1, hright1, Nat.le_of_not_lt hRc⟩)
          (fun _ => ⟨right2, hright2, hcnt ▸ Nat.le_of_not_lt hRc⟩)
      · obtain ⟨a1, b1, m1, hab1, ha1, habs1, hev1, _⟩ :=
          rebalance_mergeR P o i1 index child1 right1 hin1 hR hright1 (Nat.le_of_not_lt hRc) (Nat.eq_zero_of_not_pos hL)
        obtain ⟨a2, b2, m2, hab2, ha2, habs2, hev2, _⟩ :=
          rebalance_mergeR P o i2 index child2 right2 hin2 hR2 hright2 (hcnt ▸ Nat.le_of_not_lt hRc) (Nat.eq_zero_of_not_pos hL)
        exact RebRel.merge hru hk hab1 ha1 hab2 ha2 (absorbRight_nrel hnc hnr habs1 habs2) hev1 hev2
  · have hR2 : ¬ index + 1 < i2.runts.length := by rw [← hru]; exact hR
    obtain ⟨j, rfl⟩ : ∃ j, index = j + 1 :=
      ⟨index - 1, (Nat.sub_add_cancel (Nat.le_of_succ_le_succ (Nat.le_trans hin1.two (Nat.le_of_not_lt hR)))).symm⟩
    exact reb_left_rf P hp o hin1 hin2 hsh hk hwin (fun h => absurd h hR) (fun h => absurd h hR2)

end

end Gobptree.Conc
