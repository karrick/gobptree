/-
  C04: the cursor position invariant `CurPosW` (the form of `CurPos` that also
  covers a cursor waiting for the next leaf) and what it buys: ahead of the cursor lie exactly
  the admitted pairs of the map, and they are a suffix of the (strictly ascending) map.

  `CurPos` itself cannot hold while a cursor waits in `hop leaf next`: its index is then
  `len`, and the clause `keys[i]? = some c` of the bound `.gt c` is unsatisfiable.  `CurPosW`
  only demands `c ∈ keys`; for `i < len` the two coincide (`CurPosW.strengthen`).

  The names: `CurPos` / `CurPosW` position a cursor `(leaf, i)` with respect to a given bound;
  `CursorPos` / `CursorPosW` say of a thread that some bound positions its open cursor; `CurW` (CCurInv)
  says the same as `CursorPosW` of a cursor value alone (`cursorPosW_iff`), for the states inside a step,
  which have a cursor and are no thread; `CurI` (CCurInv) bundles what one stretch of a step hands to
  the next: tree, `CursorOk`, `CurW`.
-/
import Gobptree.Proofs.CCurSorted
import Gobptree.Proofs.CSUpNode
import Gobptree.Proofs.CKPar
import Gobptree.Proofs.CKZoom

namespace Gobptree.Conc
open Gobptree

variable {K V : Type} {lt : K → K → Bool}

def CurPosW (lt : K → K → Bool) (t : Tree K V) (b : Bound K) (leaf : Nat) (i : Int) : Prop :=
  ∃ sh, t.look leaf = some sh ∧ sh.height = 0 ∧
    (∀ (j : Nat) (k : K), sh.keys[j]? = some k → (b.admits lt k = true ↔ i < (j : Int))) ∧
    match b with
    | .ge s => OnRoute lt t s leaf
    | .gt c => c ∈ sh.keys

def CursorPosW (lt : K → K → Bool) (t : Tree K V) (th : Thread K V) : Prop :=
  match th.cursor with
  | some (some leaf, i) => ∃ b, CurPosW lt t b leaf i
  | _ => True

theorem CurPos.weaken {t : Tree K V} {b : Bound K} {leaf : Nat} {i : Int} (h : CurPos lt t b leaf i) :
    CurPosW lt t b leaf i := by
  obtain ⟨sh, h1, h2, h3, h4⟩ := h
  refine ⟨sh, h1, h2, h3, ?_⟩
  cases b with
  | ge s => exact h4
  | gt c =>
    obtain ⟨j, _, hj⟩ := h4
    exact List.mem_of_getElem? hj

theorem cursorPos_iff_forall {t : Tree K V} {th : Thread K V} :
    CursorPos lt t th ↔ ∀ leaf i, th.cursor = some (some leaf, i) → ∃ b, CurPos lt t b leaf i := by
  unfold CursorPos
  split
  · rename_i leaf i hc
    exact ⟨fun h _ _ e => by cases hc.symm.trans e; exact h, fun h => h leaf i hc⟩
  · rename_i hno
    exact ⟨fun _ leaf i e => absurd e (hno leaf i), fun _ => trivial⟩

theorem cursorPosW_iff_forall {t : Tree K V} {th : Thread K V} :
    CursorPosW lt t th ↔ ∀ leaf i, th.cursor = some (some leaf, i) → ∃ b, CurPosW lt t b leaf i := by
  unfold CursorPosW
  split
  · rename_i leaf i hc
    exact ⟨fun h _ _ e => by cases hc.symm.trans e; exact h, fun h => h leaf i hc⟩
  · rename_i hno
    exact ⟨fun _ leaf i e => absurd e (hno leaf i), fun _ => trivial⟩

theorem CursorPos.weaken {t : Tree K V} {th : Thread K V} (h : CursorPos lt t th) : CursorPosW lt t th :=
  cursorPosW_iff_forall.2 fun leaf i hc =>
    let ⟨b, hb⟩ := cursorPos_iff_forall.1 h leaf i hc
    ⟨b, hb.weaken⟩

theorem leaf_sorted (h : SWO lt) {hole : Option Nat} {t : Tree K V} (hok : TreeOk hole t) (hord : OrdTree lt t)
    {leaf : Nat} {sh : Shallow K V} (hl : t.look leaf = some sh) (h0 : sh.height = 0) : Sorted lt sh.keys := by
  obtain ⟨l, hf, hsh, _⟩ := leaf_of_look hl h0
  obtain ⟨lo', hi', PL, PR, z⟩ := Tree.zoom h hf hok.ids.1 (parTree_of_treeOk hok) hord
  rw [hsh]
  exact z.ord.1

theorem leaf_lens {hole : Option Nat} {t : Tree K V} (hok : TreeOk hole t)
    {leaf : Nat} {sh : Shallow K V} (hl : t.look leaf = some sh) (h0 : sh.height = 0) :
    sh.keys.length = sh.vals.length :=
  ((hok.occ (leaf, sh) (look_mem hl)).2.2.1 h0).1

theorem leaf_nonempty {hole : Option Nat} {t : Tree K V} (hok : TreeOk hole t)
    {leaf : Nat} {sh : Shallow K V} (hl : t.look leaf = some sh) (hne : leaf ≠ t.rootId) :
    0 < sh.keys.length := by
  have hm := (hok.occ (leaf, sh) (look_mem hl)).2.1
  have h1 := hok.min_pos (hole := hole) hne sh.height
  exact Nat.lt_of_lt_of_le h1 hm

theorem shPairs_getElem? {sh : Shallow K V} {j : Nat} {p : K × V} :
    (shPairs sh)[j]? = some p ↔ sh.keys[j]? = some p.1 ∧ sh.vals[j]? = some p.2 :=
  List.getElem?_zip_eq_some

theorem shPairs_length {sh : Shallow K V} (h : sh.keys.length = sh.vals.length) :
    (shPairs sh).length = sh.keys.length := by
  unfold shPairs
  rw [List.length_zip]; omega

theorem mem_shPairs_of_key {sh : Shallow K V} (h : sh.keys.length = sh.vals.length) {c : K} (hc : c ∈ sh.keys) :
    ∃ v, (c, v) ∈ shPairs sh := by
  obtain ⟨j, hj, e⟩ := List.getElem_of_mem hc
  have hjv : j < sh.vals.length := h ▸ hj
  exact ⟨sh.vals[j], List.mem_of_getElem? (shPairs_getElem?.2
    ⟨(List.getElem?_eq_getElem hj).trans (congrArg some e), List.getElem?_eq_getElem hjv⟩)⟩

theorem root_leaf_flat {t : Tree K V} (hi : IdsOk t) {sh : Shallow K V}
    (hl : t.look t.rootId = some sh) (h0 : sh.height = 0) :
    flatLeaves t.flat = [(t.rootId, sh)] := by
  rw [look_root hi] at hl
  have e := Option.some.inj hl
  have hd : t.depth = 0 := by
    have := shallow_height t.root
    rw [e] at this; omega
  obtain ⟨o, d, root, nid⟩ := t
  simp only at hd
  subst hd
  subst e
  show flatLeaves (flat (d := 0) root) = _
  rw [flat_zero, flatLeaves_cons_leaf _ _ rfl]
  rfl

theorem CurPosW.suffix (h : SWO lt) {hole : Option Nat} {t : Tree K V} (hok : TreeOk hole t) (hord : OrdTree lt t)
    {b : Bound K} {leaf : Nat} {i : Int} (hp : CurPosW lt t b leaf i) :
    ∃ pre, t.abs = pre ++ t.ahead leaf i ∧
      (∀ p ∈ pre, b.admits lt p.1 = false) ∧ (∀ p ∈ t.ahead leaf i, b.admits lt p.1 = true) := by
  obtain ⟨sh, hl, h0, hidx, hb⟩ := hp
  have hpar := parTree_of_treeOk hok
  have hlen := leaf_lens hok hl h0
  have hsorted := Tree.abs_sorted h hpar hord
  obtain ⟨PA, PB, habs, hahead⟩ := Tree.ahead_split hok.ids hl h0
  have hsides : (∀ p ∈ PA, b.admits lt p.1 = false) ∧ (∀ p ∈ PB, b.admits lt p.1 = true) := by
    cases b with
    | gt c =>
      obtain ⟨v, hv⟩ := mem_shPairs_of_key hlen hb
      rw [habs] at hsorted
      have h1 := List.pairwise_append.1 hsorted
      have h2 := List.pairwise_append.1 h1.1
      exact ⟨fun p hp => h.asymm (h2.2.2 p hp (c, v) hv), fun p hp => h1.2.2 (c, v) (List.mem_append_right _ hv) p hp⟩
    | ge s =>
      by_cases hM : shPairs sh = []
      · -- an empty leaf is a root leaf: the map is empty
        have hroot : leaf = t.rootId := by
          apply Classical.byContradiction
          intro hne
          have := leaf_nonempty hok hl hne
          rw [← shPairs_length hlen, hM] at this
          exact absurd this (Nat.lt_irrefl 0)
        subst hroot
        have hnil : t.abs = [] := by
          rw [Tree.abs_flat, root_leaf_flat hok.ids hl h0, List.flatMap_cons, List.flatMap_nil, hM]; rfl
        rw [hnil] at habs
        obtain ⟨h1, h2⟩ := List.append_eq_nil_iff.1 habs.symm
        rw [(List.append_eq_nil_iff.1 h1).1, h2]
        exact ⟨fun _ hp => (List.not_mem_nil hp).elim, fun _ hp => (List.not_mem_nil hp).elim⟩
      · -- otherwise the leaf's pairs sit at one place only in the ascending map: the split is the one of `Tree.zoom` (CKZoom: the map around a found node)
        obtain ⟨ra, rb, hab⟩ : OnRoute lt t s leaf := hb
        obtain ⟨l, hf, hsh, _⟩ := leaf_of_look hl h0
        obtain ⟨lo', hi', PL, PR, z⟩ := Tree.zoom h hf hok.ids.1 hpar hord
        obtain ⟨zl, zr⟩ := z.onRoute s ra rb hab
        obtain ⟨e1, e2⟩ := KSorted.split_unique h hsorted habs (by rw [z.abs, hsh]; rfl) hM
        subst e1; subst e2
        constructor
        · intro p hp
          show (!lt p.1 s) = false
          rw [zl p hp]; rfl
        · intro p hp
          show (!lt p.1 s) = true
          rw [h.asymm (zr p hp)]; rfl
  refine ⟨PA ++ (shPairs sh).take (i + 1).toNat, ?_, ?_, ?_⟩
  · rw [habs, hahead i]
    conv => lhs; rw [← List.take_append_drop (i + 1).toNat (shPairs sh)]
    simp only [List.append_assoc]
  · intro p hp
    rcases List.mem_append.1 hp with hp | hp
    · exact hsides.1 p hp
    · obtain ⟨j, hj⟩ := List.getElem?_of_mem hp
      rw [List.getElem?_take] at hj
      split at hj
      · rename_i hjn
        have hk := (shPairs_getElem?.1 hj).1
        have := hidx j p.1 hk
        cases ha : b.admits lt p.1 with
        | false => rfl
        | true =>
          exact absurd (Int.lt_of_lt_of_le (this.1 ha) (Int.le_of_lt_add_one (Int.lt_toNat.1 hjn))) (Int.lt_irrefl _)
      · cases hj
  · intro p hp
    rw [hahead i] at hp
    rcases List.mem_append.1 hp with hp | hp
    · obtain ⟨j, hj⟩ := List.getElem?_of_mem hp
      rw [List.getElem?_drop] at hj
      have hk := (shPairs_getElem?.1 hj).1
      exact (hidx _ p.1 hk).2 (Int.lt_of_lt_of_le (Int.lt_succ i)
        (Int.le_trans (Int.self_le_toNat _) (Int.ofNat_le.2 (Nat.le_add_right _ _))))
    · exact hsides.2 p hp

theorem CurPosW.aheadSpec (h : SWO lt) {hole : Option Nat} {t : Tree K V} (hok : TreeOk hole t) (hord : OrdTree lt t)
    {b : Bound K} {leaf : Nat} {i : Int} (hp : CurPosW lt t b leaf i) : AheadSpec lt t b leaf i := by
  obtain ⟨pre, h1, h2, h3⟩ := hp.suffix h hok hord
  unfold AheadSpec
  conv => rhs; rw [h1]
  rw [List.filter_append]
  have e1 : pre.filter (fun p => b.admits lt p.1) = [] :=
    List.filter_eq_nil_iff.2 (fun p hp => by simp [h2 p hp])
  have e2 : (t.ahead leaf i).filter (fun p => b.admits lt p.1) = t.ahead leaf i :=
    List.filter_eq_self.2 (fun p hp => h3 p hp)
  rw [e1, e2, List.nil_append]

theorem CurPos.aheadSpec (h : SWO lt) {hole : Option Nat} {t : Tree K V} (hok : TreeOk hole t) (hord : OrdTree lt t)
    {b : Bound K} {leaf : Nat} {i : Int} (hp : CurPos lt t b leaf i) : AheadSpec lt t b leaf i :=
  hp.weaken.aheadSpec h hok hord

theorem CurPosW.strengthen (h : SWO lt) {hole : Option Nat} {t : Tree K V} (hok : TreeOk hole t) (hord : OrdTree lt t)
    {b : Bound K} {leaf : Nat} {i : Int} (hp : CurPosW lt t b leaf i)
    (hc : CursorOk t false (some (some leaf, i))) : CurPos lt t b leaf i := by
  obtain ⟨sh, hl, h0, hidx, hb⟩ := hp
  obtain ⟨sh', hl', _, _, hi⟩ := hc
  rw [hl] at hl'; cases hl'
  refine ⟨sh, hl, h0, hidx, ?_⟩
  cases b with
  | ge s => exact hb
  | gt c =>
    have hc : c ∈ sh.keys := hb
    have hs := leaf_sorted h hok hord hl h0
    obtain ⟨j0, hj0, e0⟩ := List.getElem_of_mem hc
    have hj0' : sh.keys[j0]? = some c := by rw [List.getElem?_eq_getElem hj0, e0]
    -- `c` itself is not admitted, so it sits at or before `i`
    have hnot : ¬ i < (j0 : Int) := fun hlt => by
      have := (hidx j0 c hj0').2 hlt
      rw [show (Bound.gt c).admits lt c = lt c c from rfl, h.irrefl c] at this
      cases this
    obtain ⟨n, rfl⟩ := Int.eq_ofNat_of_zero_le (Int.le_trans (Int.ofNat_zero_le j0) (Int.not_lt.1 hnot))
    have hle : j0 ≤ n := Int.ofNat_le.1 (Int.not_lt.1 hnot)
    have hjl : n < sh.keys.length := Int.ofNat_lt.1 hi
    refine ⟨n, rfl, ?_⟩
    rcases Nat.eq_or_lt_of_le hle with e | hlt
    · rw [← e]; exact hj0'
    · -- a key after `c` is admitted, so it sits after `i`
      exfalso
      have h1 : lt (sh.keys[j0]'hj0) (sh.keys[n]'hjl) = true := hs.getElem_lt hlt hjl
      have h3 : (Bound.gt c).admits lt (sh.keys[n]'hjl) = true := by
        show lt c _ = true
        rw [← e0]; exact h1
      exact absurd ((hidx n _ (List.getElem?_eq_getElem hjl)).1 h3) (Int.lt_irrefl _)

theorem lookup_of_mem_sorted (h : SWO lt) : ∀ (m : List (K × V)), KSorted lt m → ∀ k v, (k, v) ∈ m →
    Spec.lookup lt m k = some v := by
  intro m
  induction m with
  | nil => intro _ k v hm; cases hm
  | cons q m ih =>
    intro hs k v hm
    have hq := List.pairwise_cons.mp hs
    unfold Spec.lookup
    rw [List.find?_cons]
    rcases List.mem_cons.1 hm with e | hm'
    · subst e
      simp [h.eqv_refl k]
    · have hlt : lt q.1 k = true := hq.1 (k, v) hm'
      have : eqv lt k q.1 = false := by simp [eqv, hlt]
      simp only [this]
      exact ih hq.2 k v hm'

theorem Tree.lookup_of_mem (h : SWO lt) {hole : Option Nat} {t : Tree K V} (hok : TreeOk hole t) (hord : OrdTree lt t)
    {k : K} {v : V} (hm : (k, v) ∈ t.abs) : Spec.lookup lt t.abs k = some v :=
  lookup_of_mem_sorted h _ (Tree.abs_sorted h (parTree_of_treeOk hok) hord) k v hm

theorem CurPosW.head_least (h : SWO lt) {hole : Option Nat} {t : Tree K V} (hok : TreeOk hole t) (hord : OrdTree lt t)
    {b : Bound K} {leaf : Nat} {i : Int} (hp : CurPosW lt t b leaf i)
    {k : K} {v : V} {rest : List (K × V)} (hhead : t.ahead leaf i = (k, v) :: rest) :
    b.admits lt k = true ∧ (k, v) ∈ t.abs ∧ Spec.lookup lt t.abs k = some v ∧
      ∀ p ∈ t.abs, b.admits lt p.1 = true → p = (k, v) ∨ lt k p.1 = true := by
  obtain ⟨pre, h1, h2, h3⟩ := hp.suffix h hok hord
  have hsorted := Tree.abs_sorted h (parTree_of_treeOk hok) hord
  have hmem : (k, v) ∈ t.abs := by rw [h1, hhead]; simp
  refine ⟨h3 (k, v) (by rw [hhead]; simp), hmem, Tree.lookup_of_mem h hok hord hmem, ?_⟩
  intro p hp hadm
  rw [h1, hhead] at hp hsorted
  rcases List.mem_append.1 hp with hp | hp
  · rw [h2 p hp] at hadm; cases hadm
  · rcases List.mem_cons.1 hp with e | hp
    · exact Or.inl e
    · right
      have := (List.pairwise_append.1 hsorted).2.1
      exact (List.pairwise_cons.1 this).1 p hp

theorem CurPosW.ahead_nil_iff (h : SWO lt) {hole : Option Nat} {t : Tree K V} (hok : TreeOk hole t)
    (hord : OrdTree lt t) {b : Bound K} {leaf : Nat} {i : Int} (hp : CurPosW lt t b leaf i) :
    t.ahead leaf i = [] ↔ ∀ p ∈ t.abs, b.admits lt p.1 = false := by
  have hs : AheadSpec lt t b leaf i := hp.aheadSpec h hok hord
  unfold AheadSpec at hs
  rw [hs, List.filter_eq_nil_iff]
  constructor
  · intro hh p hp
    cases ha : b.admits lt p.1 with
    | false => rfl
    | true => exact absurd ha (hh p hp)
  · intro hh p hp
    rw [hh p hp]; simp

theorem CurPosW.admits_congr (h : SWO lt) {hole : Option Nat} {t : Tree K V} (hok : TreeOk hole t) (hord : OrdTree lt t)
    {b1 b2 : Bound K} {leaf : Nat} {i : Int} (h1 : CurPosW lt t b1 leaf i) (h2 : CurPosW lt t b2 leaf i) :
    ∀ p ∈ t.abs, b1.admits lt p.1 = b2.admits lt p.1 := by
  obtain ⟨pre1, e1, n1, a1⟩ := h1.suffix h hok hord
  obtain ⟨pre2, e2, n2, a2⟩ := h2.suffix h hok hord
  have : pre1 = pre2 := by
    have e : pre1 ++ t.ahead leaf i = pre2 ++ t.ahead leaf i := by rw [← e1, ← e2]
    exact List.append_cancel_right e
  subst this
  intro p hp
  rw [e1] at hp
  rcases List.mem_append.1 hp with hp | hp
  · rw [n1 p hp, n2 p hp]
  · rw [a1 p hp, a2 p hp]

end Gobptree.Conc
