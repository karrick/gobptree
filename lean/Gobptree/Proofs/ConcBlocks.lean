/-
  What each block of `Conc.resume` computes, once it is known what `find`, `maybeSplit`,
  `lowerFirst`, `Leaf.upsert`, `Leaf.deleteKey`, `rebalance` return.  Every layer above the
  small-step model follows a thread through these blocks; with the equations below it
  rewrites a block by its result instead of unfolding the model.  They hold for any thread
  and any state.
-/
import Gobptree.Conc

namespace Gobptree.Conc
open Gobptree

variable {K V : Type}

@[reducible] def St.setTree (s : St K V) (tr : Tree K V) : St K V := { s with tree := tr }

@[reducible] def allocId (tr : Tree K V) : Tree K V := { tr with nextId := tr.nextId + 1 }

@[reducible] def splitRoot (tr : Tree K V) (ls rs : K) (left right : Node K V tr.depth) : Tree K V :=
  { order := tr.order, depth := tr.depth + 1,
    root := (⟨tr.nextId + 1, [ls, rs], [left, right]⟩ : Inner K (Node K V tr.depth)), nextId := tr.nextId + 2 }

/-- the tree `delFinish` leaves behind: the root is collapsed if it ran down to one child -/
def finishTree (t : Tree K V) (small : Bool) : Tree K V :=
  if !small ∨ Node.count t.root > 1 then t
  else match collapseRoot t.order t.nextId t.depth t.root with
    | .ok tr' => tr'
    | .error _ => t

theorem finishTree_eq_or (t : Tree K V) (small : Bool) :
    finishTree t small = t ∨
    ∃ (o d nid : Nat) (r : Inner K (Node K V d)) (k : Node K V d),
      t = ⟨o, d + 1, r, nid⟩ ∧ small = true ∧ r.kids[0]? = some k ∧ r.runts.length ≤ 1 ∧
      finishTree t small = ⟨o, d, k, nid⟩ := by
  obtain ⟨o, d, r, nid⟩ := t
  by_cases hc : (!small) = true ∨ Node.count r > 1
  · exact Or.inl (if_pos hc)
  · cases d with
    | zero => exact Or.inl (by simp only [finishTree, hc, if_false]; rfl)
    | succ d =>
      cases hk : (r : Inner K (Node K V d)).kids[0]? with
      | none => exact Or.inl (by simp only [finishTree, hc, if_false, collapseRoot, hk]; rfl)
      | some k =>
        refine Or.inr ⟨o, d, nid, r, k, rfl, ?_, hk, Nat.le_of_not_lt fun h => hc (Or.inr h),
          by simp only [finishTree, hc, if_false, collapseRoot, hk]; rfl⟩
        cases small
        · exact absurd (Or.inl rfl) hc
        · rfl

theorem descend_cases (a : AnyNode K V) :
    (∃ l : Leaf K V, a = ⟨0, l⟩ ∧ leafOf? a = some l) ∨
    (∃ (d : Nat) (p : Inner K (Node K V d)), a = ⟨d + 1, p⟩ ∧ leafOf? a = none ∧ innerRunts? a = some p.runts ∧
      ∀ i, innerKidId? a i = (p.kids[i]?).map Node.id) := by
  obtain ⟨d, n⟩ := a
  cases d with
  | zero => exact .inl ⟨n, rfl, rfl⟩
  | succ d => exact .inr ⟨d, n, rfl, rfl, rfl, fun _ => rfl⟩

section
variable {P : Params K} {t : Nat} {s : St K V} {key : K} {f : Option V → V} {y : Option Bool}

theorem roArrive_none {sc : Bool} {hold : Lk} {n : Nat} (hfind : s.tree.find n = none) :
    roArrive P t s sc key hold n = (s.rel t hold, .panic) := by
  unfold roArrive
  simp only [show (s.rel t hold).tree = s.tree from rfl, hfind]

theorem roArrive_at_leaf {sc : Bool} {hold : Lk} {n : Nat} {l : Leaf K V} (hfind : s.tree.find n = some ⟨0, l⟩) :
    roArrive P t s sc key hold n =
      if sc then
        ({ s.rel t hold with cursor := some (some n, (startIndex P {} key l : Int) - 1), exhausted := false }, .done .ok)
      else match Leaf.search P l key with
        | .ok v => ((s.rel t hold).rel t (.node n), .done (.found v))
        | .error _ => (s.rel t hold, .panic) := by
  unfold roArrive
  simp only [show (s.rel t hold).tree = s.tree from rfl, hfind, leafOf?]
  cases sc
  · simp only [Bool.false_eq_true, if_false]
    cases Leaf.search P l key <;> rfl
  · rfl

theorem roArrive_leaf {hold : Lk} {n : Nat} {l : Leaf K V} {v : Option V}
    (hfind : s.tree.find n = some ⟨0, l⟩) (hs : Leaf.search P l key = .ok v) :
    roArrive P t s false key hold n = ((s.rel t hold).rel t (.node n), .done (.found v)) := by
  rw [roArrive_at_leaf hfind, if_neg Bool.false_ne_true, hs]

theorem roArrive_scanner {hold : Lk} {n : Nat} {l : Leaf K V} (hfind : s.tree.find n = some ⟨0, l⟩) :
    roArrive P t s true key hold n =
      ({ s.rel t hold with cursor := some (some n, (startIndex P {} key l : Int) - 1), exhausted := false }, .done .ok) :=
  (roArrive_at_leaf hfind).trans (if_pos rfl)

theorem roArrive_kid {sc : Bool} {hold : Lk} {n d : Nat} {p : Inner K (Node K V d)}
    (hfind : s.tree.find n = some ⟨d + 1, p⟩) :
    roArrive P t s sc key hold n =
      match (p.kids[searchLE P.lt key p.runts]?).map Node.id with
      | none => (s.rel t hold, .panic)
      | some c => (s.rel t hold, .park (.want (.node c) (.roNode sc key (.node n) c))) := by
  unfold roArrive
  simp only [show (s.rel t hold).tree = s.tree from rfl, hfind, leafOf?, innerRunts?, innerKidId?]
  cases (p.kids[searchLE P.lt key p.runts]?).map Node.id <;> rfl

theorem roArrive_inner {sc : Bool} {hold : Lk} {n d : Nat} {p : Inner K (Node K V d)} {child : Node K V d}
    (hfind : s.tree.find n = some ⟨d + 1, p⟩) (hk : p.kids[searchLE P.lt key p.runts]? = some child) :
    roArrive P t s sc key hold n =
      (s.rel t hold, .park (.want (.node (Node.id child)) (.roNode sc key (.node n) (Node.id child)))) := by
  rw [roArrive_kid hfind, hk]; rfl

theorem upContinue_none {n : Nat} (hfind : s.tree.find n = none) : upContinue P t s key f y n = (s, .panic) := by
  unfold upContinue
  rw [hfind]

theorem upContinue_leaf {n : Nat} {l : Leaf K V} (hfind : s.tree.find n = some ⟨0, l⟩) :
    upContinue P t s key f y n = upLeaf P t s key f y n l := by
  unfold upContinue
  rw [hfind]
  simp only [leafOf?]

theorem upContinue_kid {n d : Nat} {p : Inner K (Node K V d)} (hfind : s.tree.find n = some ⟨d + 1, p⟩) :
    upContinue P t s key f y n =
      match (p.kids[searchLE P.lt key p.runts]?).map Node.id with
      | none => (s, .panic)
      | some c => (s, .park (.want (.node c) (.upChild key f y n (searchLE P.lt key p.runts) c))) := by
  unfold upContinue
  rw [hfind]
  simp only [leafOf?, innerRunts?, innerKidId?]
  cases (p.kids[searchLE P.lt key p.runts]?).map Node.id <;> rfl

theorem upContinue_inner {n d : Nat} {p : Inner K (Node K V d)} {child : Node K V d}
    (hfind : s.tree.find n = some ⟨d + 1, p⟩) (hk : p.kids[searchLE P.lt key p.runts]? = some child) :
    upContinue P t s key f y n =
      (s, .park (.want (.node (Node.id child)) (.upChild key f y n (searchLE P.lt key p.runts) (Node.id child)))) := by
  rw [upContinue_kid hfind, hk]; rfl

theorem upLeaf_error {n : Nat} {l : Leaf K V} {e : Panic} (h : Leaf.upsert P l key f = .error e) :
    upLeaf P t s key f y n l = (s, .panic) := by
  unfold upLeaf
  rw [h]

theorem upLeaf_none {n : Nat} {l l' : Leaf K V} {arg : Option V} (h : Leaf.upsert P l key f = .ok (l', arg)) :
    upLeaf P t s key f none n l = ((s.setTree (putLeaf s.tree l')).rel t (.node n), .done .ok) := by
  unfold upLeaf
  rw [h]

theorem upLeaf_false {n : Nat} {l l' : Leaf K V} {arg : Option V} (h : Leaf.upsert P l key f = .ok (l', arg)) :
    upLeaf P t s key f (some false) n l =
      (((s.note t (.cb arg)).setTree (putLeaf s.tree l')).rel t (.node n), .done .ok) := by
  unfold upLeaf
  rw [h]
  rfl

theorem upLeaf_true {n : Nat} {l l' : Leaf K V} {arg : Option V} (h : Leaf.upsert P l key f = .ok (l', arg)) :
    upLeaf P t s key f (some true) n l = (s.note t (.cb arg), .park (.yielded (.upCallback key f n arg))) := by
  unfold upLeaf
  rw [h]

/-- the update callback has returned: what is left is the leaf part of an Insert -/
theorem resume_upCallback_upLeaf {leaf : Nat} (arg : Option V) {l : Leaf K V} (hfind : s.tree.find leaf = some ⟨0, l⟩) :
    resume P t s (.upCallback key f leaf arg) = upLeaf P t s key f none leaf l := by
  simp only [resume, hfind, leafOf?, upLeaf]
  cases Leaf.upsert P l key f <;> rfl

theorem upChildArrive_eq_nosplit {parent index child d : Nat} {p : Inner K (Node K V d)} {c left : Node K V d}
    {runts : List K}
    (hfind : s.tree.find parent = some ⟨d + 1, p⟩) (hk : p.kids[index]? = some c)
    (hlf : lowerFirst P key index p.runts c = .ok runts)
    (hms : Node.maybeSplit P.order s.tree.nextId c = .ok (left, none)) :
    upChildArrive P t s key f y parent index child =
      upContinue P t ((s.setTree (putInner s.tree (⟨p.id, runts, p.kids.set index left⟩ : Inner K (Node K V d)))).rel t
        (.node parent)) key f y child := by
  unfold upChildArrive
  rw [hfind]
  simp only [hk, hlf, hms]

@[reducible] def splitParent {d : Nat} (p : Inner K (Node K V d)) (index : Nat) (pad rs : K) (runts : List K)
    (left right : Node K V d) : Inner K (Node K V d) :=
  ⟨p.id, insertIdiom pad runts (index + 1) rs, (insertIdiom right p.kids (index + 1) right).set index left⟩

theorem upChildArrive_right {parent index child d : Nat} {p : Inner K (Node K V d)} {c left right : Node K V d}
    {runts : List K} {pad rs : K}
    (hfind : s.tree.find parent = some ⟨d + 1, p⟩) (hk : p.kids[index]? = some c)
    (hlf : lowerFirst P key index p.runts c = .ok runts)
    (hms : Node.maybeSplit P.order s.tree.nextId c = .ok (left, some right))
    (hpad : P.pad (some key) = some pad) (hrs : Node.smallest right = .ok rs) (hlt : P.lt key rs = false) :
    upChildArrive P t s key f y parent index child =
      (s.setTree (allocId (putInner s.tree (splitParent p index pad rs runts left right))),
        .park (.want (.node (Node.id right)) (.upSib key f y parent child (Node.id right)))) := by
  unfold upChildArrive
  rw [hfind]
  simp only [hk, hlf, hms, hpad, hrs, hlt, Bool.not_false, if_true]

theorem upChildArrive_left {parent index child d : Nat} {p : Inner K (Node K V d)} {c left right : Node K V d}
    {runts : List K} {pad rs : K}
    (hfind : s.tree.find parent = some ⟨d + 1, p⟩) (hk : p.kids[index]? = some c)
    (hlf : lowerFirst P key index p.runts c = .ok runts)
    (hms : Node.maybeSplit P.order s.tree.nextId c = .ok (left, some right))
    (hpad : P.pad (some key) = some pad) (hrs : Node.smallest right = .ok rs) (hlt : P.lt key rs = true) :
    upChildArrive P t s key f y parent index child =
      upContinue P t ((s.setTree (allocId (putInner s.tree (splitParent p index pad rs runts left right)))).rel t
        (.node parent)) key f y child := by
  unfold upChildArrive
  rw [hfind]
  simp only [hk, hlf, hms, hpad, hrs, hlt, Bool.not_true, Bool.false_eq_true, if_false]

theorem upChildArrive_eq_split {parent index child d : Nat} {p : Inner K (Node K V d)} {c left right : Node K V d}
    {runts : List K} {pad rs : K}
    (hfind : s.tree.find parent = some ⟨d + 1, p⟩) (hk : p.kids[index]? = some c)
    (hlf : lowerFirst P key index p.runts c = .ok runts)
    (hms : Node.maybeSplit P.order s.tree.nextId c = .ok (left, some right))
    (hpad : P.pad (some key) = some pad) (hrs : Node.smallest right = .ok rs) :
    upChildArrive P t s key f y parent index child =
      if (!P.lt key rs) = true then
        (s.setTree (allocId (putInner s.tree (splitParent p index pad rs runts left right))),
          .park (.want (.node (Node.id right)) (.upSib key f y parent child (Node.id right))))
      else
        upContinue P t ((s.setTree (allocId (putInner s.tree (splitParent p index pad rs runts left right)))).rel t
          (.node parent)) key f y child := by
  cases hlt : P.lt key rs
  · exact upChildArrive_right hfind hk hlf hms hpad hrs hlt
  · exact upChildArrive_left hfind hk hlf hms hpad hrs hlt

theorem upRootArrive_eq_nosplit {root : Nat} {l : Node K V s.tree.depth}
    (hms : Node.maybeSplit s.tree.order s.tree.nextId s.tree.root = .ok (l, none)) :
    upRootArrive P t s key f y root = upContinue P t (s.rel t .tree) key f y root := by
  unfold upRootArrive
  simp only [hms]

theorem upRootArrive_right {root : Nat} {left right : Node K V s.tree.depth} {ls rs : K}
    (hms : Node.maybeSplit s.tree.order s.tree.nextId s.tree.root = .ok (left, some right))
    (hls : Node.smallest left = .ok ls) (hrs : Node.smallest right = .ok rs) (hlt : P.lt key rs = false) :
    upRootArrive P t s key f y root =
      (s.setTree (splitRoot s.tree (if P.lt key ls then key else ls) rs left right),
        .park (.want (.node (Node.id right)) (.upRootSib key f y root (Node.id right)))) := by
  unfold upRootArrive
  simp only [hms, hls, hrs, hlt, Bool.not_false, if_true]

theorem upRootArrive_left {root : Nat} {left right : Node K V s.tree.depth} {ls rs : K}
    (hms : Node.maybeSplit s.tree.order s.tree.nextId s.tree.root = .ok (left, some right))
    (hls : Node.smallest left = .ok ls) (hrs : Node.smallest right = .ok rs) (hlt : P.lt key rs = true) :
    upRootArrive P t s key f y root =
      upContinue P t ((s.setTree (splitRoot s.tree (if P.lt key ls then key else ls) rs left right)).rel t .tree)
        key f y root := by
  unfold upRootArrive
  simp only [hms, hls, hrs, hlt, Bool.not_true, Bool.false_eq_true, if_false]

theorem upRootArrive_eq_split {root : Nat} {left right : Node K V s.tree.depth} {ls rs : K}
    (hms : Node.maybeSplit s.tree.order s.tree.nextId s.tree.root = .ok (left, some right))
    (hls : Node.smallest left = .ok ls) (hrs : Node.smallest right = .ok rs) :
    upRootArrive P t s key f y root =
      if (!P.lt key rs) = true then
        (s.setTree (splitRoot s.tree (if P.lt key ls then key else ls) rs left right),
          .park (.want (.node (Node.id right)) (.upRootSib key f y root (Node.id right))))
      else
        upContinue P t ((s.setTree (splitRoot s.tree (if P.lt key ls then key else ls) rs left right)).rel t .tree)
          key f y root := by
  cases hlt : P.lt key rs
  · exact upRootArrive_right hms hls hrs hlt
  · exact upRootArrive_left hms hls hrs hlt

theorem delGo_none {frames : List Frame} {n rootWas : Nat} (hfind : s.tree.find n = none) :
    delGo P t s key frames n rootWas = (s, .panic) := by
  unfold delGo delEnter
  rw [hfind]

theorem delGo_leaf {frames : List Frame} {n rootWas : Nat} {l l' : Leaf K V} {small : Bool}
    (hfind : s.tree.find n = some ⟨0, l⟩) (hd : Leaf.deleteKey P l (P.order >>> 1) key = .ok (l', small)) :
    delGo P t s key frames n rootWas = delUnwind P t (s.setTree (putLeaf s.tree l')) key frames small rootWas := by
  unfold delGo delEnter
  rw [hfind]
  simp only [leafOf?, hd]

theorem delGo_kid {frames : List Frame} {n rootWas d : Nat} {p : Inner K (Node K V d)}
    (hfind : s.tree.find n = some ⟨d + 1, p⟩) :
    delGo P t s key frames n rootWas =
      if searchLE P.lt key p.runts > 0 then
        match (p.kids[searchLE P.lt key p.runts - 1]?).map Node.id with
        | none => (s, .panic)
        | some l => (s, .park (.want (.node l) (.delLeft key frames n (searchLE P.lt key p.runts) l rootWas)))
      else
        match (p.kids[searchLE P.lt key p.runts]?).map Node.id with
        | none => (s, .panic)
        | some c => (s, .park (.want (.node c) (.delChild key frames n (searchLE P.lt key p.runts) none c rootWas))) := by
  unfold delGo delEnter
  rw [hfind]
  simp only [leafOf?, innerRunts?, innerKidId?]
  by_cases hpos : searchLE P.lt key p.runts > 0
  · rw [if_pos hpos, if_pos hpos]
    cases (p.kids[searchLE P.lt key p.runts - 1]?).map Node.id <;> rfl
  · rw [if_neg hpos, if_neg hpos]
    cases (p.kids[searchLE P.lt key p.runts]?).map Node.id <;> rfl

theorem delGo_left {frames : List Frame} {n rootWas d : Nat} {p : Inner K (Node K V d)} {l : Node K V d}
    (hfind : s.tree.find n = some ⟨d + 1, p⟩) (hpos : searchLE P.lt key p.runts > 0)
    (hk : p.kids[searchLE P.lt key p.runts - 1]? = some l) :
    delGo P t s key frames n rootWas =
      (s, .park (.want (.node (Node.id l)) (.delLeft key frames n (searchLE P.lt key p.runts) (Node.id l) rootWas))) := by
  rw [delGo_kid hfind, if_pos hpos, hk]; rfl

theorem delGo_zero {frames : List Frame} {n rootWas d : Nat} {p : Inner K (Node K V d)} {c : Node K V d}
    (hfind : s.tree.find n = some ⟨d + 1, p⟩) (hpos : ¬ searchLE P.lt key p.runts > 0)
    (hk : p.kids[searchLE P.lt key p.runts]? = some c) :
    delGo P t s key frames n rootWas =
      (s, .park (.want (.node (Node.id c)) (.delChild key frames n (searchLE P.lt key p.runts) none (Node.id c) rootWas))) := by
  rw [delGo_kid hfind, if_neg hpos, hk]; rfl

theorem resume_delLeft {frames : List Frame} {node index left root d : Nat} {p : Inner K (Node K V d)} {c : Node K V d}
    (hfind : s.tree.find node = some ⟨d + 1, p⟩) (hk : p.kids[index]? = some c) :
    resume P t s (.delLeft key frames node index left root) =
      (s.acq t (.node left), .park (.want (.node (Node.id c))
        (.delChild key frames node index (some left) (Node.id c) root))) := by
  simp only [resume, show (s.acq t (.node left)).tree = s.tree from rfl, hfind, innerKidId?, hk, Option.map_some]

theorem delFinish_eq (t : Nat) (s : St K V) (small : Bool) (root : Nat) :
    delFinish t s small root = (((s.setTree (finishTree s.tree small)).rel t (.node root)).rel t .tree, .done .ok) := by
  by_cases hc : (!small) = true ∨ Node.count s.tree.root > 1
  · simp only [delFinish, finishTree, hc, if_true]
  · simp only [delFinish, finishTree, hc, if_false]
    cases collapseRoot s.tree.order s.tree.nextId s.tree.depth s.tree.root <;> rfl

theorem delUnwind_nil {small : Bool} {rootWas : Nat} :
    delUnwind P t s key [] small rootWas = delFinish t s small rootWas := by
  unfold delUnwind; rfl

theorem delUnwind_false {fr : Frame} {rest : List Frame} {rootWas : Nat} :
    delUnwind P t s key (fr :: rest) false rootWas = delUnwind P t (frameUnlock t s fr none) key rest false rootWas := by
  rw [delUnwind]; rfl

theorem delUnwind_right {fr : Frame} {rest : List Frame} {rootWas d : Nat} {i : Inner K (Node K V d)} {right : Node K V d}
    (hfind : s.tree.find fr.node = some ⟨d + 1, i⟩) (hr : fr.index + 1 < i.runts.length)
    (hk : i.kids[fr.index + 1]? = some right) :
    delUnwind P t s key (fr :: rest) true rootWas =
      (s, .park (.want (.node (Node.id right)) (.delRight key rest fr (Node.id right) rootWas))) := by
  rw [delUnwind]
  simp only [Bool.not_true, Bool.false_eq_true, if_false, hfind, hr, if_true, hk, Option.map_some]

theorem delUnwind_reb {fr : Frame} {rest : List Frame} {rootWas d : Nat} {i i' : Inner K (Node K V d)}
    {child : Node K V d} {small' : Bool}
    (hfind : s.tree.find fr.node = some ⟨d + 1, i⟩) (hr : ¬ fr.index + 1 < i.runts.length)
    (hk : i.kids[fr.index]? = some child)
    (hreb : rebalance P {} (P.order >>> 1) i fr.index child = .ok (i', small')) :
    delUnwind P t s key (fr :: rest) true rootWas =
      delUnwind P t (frameUnlock t (s.setTree (putInner s.tree i')) fr none) key rest small' rootWas := by
  rw [delUnwind]
  simp only [Bool.not_true, Bool.false_eq_true, if_false, hfind, hr, hk, hreb]

theorem delRightArrive_eq {fr : Frame} {rest : List Frame} {right rootWas d : Nat} {i i' : Inner K (Node K V d)}
    {child : Node K V d} {small' : Bool}
    (hfind : s.tree.find fr.node = some ⟨d + 1, i⟩) (hk : i.kids[fr.index]? = some child)
    (hreb : rebalance P {} (P.order >>> 1) i fr.index child = .ok (i', small')) :
    delRightArrive P t s key rest fr right rootWas =
      delUnwind P t (frameUnlock t (s.setTree (putInner s.tree i')) fr (some right)) key rest small' rootWas := by
  unfold delRightArrive
  simp only [hfind, hk, hreb]

end

end Gobptree.Conc
