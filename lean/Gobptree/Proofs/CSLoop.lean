/-
  From the first stretch of a step (a `resume` or the first `startOp`) to the thread's next
  park: the operations started afterwards do not touch the tree; what has to be carried
  is the thread's own invariant (continuation facts, cursor, client discipline).
-/
import Gobptree.Proofs.CSDiscLemmas
import Gobptree.Proofs.CSBlock

namespace Gobptree.Conc
open Gobptree

variable {K V : Type}

/-- what the assembly needs from `startOp` (proved in `CSUpStart`: `startOp_post`) -/
def StartOpPost (K V : Type) : Prop :=
  ∀ (t : Nat) (s : St K V) (op : COp K V) (hole : Option Nat),
    TreeOk hole s.tree → CursorOk s.tree false s.cursor → opFault s op = false →
    (startOp t s op).1.tree = s.tree ∧ (startOp t s op).2 ≠ .panic ∧
    (∀ p, (startOp t s op).2 = .park p →
        parkKontOk s.tree p ∧ ParkPre (startOp t s op).1.cursor p ∧ parkExtra s.tree p = [] ∧ parkHole p = none) ∧
    CursorOk s.tree (flowIsHop (startOp t s op).2) (startOp t s op).1.cursor

def StartOpLive (K V : Type) : Prop :=
  ∀ (t : Nat) (s : St K V) (op : COp K V) (p : Park K V), (startOp t s op).2 = .park p → parkLive p

/-- the thread loop after a stretch has run, while it goes on through operations that start and finish
    without parking (they leave the tree `T` alone); `N0` is the allocation counter before the step:
    the nodes the parked continuation was handed by the stretch (`parkExtra`) are at least that new -/
structure LoopInv (T : Tree K V) (N0 : Nat) (th : Thread K V) (s : St K V) (fl : Flow K V) (pc : Nat) : Prop where
  tree    : s.tree = T
  nopanic : fl ≠ .panic
  kont    : ∀ p, fl = .park p → parkKontOk T p ∧ ParkPre s.cursor p ∧ (∀ x ∈ parkExtra T p, N0 ≤ x) ∧ parkLive p
  cursor  : CursorOk T (flowIsHop fl) s.cursor
  disc    : ∃ st', disciplined st' (th.prog.drop (pc + 1)) = true ∧ flowAbs st' fl s.cursor s.exhausted

structure LoopOut (T : Tree K V) (N0 : Nat) (th : Thread K V) (fl0 : Flow K V) (r : Thread K V × St K V × Bool) : Prop where
  alive : r.2.2 = false
  tree  : r.2.1.tree = T
  sok   : ThreadSOk T r.1
  disc  : DiscOk r.1
  extra : ∀ x ∈ parkExtra T r.1.park, N0 ≤ x
  hole  : parkHole r.1.park = flowHole fl0
  prog  : r.1.prog = th.prog

theorem cursor_ge_of_ok {T : Tree K V} {b : Bool} {c : Option (Option Nat × Int)} (h : CursorOk T b c) :
    ∀ leaf i, c = some (some leaf, i) → -1 ≤ i := by
  intro leaf i e
  subst e
  obtain ⟨_, _, _, h3, _⟩ := h
  exact h3

theorem disciplined_cons {st : CSt} {op : COp K V} {rest : List (COp K V)}
    (h : disciplined st (op :: rest) = true) : ∃ st', discStep st op = some st' ∧ disciplined st' rest = true := by
  unfold disciplined at h
  cases hs : discStep st op with
  | none => rw [hs] at h; cases h
  | some st' => rw [hs] at h; exact ⟨st', rfl, h⟩

theorem disciplined_at {st : CSt} {prog : List (COp K V)} {i : Nat} {op : COp K V}
    (h : disciplined st (prog.drop i) = true) (hop : prog[i]? = some op) :
    ∃ st', discStep st op = some st' ∧ disciplined st' (prog.drop (i + 1)) = true := by
  obtain ⟨hlt, e⟩ := List.getElem?_eq_some_iff.1 hop
  rw [List.drop_eq_getElem_cons hlt, e] at h
  exact disciplined_cons h

theorem startOp_loopInv (hS : StartOpPost K V) (hL : StartOpLive K V) (t : Nat) (th : Thread K V) {T : Tree K V}
    {hole : Option Nat} (N0 : Nat) (hT : TreeOk hole T) {s : St K V} {op : COp K V} {st : CSt} {pc : Nat}
    (ht : s.tree = T) (hcur : CursorOk T false s.cursor) (ha : AbsC st s.cursor s.exhausted)
    (hd : disciplined st (th.prog.drop pc) = true) (hop : th.prog[pc]? = some op) :
    LoopInv T N0 th (startOp t s op).1 (startOp t s op).2 pc ∧ flowHole (startOp t s op).2 = none := by
  obtain ⟨st', hstep, hrest⟩ := disciplined_at hd hop
  subst ht
  have habs := startOp_abs t s op st st' ha hstep (cursor_ge_of_ok hcur)
  obtain ⟨hs_tree, hs_np, hs_park, hs_cur⟩ := hS t s op hole hT hcur habs.1
  refine ⟨⟨hs_tree, hs_np, fun p hp => ?_, hs_cur, st', hrest, habs.2⟩, ?_⟩
  · obtain ⟨a, b, c, _⟩ := hs_park p hp
    exact ⟨a, b, c ▸ (fun x hx => nomatch hx), hL t s op p hp⟩
  · cases hfl : (startOp t s op).2 with
    | panic => rfl
    | done _ => rfl
    | park p => exact (hs_park p hfl).2.2.2

theorem loop_sinv (hS : StartOpPost K V) (hL : StartOpLive K V) (t : Nat) (th : Thread K V) (T : Tree K V)
    (hole : Option Nat) (N0 : Nat) (hT : TreeOk hole T) :
    ∀ (fuel : Nat) (s : St K V) (fl : Flow K V) (pc : Nat), LoopInv T N0 th s fl pc →
      LoopOut T N0 th fl (threadLoop t th fuel s fl pc) := by
  intro fuel s fl pc hi
  -- only the first stretch of a step can park with a hole
  refine threadLoop_induct t th (fun s fl' pc => LoopInv T N0 th s fl' pc ∧ flowHole fl' = flowHole fl)
    (LoopOut T N0 th fl) ?_ ?_ ?_ ?_ fuel s fl pc ⟨hi, rfl⟩
  · intro s p pc ⟨hi, hh⟩
    obtain ⟨h1, _, h3, h4⟩ := hi.kont p rfl
    refine ⟨rfl, hi.tree, ⟨h1, hi.cursor⟩, ?_, h3, hh, rfl⟩
    cases p with
    | start => exact absurd h4 id
    | finished => trivial
    | want l k => exact hi.disc
    | yielded k => exact hi.disc
  · intro s pc ⟨hi, _⟩
    exact absurd rfl hi.nopanic
  · intro s r pc ⟨hi, hh⟩
    exact ⟨rfl, hi.tree, ⟨trivial, hi.cursor⟩, trivial, (fun x hx => nomatch hx), hh, rfl⟩
  · intro s r pc op ⟨hi, hh⟩ hop
    obtain ⟨st', hd1, hd2⟩ := hi.disc
    obtain ⟨h1, h2⟩ := startOp_loopInv hS hL t th N0 hT (s := (s.note t (.ret pc r)).note t (.inv (pc + 1)))
      hi.tree hi.cursor hd2 hd1 hop
    exact ⟨h1, h2.trans hh⟩

end Gobptree.Conc
