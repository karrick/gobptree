/-
  `NewScanner` + `Scan`/`Pair` until false = `Spec.from` (given distinct leaf identities).
  First the landing leaf alone: the cursor's start index selects exactly its entries ≥ start
  (`start_exact`).
-/
import Gobptree.Proofs.Scan
import Gobptree.Proofs.TreeUpsert

namespace Gobptree

variable {K V : Type} {lt : K → K → Bool}

section start
variable {P : Params K}

theorem drop_eq_filter {α : Type} (p : α → Bool) : ∀ (l : List α) (n : Nat),
    (∀ j x, l[j]? = some x → (p x = true ↔ n ≤ j)) → l.drop n = l.filter p
  | [], _, _ => List.drop_nil
  | x :: l, 0, hp => by
    rw [List.drop_zero, List.filter_eq_self.2 fun y hy => ?_]
    obtain ⟨j, hj⟩ := List.getElem?_of_mem hy
    exact (hp j y hj).2 (Nat.zero_le j)
  | x :: l, n + 1, hp => by
    have hx : p x = false := Bool.eq_false_iff.2 fun c => absurd ((hp 0 x rfl).1 c) (Nat.not_succ_le_zero n)
    rw [List.drop_succ_cons, List.filter_cons_of_neg (by rw [hx]; exact Bool.false_ne_true)]
    exact drop_eq_filter p l n fun j y hj => (hp (j + 1) y hj).trans ⟨Nat.le_of_succ_le_succ, Nat.succ_le_succ⟩

/-- **C02, the start position is exact.** On a sorted leaf, dropping the first
    `startIndex` entries leaves exactly the entries with key ≥ start — in particular nothing
    if every key of the leaf is smaller than the start key (the repaired defect D3: the
    clamped search alone would select the last key). -/
theorem start_exact (h : SWO lt) (hP : P.lt = lt) (l : Leaf K V) (key : K)
    (hs : Sorted lt l.keys) (hlen : l.keys.length = l.vals.length) :
    (l.keys.zip l.vals).drop (startIndex P {} key l) = Spec.from lt (l.keys.zip l.vals) key := by
  refine drop_eq_filter _ _ _ fun j p hp => ?_
  obtain ⟨hk, -⟩ := List.getElem?_zip_eq_some.1 hp
  rw [← startIndex_spec h P hP key l hs j p.1 hk]
  cases lt p.1 key <;> decide

end start

theorem flatMap_leaves_pairs {d : Nat} (cs : List (Node K V d)) :
    (cs.flatMap (Node.leaves (d := d))).flatMap leafPairs = cs.flatMap (Node.pairs (d := d)) := by
  rw [List.flatMap_assoc]
  congr 1
  funext c
  exact (pairs_eq_leaves c).symm

theorem scanLeaf_ok (h : SWO lt) (P : Params K) (hP : P.lt = lt) (key : K) :
    ∀ (d : Nat) (n : Node K V d) (m : Nat) (lo hi : Option K), WF lt P.order d m lo hi n →
      ∃ (lsA lsB : List (Leaf K V)) (L : Leaf K V),
        scanLeaf P key d n = .ok L ∧ Node.leaves n = lsA ++ L :: lsB ∧
        AllLt lt (lsA.flatMap leafPairs) key ∧ AllGt lt (lsB.flatMap leafPairs) key := by
  intro d
  induction d with
  | zero =>
    intro n m lo hi _
    exact ⟨[], [], n, rfl, rfl, fun p hp => by simp at hp, fun p hp => by simp at hp⟩
  | succ d ih =>
    intro n m lo hi hw
    obtain ⟨rA, rB, k, cA, cB, c, R⟩ := route_facts h key (n : Inner K (Node K V d)) hw
    obtain ⟨lsA, lsB, L, heq, hls, hlA, hlBB⟩ := ih c _ _ _ R.child
    subst hP
    refine ⟨cA.flatMap (Node.leaves (d := d)) ++ lsA, lsB ++ cB.flatMap (Node.leaves (d := d)), L, ?_, ?_, ?_, ?_⟩
    · show (match (n : Inner K (Node K V d)).kids[searchLE P.lt key (n : Inner K (Node K V d)).runts]? with
        | none => throw Panic.indexOutOfRange
        | some child => scanLeaf P key d child) = _
      rw [R.kid]; exact heq
    · show (n : Inner K (Node K V d)).kids.flatMap (Node.leaves (d := d)) = _
      rw [R.kids, List.flatMap_append, List.flatMap_cons, hls]
      simp
    · rw [List.flatMap_append, flatMap_leaves_pairs]
      exact List.forall_mem_append.2 ⟨R.pairs_before, hlA⟩
    · rw [List.flatMap_append, flatMap_leaves_pairs]
      exact List.forall_mem_append.2 ⟨hlBB, R.pairs_after⟩

theorem scanFrom_go_eq (t : Tree K V) :
    ∀ (fuel : Nat) (c : Cursor) (acc : List (K × V)),
      Tree.scanFrom.go t none fuel c acc = scanLoop t fuel c acc := by
  intro fuel
  induction fuel with
  | zero => intro c acc; rfl
  | succ fuel ih =>
    intro c acc
    unfold Tree.scanFrom.go scanLoop
    simp only [reduceCtorEq, if_false]
    congr 1
    funext r
    obtain ⟨c', more⟩ := r
    simp only
    cases more
    · rfl
    · simp only [Bool.not_true, Bool.false_eq_true, if_false]
      congr 1
      funext kv
      exact ih c' (kv :: acc)

theorem scanFrom_ok (h : SWO lt) (P : Params K) (hP : P.lt = lt) (ho : 2 ≤ P.order)
    (t : Tree K V) (hto : t.order = P.order) (hinv : TreeInv lt t)
    (hnodup : ((Node.leaves t.root).map (·.id)).Nodup) (key : K) :
    ∃ fuel, t.scanFrom P {} key none fuel = .ok (Spec.from lt t.abs key, true) := by
  obtain ⟨hw, hL⟩ := hinv
  unfold TreeWF at hw
  rw [hto] at hw
  obtain ⟨lsA, lsB, L, hland, hls, hlA, hlB⟩ := scanLeaf_ok h P hP key t.depth t.root _ none none hw
  obtain ⟨hchain, _⟩ := Linked_chainList h hw hL
  have hleaves := WF_leaves hw
  subst hP
  have hmem : ∀ x ∈ L :: lsB, x ∈ Node.leaves t.root := fun x hx => hls ▸ List.mem_append_right _ hx
  obtain ⟨hLs, hLlen, _⟩ := hleaves L (hmem L List.mem_cons_self)
  -- below an inner root every leaf is half full; a root that is a leaf has no leaf after it
  have hne : ∀ x ∈ lsB, 0 < x.keys.length := by
    intro x hx
    by_cases hd : t.depth = 0
    · obtain ⟨order, depth, root, nextId⟩ := t
      subst hd
      have hl : 1 = (lsA ++ L :: lsB).length := congrArg List.length hls
      rw [length_pivot] at hl
      exact absurd (List.length_pos_of_mem hx) (by omega)
    · exact Nat.lt_of_lt_of_le (Nat.div_pos ho (Nat.succ_pos 1)) ((hleaves x (hmem x (List.mem_cons_of_mem _ hx))).2.2 hd)
  have hwalk := walk_of_chain t lsB lsA L hls ((ChainList_append _ _ _ _).1 (hls ▸ hchain)).2 (hls ▸ hnodup)
    (fun x hx => (hleaves x (hmem x hx)).2.1) hne
  have hns : t.newScanner P {} key = .ok { leaf := some L.id, i := (startIndex P {} key L : Int) - 1 } := by
    simp only [Tree.newScanner, hland, bind, Except.bind, pure, Except.pure]
  refine ⟨((leafPairs L).drop (startIndex P {} key L) ++ lsB.flatMap leafPairs).length + 1, ?_⟩
  simp only [Tree.scanFrom, hns, bind, Except.bind]
  rw [scanFrom_go_eq t, walk_ok t _ L lsB _ [] hwalk (startIndex_le P key L) (Nat.lt_succ_self _), List.reverse_nil,
    List.nil_append, Tree.abs_eq_pairs, pairs_eq_leaves, hls, List.flatMap_append, List.flatMap_cons,
    Spec.from_append, Spec.from_append, Spec.from_of_allLt _ key hlA, List.nil_append,
    Spec.from_of_allGe _ key (fun p hp => h.asymm (hlB p hp))]
  have := start_exact (P := P) h rfl L key hLs hLlen
  unfold leafPairs
  rw [this]

end Gobptree
