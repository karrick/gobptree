/-
  C06 — no deadlock: every operation eventually returns.

  Quantified over every initial tree satisfying the structural invariant (in particular a fresh
  tree of any even order ≥ 2), every finite family of client programs that respect the cursor
  discipline (`Disciplined`: tree operations only while no cursor is open, `Pair` only after
  `Scan`), where the order is at least 4 or no program contains a Delete (`hdel`; at order 2 a
  Delete panics), and EVERY schedule.
  Method: the concurrent structural invariant `CInv` (node identities distinct, parallel
  arrays, occupancy with the one hole of a running Delete, the leaf chain, every
  continuation's identities where it thinks they are) is inductive (`step_cinv`); it implies
  that every waiting thread waits for a mutex ranked above all it holds (`sinv_ranked`, ranking
  `posRank`: rootMutex, then nodes by level and pre-order position); a ranked configuration
  with consistent owners is not deadlocked (`ranked_not_deadlocked`).
  "Eventually returns" is proved without any fairness assumption as finiteness of every
  execution, and per thread as a bound on the steps of its own thread; that the thread gets
  those steps is the scheduler's fairness, which is not modelled.
  Modelled, not verified: Go's scheduler as interleaving at lock-acquisition granularity.
  On the implementation side the same rankedness predicate (with the level order of the
  current tree) is evaluated by the `lockorder` oracle in every scheduler state and deadlock
  is DECIDED by the wait-for graph over all schedules of the catalogues and random ones.
-/
import Gobptree.Proofs.ConcReach
import Gobptree.Proofs.ConcRank
import Gobptree.Proofs.CSFinal
import Gobptree.Proofs.CProgress
import Gobptree.Proofs.CTerminate
import Gobptree.Proofs.CClean

namespace Gobptree.Conc
open Gobptree

variable {K V : Type}

/-- **C06: no thread ever panics.** Every reachable configuration of disciplined clients on a
    tree satisfying the structural invariant has `dead = false`: no index out of range, no
    `smallest()` of an empty node, no "both siblings empty", no bad merge, no nil cursor. -/
theorem C06_no_panic (P : Params K) (tree : Tree K V) (progs : List (List (COp K V)))
    (ht : TreeOk none tree) (ho : tree.order = P.order) (hp : PadOk P) (hd : Disciplined progs)
    (hdel : 4 ≤ tree.order ∨ NoDelete progs)
    (c : Config K V) (hr : Reachable (Config.init P tree progs) c) : c.dead = false :=
  (reachable_cinv P tree progs ht ho hp hd hdel c hr).alive

/-- **C06: every reachable configuration is ranked.** Every waiting thread waits for a mutex
    that comes after all the mutexes it holds in the order `posRank` of the current tree. -/
theorem C06_reachable_ranked (P : Params K) (tree : Tree K V) (progs : List (List (COp K V)))
    (ht : TreeOk none tree) (ho : tree.order = P.order) (hp : PadOk P) (hd : Disciplined progs)
    (hdel : 4 ≤ tree.order ∨ NoDelete progs)
    (c : Config K V) (hr : Reachable (Config.init P tree progs) c) : Ranked (posRank c.tree) c :=
  sinv_ranked c (reachable_cinv P tree progs ht ho hp hd hdel c hr).s

/-- **C06: no deadlock.** In every reachable configuration in which some thread is unfinished
    and no thread has ended with an open cursor (`FinishedClean`, the client's side of C06),
    some thread is enabled. -/
theorem C06_no_deadlock (P : Params K) (tree : Tree K V) (progs : List (List (COp K V)))
    (ht : TreeOk none tree) (ho : tree.order = P.order) (hp : PadOk P) (hd : Disciplined progs)
    (hdel : 4 ≤ tree.order ∨ NoDelete progs)
    (c : Config K V) (hr : Reachable (Config.init P tree progs) c)
    (hfin : FinishedClean c) (hu : c.unfinished = true) : c.enabledSet ≠ [] :=
  (reachable_cinv P tree progs ht ho hp hd hdel c hr).not_deadlocked hfin hu

/-- **C06: an operation takes boundedly many of its own steps** (no retry loops). Once an
    operation has been granted `rootMutex` (or any lock), it finishes within `3·depth + 6` further
    steps of its own thread, on EVERY schedule and whatever the other threads do in between
    (`depth` = height of the tree when counting starts; `ts.count j` = number of steps of thread
    `j` in the schedule `ts`).  That the thread is given these steps is a matter of the
    scheduler; `C06_every_execution_terminates` needs no such assumption. -/
theorem C06_bounded_own_steps (P : Params K) (tree : Tree K V) (progs : List (List (COp K V)))
    (ht : TreeOk none tree) (ho : tree.order = P.order) (hp : PadOk P) (hd : Disciplined progs)
    (hdel : 4 ≤ tree.order ∨ NoDelete progs)
    (c : Config K V) (hr : Reachable (Config.init P tree progs) c)
    (j : Nat) (ts : List Nat) (c' : Config K V) (hrun : c.run ts = (c', none))
    (b b' : Thread K V) (hb : c.threads[j]? = some b) (hb' : c'.threads[j]? = some b')
    (hnt : parkWant b.park ≠ some Lk.tree) (hns : b.park ≠ .start) (hpc : b'.pc = b.pc) (hnf : b'.park ≠ .finished) :
    ts.count j ≤ 3 * c.tree.depth + 6 :=
  own_steps_le j ts c c' (reachable_cinv P tree progs ht ho hp hd hdel c hr) hrun b b' hb hb' hnt hns hpc hnf

/-- **C06: every own step makes progress.** A step of a thread inside an operation either
    completes the operation or strictly decreases the measure `opMeasure` (height-based). -/
theorem C06_own_step_progress (P : Params K) (tree : Tree K V) (progs : List (List (COp K V)))
    (ht : TreeOk none tree) (ho : tree.order = P.order) (hp : PadOk P) (hd : Disciplined progs)
    (hdel : 4 ≤ tree.order ∨ NoDelete progs)
    (c c' : Config K V) (hr : Reachable (Config.init P tree progs) c) (t : Nat) (hstep : c.step t = some c')
    (th th' : Thread K V) (hth : c.threads[t]? = some th) (hth' : c'.threads[t]? = some th')
    (hps : th.park ≠ .start) :
    th.pc < th'.pc ∨ th'.park = .finished ∨ opMeasure c'.tree th'.park < opMeasure c.tree th.park :=
  own_step_progress c c' t hstep (reachable_cinv P tree progs ht ho hp hd hdel c hr) th th' hth hth' hps

/-- **C06: every execution is finite, with an explicit bound — no fairness assumption.** From any
    reachable configuration NO schedule whatsoever runs for more than `termBound c` steps
    (`termBound c ≤ (Σ_threads (|prog| + 1)) · (3·depthBound c + 9)`, where `depthBound` is the
    current depth plus the number of Insert/Update operations that may still split the root): a
    thread waiting for a held mutex is not enabled (no spinning), every own step decreases a
    potential, no step of another thread increases it. -/
theorem C06_every_execution_terminates (P : Params K) (tree : Tree K V) (progs : List (List (COp K V)))
    (ht : TreeOk none tree) (ho : tree.order = P.order) (hp : PadOk P) (hd : Disciplined progs)
    (hdel : 4 ≤ tree.order ∨ NoDelete progs)
    (c : Config K V) (hr : Reachable (Config.init P tree progs) c)
    (ts : List Nat) (c' : Config K V) (hrun : c.run ts = (c', none)) :
    ts.length ≤ termBound c ∧
    termBound c ≤ (c.threads.map fun th => th.prog.length + 1).sum * (3 * depthBound c + 9) :=
  ⟨executions_bounded_explicit P tree progs ht ho hp hd hdel c hr ts c' hrun,
   termBound_le c (reachable_cinv P tree progs ht ho hp hd hdel c hr)⟩

/-- **C06: every operation returns.** Run ANY schedule from a reachable configuration until nothing
    is enabled (by `C06_every_execution_terminates` that happens within `termBound c` steps, and by
    `enabled_step` the run can always be extended while something is enabled); then — unless a
    client ended a thread with a cursor still open — every thread has finished: every Insert,
    Update, Delete, Search, NewScanner and cursor step of every program has returned. -/
theorem C06_all_operations_return (P : Params K) (tree : Tree K V) (progs : List (List (COp K V)))
    (ht : TreeOk none tree) (ho : tree.order = P.order) (hp : PadOk P) (hd : Disciplined progs)
    (hdel : 4 ≤ tree.order ∨ NoDelete progs)
    (c : Config K V) (hr : Reachable (Config.init P tree progs) c)
    (ts : List Nat) (c' : Config K V) (hrun : c.run ts = (c', none)) (hstuck : c'.enabledSet = [])
    (hfin : FinishedClean c') : c'.unfinished = false :=
  all_operations_return P tree progs ht ho hp hd hdel c hr ts c' hrun hstuck hfin

/-- **C06: there is no infinite execution** (well-founded form). -/
theorem C06_no_infinite_execution (P : Params K) (tree : Tree K V) (progs : List (List (COp K V)))
    (ht : TreeOk none tree) (ho : tree.order = P.order) (hp : PadOk P) (hd : Disciplined progs)
    (hdel : 4 ≤ tree.order ∨ NoDelete progs)
    (c : Config K V) (hr : Reachable (Config.init P tree progs) c) :
    ¬ ∃ f : Nat → Nat, ∀ n, (c.run ((List.range n).map f)).2 = none :=
  no_infinite_execution c (reachable_cinv P tree progs ht ho hp hd hdel c hr)

/-- **C06: the client-side proviso discharged statically.** `Closing progs`: every program leaves
    no cursor open (each `NewScanner` is eventually followed by a `Close`; `endSt .N p = some .N`
    in the discipline automaton).  Then no reachable configuration with an unfinished thread is
    deadlocked — `FinishedClean` is a theorem (`reachable_finishedClean`), not a hypothesis. -/
theorem C06_no_deadlock_closing (P : Params K) (tree : Tree K V) (progs : List (List (COp K V)))
    (ht : TreeOk none tree) (ho : tree.order = P.order) (hp : PadOk P) (hcl : Closing progs)
    (hdel : 4 ≤ tree.order ∨ NoDelete progs)
    (c : Config K V) (hr : Reachable (Config.init P tree progs) c) (hu : c.unfinished = true) :
    c.enabledSet ≠ [] :=
  no_deadlock_closing P tree progs ht ho hp hcl hdel c hr hu

/-- **C06: every operation returns, unconditionally.** For programs that close their cursors, EVERY
    maximal execution — any schedule, extended until nothing is enabled — ends with every operation
    of every thread returned, and with no mutex held by anybody. -/
theorem C06_all_operations_return_closing (P : Params K) (tree : Tree K V) (progs : List (List (COp K V)))
    (ht : TreeOk none tree) (ho : tree.order = P.order) (hp : PadOk P)
    (hcl : Closing progs) (hdel : 4 ≤ tree.order ∨ NoDelete progs)
    (c : Config K V) (hr : Reachable (Config.init P tree progs) c)
    (ts : List Nat) (c' : Config K V) (hrun : c.run ts = (c', none)) (hstuck : c'.enabledSet = []) :
    c'.unfinished = false ∧ c'.owner = [] ∧ ∀ th ∈ c'.threads, th.held = [] :=
  ⟨all_operations_return_closing P tree progs ht ho hp hcl hdel c hr ts c' hrun hstuck,
   nothing_held_at_end P tree progs ht ho hp hcl hdel c hr ts c' hrun hstuck⟩

/-- `Closing` is satisfiable (that it is strictly stronger than `Disciplined`:
    `disciplined_not_closing`, CClean) -/
example : Closing [[COp.ins 1 1, COp.ns 0, COp.scan, COp.pair, COp.close, COp.del 1], [COp.get (K := Nat) (V := Nat) 1]] := by
  intro p hp; simp at hp; rcases hp with rfl | rfl <;> rfl

/-- an enabled thread can step: a maximal execution exists -/
theorem C06_enabled_can_step (c : Config K V) (t : Nat) (h : t ∈ c.enabledSet) : ∃ c', c.step t = some c' :=
  enabled_step c t h

/-- the hypotheses are satisfiable: a fresh tree of order 4 satisfies the structural
    invariant, and a program mixing point operations with a cursor session is disciplined -/
example : TreeOk none (Tree.new 4 : Tree Nat Nat) ∧
    Disciplined [[COp.ins 1 1, COp.ns 0, COp.scan, COp.pair, COp.close, COp.del 1], [COp.get (K := Nat) (V := Nat) 1]] :=
  ⟨new_treeOk 4 (by omega) (by omega), by unfold Disciplined; decide⟩

/-- the hypotheses are satisfiable at ORDER 2 as well, with a Delete-free program family -/
example : TreeOk none (Tree.new 2 : Tree Nat Nat) ∧
    Disciplined [[COp.ins 1 1, COp.ns 0, COp.scan, COp.pair, COp.close, COp.upd 1 (fun _ => 2) false],
      [COp.get (K := Nat) (V := Nat) 1]] ∧
    (4 ≤ (Tree.new 2 : Tree Nat Nat).order ∨
      NoDelete [[COp.ins 1 1, COp.ns 0, COp.scan, COp.pair, COp.close, COp.upd 1 (fun _ => 2) false],
        [COp.get (K := Nat) (V := Nat) 1]]) :=
  ⟨new_treeOk 2 (by omega) (by omega), by unfold Disciplined; decide,
   Or.inr (by unfold NoDelete; decide)⟩

/-- hence at order 2, for that family, no thread ever panics -/
example (c : Config Nat Nat)
    (hr : Reachable (Config.init (Params.mk (fun a b : Nat => decide (a < b)) (fun _ => some 0) 2) (Tree.new 2)
      [[COp.ins 1 1, COp.ns 0, COp.scan, COp.pair, COp.close, COp.upd 1 (fun _ => 2) false],
        [COp.get (K := Nat) (V := Nat) 1]]) c) : c.dead = false :=
  C06_no_panic _ _ _ (new_treeOk 2 (by omega) (by omega)) rfl (by intro k h; simp at h)
    (by unfold Disciplined; decide)
    (Or.inr (by unfold NoDelete; decide))
    c hr

/-- **C06 (partial): only a held mutex blocks.** A thread waiting for a mutex that nobody
    holds, a thread at a client/callback yield and a thread that has not started are all
    enabled, and an enabled thread's step is defined: nothing but `Lock()` on a held mutex
    ever makes an operation wait. -/
theorem C06_only_locks_block_partial (c : Config K V) (t : Nat) (th : Thread K V)
    (hth : c.threads[t]? = some th)
    (hfree : match th.park with
      | .want l _ => c.holder l = none
      | .finished => False
      | _ => True) :
    ∃ c', c.step t = some c' := by
  have hen : th.enabled c = true := by
    unfold Thread.enabled
    cases hp : th.park with
    | start => rfl
    | yielded k => rfl
    | finished => rw [hp] at hfree; exact absurd hfree id
    | want l k => rw [hp] at hfree; simp only at hfree; simp [hfree]
  exact step_of_enabled hth hen

/-- **C06 (partial): Delete takes sibling locks left to right.** Whenever a Delete waits
    for the child at some level it already holds that child's left sibling (if it has
    one), and whenever it waits for the right sibling it already holds the child: the
    left → child → right order of `deleteKey`, the direction cursors travel. -/
theorem C06_delete_lock_order_partial (key : K) (frames : List Frame) (node index : Nat)
    (left : Option Nat) (child root : Nat) (fr : Frame) (rest : List Frame) (right : Nat) :
    (∀ l, left = some l → Lk.node l ∈ kontHeld (Kont.delChild (V := V) key frames node index left child root)) ∧
    Lk.node fr.child ∈ kontHeld (Kont.delRight (V := V) key rest fr right root) ∧
    (∀ l, fr.left = some l → Lk.node l ∈ kontHeld (Kont.delRight (V := V) key rest fr right root)) := by
  refine ⟨?_, ?_, ?_⟩
  · intro l hl; subst hl; simp [kontHeld, optLock]
  · simp [kontHeld, framesHeld]
  · intro l hl; simp [kontHeld, framesHeld, hl, optLock]

/-- **C06 (reduction): a reachable configuration that is ranked is not deadlocked.**
    In every configuration reachable from any initial tree and any client programs in which
    no thread panicked, if every waiting thread waits for a mutex that comes after all the
    mutexes it holds in the level order of the current tree (`rootMutex`, root, then level
    by level, left to right: `levelRank`), and no thread has ended with a cursor still open,
    then some thread can step whenever some thread is unfinished. Mutual exclusion
    (`reachable_owner`) is what turns "the wanted mutex is held" into "held by a thread that
    itself waits for a higher one".

    (For the ranking `posRank` rankedness of every reachable configuration is proved:
    `C06_reachable_ranked`. The level-order variant `levelRank` of this reduction is the
    predicate the model driver and the implementation-side `lockorder` oracle evaluate.) -/
theorem C06_ranked_no_deadlock_partial (P : Params K) (tree : Tree K V) (progs : List (List (COp K V)))
    (c : Config K V) (hr : Reachable (Config.init P tree progs) c) (hd : c.dead = false)
    (hrank : Ranked (levelRank c.tree) c) (hfin : FinishedClean c) (hu : c.unfinished = true) :
    c.enabledSet ≠ [] :=
  ranked_not_deadlocked (levelRank c.tree) c
    (reachable_owner _ c (init_ok P tree progs) (init_owner P tree progs) hr hd) hrank hfin hu

/-- the executable test the driver runs is the hypothesis of the theorem -/
theorem C06_rankedB_is_Ranked (c : Config K V) : rankedB c = true ↔ Ranked (levelRank c.tree) c :=
  rankedB_iff c

/-- the reduction is not specific to the level order: ANY ranking of the mutexes under which
    every waiting thread waits above what it holds excludes deadlock -/
theorem C06_any_ranking_no_deadlock_partial (rank : Lk → Nat) (c : Config K V) (ho : OwnerOk c)
    (hr : Ranked rank c) (hf : FinishedClean c) (hu : c.unfinished = true) : c.enabledSet ≠ [] :=
  ranked_not_deadlocked rank c ho hr hf hu

/-- a two-leaf tree, thread 0 holding the root and waiting for leaf 2, thread 1 waiting for
    the root -/
def exTree : Tree Nat Nat :=
  Tree.mk 4 1 (Inner.mk 1 [0, 5] [(Leaf.mk 2 [0, 1] [0, 0] (some 3) : Leaf Nat Nat), Leaf.mk 3 [5, 6] [0, 0] none] : Inner Nat (Node Nat Nat 0)) 4

def exConfig : Config Nat Nat :=
  Config.mk (Params.mk (fun a b => decide (a < b)) (fun _ => some 0) 4) exTree [(Lk.node 1, 0)]
    [Thread.mk [COp.get 0] 0 (Park.want (Lk.node 2) (Kont.roNode false 0 (Lk.node 1) 2)) [Lk.node 1] none false,
     Thread.mk [COp.get 5] 0 (Park.want (Lk.node 1) (Kont.roNode false 5 Lk.tree 1)) [] none false]
    [] false

/-- non-vacuity: the hypotheses of the reduction hold of a concrete waiting configuration
    (ranked, unfinished), and exactly thread 0 is enabled in it -/
example : rankedB exConfig = true ∧ exConfig.unfinished = true ∧ exConfig.enabledSet = [0] := by
  decide

end Gobptree.Conc

#print axioms Gobptree.Conc.C06_ranked_no_deadlock_partial
#print axioms Gobptree.Conc.C06_rankedB_is_Ranked
#print axioms Gobptree.Conc.C06_any_ranking_no_deadlock_partial
#print axioms Gobptree.Conc.C06_only_locks_block_partial
#print axioms Gobptree.Conc.C06_delete_lock_order_partial
#print axioms Gobptree.Conc.C06_no_panic
#print axioms Gobptree.Conc.C06_reachable_ranked
#print axioms Gobptree.Conc.C06_no_deadlock
#print axioms Gobptree.Conc.C06_bounded_own_steps
#print axioms Gobptree.Conc.C06_own_step_progress
#print axioms Gobptree.Conc.C06_every_execution_terminates
#print axioms Gobptree.Conc.C06_all_operations_return
#print axioms Gobptree.Conc.C06_no_infinite_execution
#print axioms Gobptree.Conc.C06_enabled_can_step
#print axioms Gobptree.Conc.C06_no_deadlock_closing
#print axioms Gobptree.Conc.C06_all_operations_return_closing
