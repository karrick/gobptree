/-
  C07 — concurrent use is free of data races.   (claimed PARTIAL by nature: see below)

  What a Lean model can carry: the access discipline — which fields a step reads and
  writes, under which locks.  What it cannot exhibit: hardware/compiler reordering, torn
  reads of a two-word interface value, the Go memory model itself; the step from "every
  pair of conflicting accesses is separated by an unlock and a lock of one mutex" to
  "ordered by happens-before" is the Go memory model's rule for sync.Mutex and is ASSUMED.
  On the implementation side the Go race detector decides the property for the executions
  it sees (real goroutines, real sync.Mutex, all six types, orders 4 and 64).

  PROVED, for every initial tree satisfying the structural invariant, every family of
  disciplined client programs and every schedule: mutual exclusion of every mutex, and the
  write frame.  The own fields of a node are its keys or separators, values, `next` and the
  identities of its children.  `stepHeld` is what the thread held when it parked plus the one
  mutex it is granted; after that acquisition a step only releases (`RelOnly`), so this is the
  largest set it ever holds in the step.  (The facts a parked thread relies on,
  `KontOk`/`CursorOk`, speak only of nodes it holds.)
  The read frame is `Props/C07ReadFrame.lean`; that two conflicting accesses are separated by
  the mutex changing hands is `Props/C07Separated.lean`.
-/
import Gobptree.Proofs.ConcOwner
import Gobptree.Proofs.CSFinal

namespace Gobptree.Conc
open Gobptree

variable {K V : Type}

/-- **C07 (mutual exclusion).** In every reachable configuration — every initial tree,
    program family and schedule — in which no thread has panicked, the owner table is
    exactly the union of the threads' held lists, no mutex is owned twice, and therefore
    two different threads never hold the same mutex (node mutex or `rootMutex`). -/
theorem C07_mutual_exclusion (P : Params K) (tree : Tree K V) (progs : List (List (COp K V)))
    (c : Config K V) (hr : Reachable (Config.init P tree progs) c) (hd : c.dead = false) :
    (c.owner.map Prod.fst).Nodup ∧
    (∀ l t, c.owner.count (l, t) = (heldOf c t).count l) ∧
    ∀ (t1 t2 : Nat) (th1 th2 : Thread K V) (l : Lk),
      c.threads[t1]? = some th1 → c.threads[t2]? = some th2 → l ∈ th1.held → l ∈ th2.held → t1 = t2 := by
  have ho := reachable_owner _ c (init_ok P tree progs) (init_owner P tree progs) hr hd
  exact ⟨ho.2, ho.1, fun _ _ _ _ _ h1 h2 m1 m2 => held_excl ho h1 h2 m1 m2⟩

/-- **C07 (partial): the root pointer is replaced only under the tree-level mutex.** The
    only continuations whose code assigns `tree.root`/`tree.depth` are `upRoot` (root split)
    and the Delete frames (root collapse); at both the thread holds `rootMutex`. -/
theorem C07_root_written_under_tree_lock_partial (key : K) (f : Option V → V) (y : Option Bool) (r : Nat)
    (frames : List Frame) (fr : Frame) (right root : Nat) :
    Lk.tree ∈ kontHeld (Kont.upRoot key f y r) ∧
    Lk.tree ∈ kontHeld (Kont.delRight (V := V) key frames fr right root) ∧
    Lk.tree ∈ kontHeld (Kont.delRoot (V := V) key r) := by
  simp [kontHeld]

/-- **C07 (partial): a leaf is rewritten only by a thread holding it.** The leaf part of
    Insert/Update runs at `upCallback`/inside `upContinue` with the leaf in the held list
    (`upLeaf_ok`'s hypothesis); stated here for the callback resume: the thread holds the
    leaf it is about to write. -/
theorem C07_leaf_written_under_leaf_lock_partial (key : K) (f : Option V → V) (leaf : Nat) (arg : Option V) :
    Lk.node leaf ∈ kontHeld (Kont.upCallback key f leaf arg) := by
  simp [kontHeld]

/-- **C07 (write frame).** In every reachable configuration, a step of thread `t` leaves
    unchanged the own fields of every node that existed before the step and whose mutex the
    thread does not hold during it, and the root pointer (and height) unless it holds
    `rootMutex`. -/
theorem C07_write_frame (P : Params K) (tree : Tree K V) (progs : List (List (COp K V)))
    (ht : TreeOk none tree) (ho : tree.order = P.order) (hp : PadOk P) (hd : Disciplined progs)
    (hdel : 4 ≤ tree.order ∨ NoDelete progs)
    (c c' : Config K V) (t : Nat) (hr : Reachable (Config.init P tree progs) c) (hs : c.step t = some c') :
    ∃ th, c.threads[t]? = some th ∧
      (∀ id, id < c.tree.nextId → Lk.node id ∉ stepHeld th → c'.tree.look id = c.tree.look id) ∧
      (Lk.tree ∉ stepHeld th → c'.tree.rootId = c.tree.rootId ∧ c'.tree.depth = c.tree.depth) := by
  obtain ⟨_, th, hth, hf⟩ := step_cinv blocks_ok c c' t hs (reachable_cinv P tree progs ht ho hp hd hdel c hr)
  exact ⟨th, hth, hf.nodes, hf.root⟩

/-- **C07 (access discipline).** Mutual exclusion and the write frame together: whatever a
    step of thread `t` writes is guarded by a mutex that `t` holds and, by exclusion, that no
    other thread holds — in particular every node another thread holds keeps its fields. -/
theorem C07_access_discipline (P : Params K) (tree : Tree K V) (progs : List (List (COp K V)))
    (ht : TreeOk none tree) (ho : tree.order = P.order) (hp : PadOk P) (hd : Disciplined progs)
    (hdel : 4 ≤ tree.order ∨ NoDelete progs)
    (c c' : Config K V) (t j : Nat) (b : Thread K V) (hr : Reachable (Config.init P tree progs) c)
    (hs : c.step t = some c') (hj : c.threads[j]? = some b) (hne : j ≠ t) :
    ∀ id, Lk.node id ∈ b.held → c'.tree.look id = c.tree.look id := by
  have hinv := reachable_cinv P tree progs ht ho hp hd hdel c hr
  obtain ⟨th, r, F⟩ := step_cstep hs hinv
  exact fun id hid => (F.kept hne hj).look id (Or.inl hid)

end Gobptree.Conc

#print axioms Gobptree.Conc.C07_mutual_exclusion
#print axioms Gobptree.Conc.C07_root_written_under_tree_lock_partial
#print axioms Gobptree.Conc.C07_leaf_written_under_leaf_lock_partial
#print axioms Gobptree.Conc.C07_write_frame
#print axioms Gobptree.Conc.C07_access_discipline
