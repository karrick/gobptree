/-
  C03 — concurrent Insert/Update/Delete/Search are linearizable.

  Model: Conc.lean (small-step, lock-acquisition granularity), tied to the code by the
  event-log replay of every shadow run.

  PROVED (`C03_linearizable`): for every key type and strict weak order, every initial tree
  satisfying the structural, ordering and separator invariants (in particular a fresh tree of
  any even order ≥ 2), every finite family of client programs that respect the cursor
  discipline (Insert, Update, Delete, Search, and cursor sessions alongside) — where the order
  is at least 4 or no program contains a Delete (`hdel`; at order 2 a Delete panics) —
  EVERY number of threads and EVERY schedule:
  the history of invocations and responses recorded in the log (`history c`: an Update's
  response carries the argument its callback received) is linearizable in the sense of
  Herlihy and Wing with respect to the map specification `Spec` — `Lin.Linearizable`: some
  total order of all completed and some pending operations respects real time and replays on
  `Spec` to exactly the responses observed.
  Method: three layers of invariants of the small-step model, each inductive over scheduler
  steps: structural `CInv` (C06/C07/C08); key order `KInv` (ordering `Ord`; every reader is ON
  the search path of its key, every writer additionally inside the interval of the node it
  holds); separators `ISep` (a parent's separator for an inner child is equivalent to the
  child's first separator unless an Insert/Update is in the middle of lowering both — this is
  what repair F7 establishes and what keeps readers on their route when a Delete borrows or
  merges).  Structural blocks (splits, first-separator lowering, borrows, merges, root
  collapse) leave the abstract map unchanged; leaf blocks are `Spec` operations on the leaf
  that is authoritative for the key.  Search/Insert/Update take effect in the step in which
  they return; a Delete in the step that removes the key from its leaf (its unwinding may
  take further steps).  A history decorated with such linearization points is linearizable
  (`LinPoints.lean`, generic).
  Programs without Delete need no separator hypothesis (`C03_linearizable_nodelete_partial`).
  Modelled, not verified: interleaving at lock-acquisition granularity (DRF-SC of the Go
  memory model + C07); the implementation side is decided by the linearizability checker over
  all schedules of the catalogues and thousands of random schedules.
-/
import Gobptree.Proofs.ConcReach
import Gobptree.Proofs.CFinal2
import Gobptree.Proofs.CQuiescent

namespace Gobptree.Conc
open Gobptree

variable {K V : Type}

/-! ### linearizability (Herlihy–Wing); definitions in `Proofs/LinPoints.lean` (`Lin.HEv`,
    `Lin.opsOf`, `Lin.IsLinearization`, `Lin.Linearizable`) and `Proofs/CLDefs.lean` (`history`) -/

/-- **C03: concurrent Insert/Update/Delete/Search are linearizable, under every schedule.** -/
theorem C03_linearizable (lt : K → K → Bool) (P : Params K) (tree : Tree K V) (progs : List (List (COp K V)))
    (hkp : KParams lt P) (ht : TreeOk none tree) (hord : OrdTree lt tree) (hsep : SepTree lt tree)
    (ho : tree.order = P.order) (hp : PadOk P) (hd : Disciplined progs)
    (hdel : 4 ≤ tree.order ∨ NoDelete progs)
    (c : Config K V) (hr : Reachable (Config.init P tree progs) c) :
    Lin.Linearizable lt tree.abs (history c) :=
  linearizable_full' lt P tree progs hkp ht hord hsep ho hp hd hdel c hr

/-- **C03: the invariants behind it hold in every reachable configuration**: structure
    (`CInv`), key order and thread positions (`KInv`), separators (`ISep`). -/
theorem C03_invariants (lt : K → K → Bool) (P : Params K) (tree : Tree K V) (progs : List (List (COp K V)))
    (hkp : KParams lt P) (ht : TreeOk none tree) (hord : OrdTree lt tree) (hsep : SepTree lt tree)
    (ho : tree.order = P.order) (hp : PadOk P) (hd : Disciplined progs)
    (hdel : 4 ≤ tree.order ∨ NoDelete progs)
    (c : Config K V) (hr : Reachable (Config.init P tree progs) c) : KFInv lt c :=
  reachable_kfinv' lt P tree progs hkp ht hord hsep ho hp hd hdel c hr

/-- **C03: "every reachable initial tree".** The tree left behind by ANY completed execution
    (no operation in flight) of any family of programs satisfies the three initial-tree
    hypotheses again, so every theorem here applies to every tree that can be built through the
    API — sequentially or concurrently — starting from a fresh one. -/
theorem C03_reachable_trees_are_initial (lt : K → K → Bool) (P : Params K) (tree : Tree K V)
    (progs : List (List (COp K V)))
    (hkp : KParams lt P) (ht : TreeOk none tree) (hord : OrdTree lt tree) (hsep : SepTree lt tree)
    (ho : tree.order = P.order) (hp : PadOk P) (hd : Disciplined progs) (hdel : 4 ≤ tree.order ∨ NoDelete progs)
    (c : Config K V) (hr : Reachable (Config.init P tree progs) c) (hq : AtRest c) :
    TreeOk none c.tree ∧ OrdTree lt c.tree ∧ SepTree lt c.tree ∧ c.tree.order = P.order :=
  reachable_rest_tree_ok lt P tree progs hkp ht hord hsep ho hp hd hdel c hr hq

/-- a fresh tree satisfies all three initial-tree hypotheses, for every even order ≥ 2 and
    every comparison -/
theorem C03_fresh_tree_ok (lt : K → K → Bool) (o : Nat) (h2 : 2 ≤ o) (he : o % 2 = 0) :
    TreeOk none (Tree.new o : Tree K V) ∧ OrdTree lt (Tree.new o : Tree K V) ∧ SepTree lt (Tree.new o : Tree K V) :=
  ⟨new_treeOk o h2 he, new_ordTree lt o, new_sepTree lt o⟩

/-- **C03 (programs without Delete): linearizable under every schedule.** -/
theorem C03_linearizable_nodelete_partial (lt : K → K → Bool) (P : Params K) (tree : Tree K V)
    (progs : List (List (COp K V)))
    (hkp : KParams lt P) (ht : TreeOk none tree) (hord : OrdTree lt tree) (ho : tree.order = P.order)
    (hp : PadOk P) (hd : Disciplined progs) (hnd : NoDelete progs)
    (c : Config K V) (hr : Reachable (Config.init P tree progs) c) :
    Lin.Linearizable lt tree.abs (history c) :=
  linearizable_nodelete' lt P tree progs hkp ht hord ho hp hd hnd c hr

/-- **C03 (programs without Delete): the ordering invariant holds in every reachable
    configuration** — keys ascending in every node, every subtree inside the interval its
    parent's separators assign to it — together with every thread's position on the search
    path of its key. -/
theorem C03_key_order_invariant_partial (lt : K → K → Bool) (P : Params K) (tree : Tree K V)
    (progs : List (List (COp K V)))
    (hkp : KParams lt P) (ht : TreeOk none tree) (hord : OrdTree lt tree) (ho : tree.order = P.order)
    (hp : PadOk P) (hd : Disciplined progs) (hnd : NoDelete progs)
    (c : Config K V) (hr : Reachable (Config.init P tree progs) c) : KInv lt c :=
  reachable_kinv lt P tree progs hkp ht hord ho hp hd hnd c hr

/-- the hypotheses are satisfiable: a fresh tree of order 4 over `Nat` with `<`, and two
    threads inserting, updating and searching -/
example : KParams (fun a b : Nat => decide (a < b)) (Params.mk (fun a b => decide (a < b)) (fun _ => some 0) 4) ∧
    TreeOk none (Tree.new 4 : Tree Nat Nat) ∧ OrdTree (fun a b : Nat => decide (a < b)) (Tree.new 4 : Tree Nat Nat) ∧
    PadOk (Params.mk (fun a b : Nat => decide (a < b)) (fun _ => some 0) 4) ∧
    Disciplined [[COp.ins 1 1, COp.upd 1 (fun _ => 2) false], [COp.get (K := Nat) (V := Nat) 1]] ∧
    NoDelete [[COp.ins 1 1, COp.upd 1 (fun _ => 2) false], [COp.get (K := Nat) (V := Nat) 1]] := by
  refine ⟨⟨SWO.natLt, rfl⟩, new_treeOk 4 (by omega) (by omega), ?_, ?_, ?_, ?_⟩
  · exact ⟨List.Pairwise.nil, fun k hk => by cases hk⟩
  · intro k h; simp at h
  · intro p hp; simp at hp; rcases hp with rfl | rfl <;> rfl
  · intro p hp op hop; simp at hp; rcases hp with rfl | rfl <;> simp at hop <;> rcases hop with rfl | rfl <;> rfl

/-- the hypotheses of `C03_linearizable` are satisfiable at ORDER 2 as well, with a Delete-free
    program family -/
example : KParams (fun a b : Nat => decide (a < b)) (Params.mk (fun a b => decide (a < b)) (fun _ => some 0) 2) ∧
    TreeOk none (Tree.new 2 : Tree Nat Nat) ∧ OrdTree (fun a b : Nat => decide (a < b)) (Tree.new 2 : Tree Nat Nat) ∧
    SepTree (fun a b : Nat => decide (a < b)) (Tree.new 2 : Tree Nat Nat) ∧
    (Tree.new 2 : Tree Nat Nat).order = (Params.mk (fun a b : Nat => decide (a < b)) (fun _ => some 0) 2).order ∧
    PadOk (Params.mk (fun a b : Nat => decide (a < b)) (fun _ => some 0) 2) ∧
    Disciplined [[COp.ins 1 1, COp.upd 1 (fun _ => 2) false], [COp.get (K := Nat) (V := Nat) 1]] ∧
    (4 ≤ (Tree.new 2 : Tree Nat Nat).order ∨
      NoDelete [[COp.ins 1 1, COp.upd 1 (fun _ => 2) false], [COp.get (K := Nat) (V := Nat) 1]]) := by
  obtain ⟨h1, h2, h3⟩ := C03_fresh_tree_ok (K := Nat) (V := Nat) (fun a b : Nat => decide (a < b)) 2 (by omega) (by omega)
  refine ⟨⟨SWO.natLt, rfl⟩, h1, h2, h3, rfl, ?_, ?_, Or.inr ?_⟩
  · intro k h; simp at h
  · intro p hp; simp at hp; rcases hp with rfl | rfl <;> rfl
  · intro p hp op hop; simp at hp; rcases hp with rfl | rfl <;> simp at hop <;> rcases hop with rfl | rfl <;> rfl

/-- hence at order 2, for a Delete-free family, every reachable history is linearizable -/
example (c : Config Nat Nat)
    (hr : Reachable (Config.init (Params.mk (fun a b : Nat => decide (a < b)) (fun _ => some 0) 2) (Tree.new 2)
      [[COp.ins 1 1, COp.upd 1 (fun _ => 2) false], [COp.get (K := Nat) (V := Nat) 1]]) c) :
    Lin.Linearizable (fun a b : Nat => decide (a < b)) (Tree.new 2 : Tree Nat Nat).abs (history c) := by
  obtain ⟨h1, h2, h3⟩ := C03_fresh_tree_ok (K := Nat) (V := Nat) (fun a b : Nat => decide (a < b)) 2 (by omega) (by omega)
  refine C03_linearizable _ _ _ _ ⟨SWO.natLt, rfl⟩ h1 h2 h3 rfl ?_ ?_ (Or.inr ?_) c hr
  · intro k h; simp at h
  · intro p hp; simp at hp; rcases hp with rfl | rfl <;> rfl
  · intro p hp op hop; simp at hp; rcases hp with rfl | rfl <;> simp at hop <;> rcases hop with rfl | rfl <;> rfl

/-- **C03 (partial): Search and NewScanner never write.** Resuming a Search/NewScanner at
    any of its park positions leaves the whole tree (root pointer, every node) unchanged,
    whatever the other threads did in between. -/
theorem C03_search_readonly_partial (P : Params K) (t : Nat) (s : St K V) (sc : Bool) (key : K) :
    (∀ hold want, (resume P t s (.roNode sc key hold want)).1.tree = s.tree) ∧
    (resume P t s (.roTree sc key)).1.tree = s.tree := by
  refine ⟨fun hold want => ?_, rfl⟩
  simp only [resume]
  rw [roArrive_tree]
  rfl

/-- instance WITH Delete at order 4: three threads — a writer that inserts and deletes, an
    updater, and a cursor session next to a search — from a fresh tree; every reachable
    configuration's history is linearizable -/
example (c : Config Nat Nat)
    (hr : Reachable (Config.init (Params.mk (fun a b : Nat => decide (a < b)) (fun _ => some 0) 4) (Tree.new 4)
      [[COp.ins 1 1, COp.del 1, COp.ins 2 2], [COp.upd 1 (fun _ => 2) true, COp.del 2],
       [COp.ns (K := Nat) (V := Nat) 0, COp.scan, COp.pair, COp.close, COp.get 1]]) c) :
    Lin.Linearizable (fun a b : Nat => decide (a < b)) (Tree.new 4 : Tree Nat Nat).abs (history c) := by
  obtain ⟨h1, h2, h3⟩ := C03_fresh_tree_ok (K := Nat) (V := Nat) (fun a b : Nat => decide (a < b)) 4 (by omega) (by omega)
  refine C03_linearizable _ _ _ _ ⟨SWO.natLt, rfl⟩ h1 h2 h3 rfl ?_ ?_ (Or.inl (by show 4 ≤ 4; omega)) c hr
  · intro k h; simp at h
  · intro p hp; simp at hp; rcases hp with rfl | rfl | rfl <;> rfl

end Gobptree.Conc

#print axioms Gobptree.Conc.C03_search_readonly_partial
#print axioms Gobptree.Conc.C03_linearizable_nodelete_partial
#print axioms Gobptree.Conc.C03_key_order_invariant_partial
#print axioms Gobptree.Conc.C03_linearizable
#print axioms Gobptree.Conc.C03_invariants
#print axioms Gobptree.Conc.C03_fresh_tree_ok
#print axioms Gobptree.Conc.C03_reachable_trees_are_initial
