/-
  C07, second half: the READ frame.  `Props/C07.lean` proves the WRITE frame (a step changes the
  own fields only of nodes whose mutex the thread holds during the step).  Here: the step's
  outcome DEPENDS only on the own fields of those nodes (`Proofs/CReadFrame.lean`).
-/
import Gobptree.Proofs.CReadFrame
import Gobptree.Proofs.CSFinal

namespace Gobptree.Conc
open Gobptree

variable {K V : Type}

/-- **C07 (read frame).** Two configurations satisfying the structural invariant, the same thread
    `th` at position `t`, trees that agree on the own fields of the nodes in `stepHeld th` (and on
    the root pointer under `rootMutex`): one step of `t` yields the same thread state, the same
    events, the same panic outcome, and trees that agree on every node held during the step and
    on every node created by it. -/
theorem C07_read_frame (c1 c2 c1' c2' : Config K V) (t : Nat) (th : Thread K V)
    (h1 : c1.threads[t]? = some th) (h2 : c2.threads[t]? = some th) (hP : c1.P = c2.P)
    (hi1 : CInv c1) (hi2 : CInv c2) (hv : SameView (stepHeld th) c1.tree c2.tree)
    (hs1 : c1.step t = some c1') (hs2 : c2.step t = some c2') :
    (∃ th', c1'.threads[t]? = some th' ∧ c2'.threads[t]? = some th') ∧
    (∃ evs, c1'.log = evs ++ Ev.dec t c1.enabledSet :: c1.log ∧
            c2'.log = evs ++ Ev.dec t c2.enabledSet :: c2.log) ∧
    (∃ d, c1'.dead = (c1.dead || d) ∧ c2'.dead = (c2.dead || d)) ∧
    c1'.tree.order = c2'.tree.order ∧ c1'.tree.nextId = c2'.tree.nextId ∧
    (∀ id, (Lk.node id ∈ stepHeld th ∨ c1.tree.nextId ≤ id) → c1'.tree.look id = c2'.tree.look id) ∧
    (Lk.tree ∈ stepHeld th → c1'.tree.rootId = c2'.tree.rootId ∧ c1'.tree.depth = c2'.tree.depth) :=
  read_frame c1 c2 c1' c2' t th h1 h2 hP hi1 hi2 hv hs1 hs2

/-- along a reachable history: both configurations reachable (from possibly different initial
    trees and programs of the other threads) -/
theorem C07_read_frame_reachable (P : Params K) (tree1 tree2 : Tree K V) (progs1 progs2 : List (List (COp K V)))
    (ht1 : TreeOk none tree1) (ho1 : tree1.order = P.order) (ht2 : TreeOk none tree2) (ho2 : tree2.order = P.order)
    (hp : PadOk P) (hd1 : Disciplined progs1) (hd2 : Disciplined progs2)
    (hdel1 : 4 ≤ tree1.order ∨ NoDelete progs1) (hdel2 : 4 ≤ tree2.order ∨ NoDelete progs2)
    (c1 c2 c1' c2' : Config K V)
    (hr1 : Reachable (Config.init P tree1 progs1) c1) (hr2 : Reachable (Config.init P tree2 progs2) c2)
    (hP1 : c1.P = c2.P)
    (t : Nat) (th : Thread K V) (h1 : c1.threads[t]? = some th) (h2 : c2.threads[t]? = some th)
    (hv : SameView (stepHeld th) c1.tree c2.tree)
    (hs1 : c1.step t = some c1') (hs2 : c2.step t = some c2') :
    (∃ th', c1'.threads[t]? = some th' ∧ c2'.threads[t]? = some th') ∧
    (∃ evs, c1'.log = evs ++ Ev.dec t c1.enabledSet :: c1.log ∧
            c2'.log = evs ++ Ev.dec t c2.enabledSet :: c2.log) ∧
    SameView (stepHeld th) c1'.tree c2'.tree :=
  have hi1 := reachable_cinv P tree1 progs1 ht1 ho1 hp hd1 hdel1 c1 hr1
  have hi2 := reachable_cinv P tree2 progs2 ht2 ho2 hp hd2 hdel2 c2 hr2
  have h := read_frame c1 c2 c1' c2' t th h1 h2 hP1 hi1 hi2 hv hs1 hs2
  ⟨h.1, h.2.1, (read_frame_view c1 c2 c1' c2' t th h1 h2 hP1 hi1 hi2 hv hs1 hs2).1⟩

end Gobptree.Conc

#print axioms Gobptree.Conc.C07_read_frame
#print axioms Gobptree.Conc.C07_read_frame_reachable
