/-
  C09 — operations leave no lock behind; a cursor holds one leaf until it ends.

  Model: the small-step semantics lean/Gobptree/Conc.lean (threads parked at `Lock()`
  calls; one step = run to the next park), tied to /repo by replaying every run of the
  shadow copy (sources with only the `sync` import swapped) on the model and comparing
  the complete lock/unlock event logs.  The theorems quantify over EVERY initial tree,
  EVERY finite family of client programs and EVERY schedule (`Reachable`).

  `dead = false` excludes configurations in which a thread panicked (a Go panic leaves
  non-deferred locks held; absence of panics for single-threaded use is C01, for order ≥ 4).
-/
import Gobptree.Proofs.ConcReach
import Gobptree.Proofs.CSFinal
import Gobptree.Proofs.CClean

namespace Gobptree.Conc
open Gobptree

variable {K V : Type}

/-- **C09, bookkeeping invariant.** In every reachable configuration every thread holds
    exactly (up to order) its open cursor's leaf plus the locks its park position
    prescribes (`kontHeld`): the held set is a function of the program position alone. -/
theorem C09_held_by_position (P : Params K) (tree : Tree K V) (progs : List (List (COp K V)))
    (c : Config K V) (hr : Reachable (Config.init P tree progs) c) (hd : c.dead = false) :
    ∀ th ∈ c.threads, List.Perm th.held (cursorLocks th.cursor ++ parkHeld th.park) :=
  fun th hth => (reachable_ok _ c (init_ok P tree progs) hr hd th hth).1

/-- **C09 (locks released).** A thread whose program has run to completion — every one
    of its Insert/Update/Delete/Search calls has returned, on whatever path: root split
    left or right, child split left or right, borrow, merge, absent key — holds nothing
    but the leaf of a cursor it left open. -/
theorem C09_locks_released (P : Params K) (tree : Tree K V) (progs : List (List (COp K V)))
    (c : Config K V) (hr : Reachable (Config.init P tree progs) c) (hd : c.dead = false)
    (th : Thread K V) (hth : th ∈ c.threads) (hfin : th.park = .finished) :
    List.Perm th.held (cursorLocks th.cursor) := by
  have := C09_held_by_position P tree progs c hr hd th hth
  rw [hfin] at this
  simpa [parkHeld] using this

/-- **C09 (after `Scan` returned false / after `Close`).** Once the cursor is exhausted or
    closed (or the thread never opened one) a finished thread holds no lock at all. -/
theorem C09_nothing_after_close (P : Params K) (tree : Tree K V) (progs : List (List (COp K V)))
    (c : Config K V) (hr : Reachable (Config.init P tree progs) c) (hd : c.dead = false)
    (th : Thread K V) (hth : th ∈ c.threads) (hfin : th.park = .finished)
    (hcur : th.cursor = none ∨ ∃ i, th.cursor = some (none, i)) : th.held = [] := by
  have h := C09_locks_released P tree progs c hr hd th hth hfin
  have : cursorLocks th.cursor = [] := by
    rcases hcur with e | ⟨i, e⟩ <;> rw [e] <;> rfl
  rw [this] at h
  exact List.Perm.eq_nil h

/-- **C09 (an open cursor holds exactly one leaf).** -/
theorem C09_cursor_one_leaf (P : Params K) (tree : Tree K V) (progs : List (List (COp K V)))
    (c : Config K V) (hr : Reachable (Config.init P tree progs) c) (hd : c.dead = false)
    (th : Thread K V) (hth : th ∈ c.threads) (hfin : th.park = .finished)
    (leaf : Nat) (i : Int) (hcur : th.cursor = some (some leaf, i)) : th.held = [.node leaf] := by
  have h := C09_locks_released P tree progs c hr hd th hth hfin
  rw [hcur] at h
  exact List.perm_singleton.mp h

/-- **C09 (between calls).** A thread resting between two calls (client `pause`) holds
    exactly its open cursor's leaf, or nothing. -/
theorem C09_between_calls (P : Params K) (tree : Tree K V) (progs : List (List (COp K V)))
    (c : Config K V) (hr : Reachable (Config.init P tree progs) c) (hd : c.dead = false)
    (th : Thread K V) (hth : th ∈ c.threads) (hp : th.park = .yielded .paused) :
    List.Perm th.held (cursorLocks th.cursor) := by
  have := C09_held_by_position P tree progs c hr hd th hth
  rw [hp] at this
  simpa [parkHeld, kontHeld] using this

/-- non-vacuity: the initial configuration is reachable and no thread has panicked in it -/
example (P : Params K) (tree : Tree K V) (progs : List (List (COp K V))) :
    Reachable (Config.init P tree progs) (Config.init P tree progs) ∧ (Config.init P tree progs).dead = false :=
  ⟨.refl, rfl⟩

/-- **C09 (no panic, so the bookkeeping is unconditional).** For disciplined clients on a
    tree satisfying the structural invariant the hypothesis `dead = false` of the theorems
    above always holds. -/
theorem C09_held_by_position_always (P : Params K) (tree : Tree K V) (progs : List (List (COp K V)))
    (ht : TreeOk none tree) (ho : tree.order = P.order) (hp : PadOk P) (hd : Disciplined progs)
    (hdel : 4 ≤ tree.order ∨ NoDelete progs)
    (c : Config K V) (hr : Reachable (Config.init P tree progs) c) :
    ∀ th ∈ c.threads, List.Perm th.held (cursorLocks th.cursor ++ parkHeld th.park) :=
  C09_held_by_position P tree progs c hr (reachable_cinv P tree progs ht ho hp hd hdel c hr).alive

/-- **C09 (afterwards every operation on any key completes).** Whenever some thread still
    has work to do and no thread has ended with an open cursor — in particular after any
    number of operations have returned, whatever paths they took — some thread can take a
    step: no lock left behind can block the rest (this is deadlock freedom, C06). -/
theorem C09_then_completes (P : Params K) (tree : Tree K V) (progs : List (List (COp K V)))
    (ht : TreeOk none tree) (ho : tree.order = P.order) (hp : PadOk P) (hd : Disciplined progs)
    (hdel : 4 ≤ tree.order ∨ NoDelete progs)
    (c : Config K V) (hr : Reachable (Config.init P tree progs) c)
    (hfin : FinishedClean c) (hu : c.unfinished = true) : c.enabledSet ≠ [] :=
  (reachable_cinv P tree progs ht ho hp hd hdel c hr).not_deadlocked hfin hu

/-- **C09 (afterwards EVERY operation completes; nothing is left behind).** For programs that
    close their cursors (`Closing`: the static form of "Close is eventually called"; it may be
    called at any position and more than once), from any reachable configuration — after any
    operations, whatever paths they took — every schedule extended until nothing is enabled ends,
    within `termBound c` steps, with every operation of every thread returned, the owner table
    empty and every thread's held list empty. -/
theorem C09_all_complete_nothing_held (P : Params K) (tree : Tree K V) (progs : List (List (COp K V)))
    (ht : TreeOk none tree) (ho : tree.order = P.order) (hp : PadOk P)
    (hcl : Closing progs) (hdel : 4 ≤ tree.order ∨ NoDelete progs)
    (c : Config K V) (hr : Reachable (Config.init P tree progs) c)
    (ts : List Nat) (c' : Config K V) (hrun : c.run ts = (c', none)) (hstuck : c'.enabledSet = []) :
    ts.length ≤ termBound c ∧ c'.unfinished = false ∧ c'.owner = [] ∧ ∀ th ∈ c'.threads, th.held = [] :=
  ⟨executions_bounded_explicit P tree progs ht ho hp hcl.disciplined hdel c hr ts c' hrun,
   all_operations_return_closing P tree progs ht ho hp hcl hdel c hr ts c' hrun hstuck,
   nothing_held_at_end P tree progs ht ho hp hcl hdel c hr ts c' hrun hstuck⟩

/-- a thread that has run off the end of a closing program holds no mutex, in EVERY reachable
    configuration (not only at the end) -/
theorem C09_finished_thread_holds_nothing (P : Params K) (tree : Tree K V) (progs : List (List (COp K V)))
    (ht : TreeOk none tree) (ho : tree.order = P.order) (hp : PadOk P) (hcl : Closing progs)
    (hdel : 4 ≤ tree.order ∨ NoDelete progs)
    (c : Config K V) (hr : Reachable (Config.init P tree progs) c) :
    ∀ th ∈ c.threads, th.park = .finished → th.held = [] :=
  reachable_finishedClean P tree progs ht ho hp hcl hdel c hr

end Gobptree.Conc

#print axioms Gobptree.Conc.C09_held_by_position
#print axioms Gobptree.Conc.C09_locks_released
#print axioms Gobptree.Conc.C09_nothing_after_close
#print axioms Gobptree.Conc.C09_cursor_one_leaf
#print axioms Gobptree.Conc.C09_between_calls
#print axioms Gobptree.Conc.C09_held_by_position_always
#print axioms Gobptree.Conc.C09_then_completes
#print axioms Gobptree.Conc.C09_all_complete_nothing_held
#print axioms Gobptree.Conc.C09_finished_thread_holds_nothing
