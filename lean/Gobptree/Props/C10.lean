/-
  C10 — Search/Insert/Update/NewScanner lock at most a parent and a child at a time.

  Same model and tie as C09.  `kontHeld` lists, for every park position of the four
  operations, what is held there; the theorems below read the bound off that table,
  for every reachable configuration of every program family under every schedule.
-/
import Gobptree.Proofs.ConcOwner

namespace Gobptree.Conc
open Gobptree

variable {K V : Type}

/-- park positions of Search / NewScanner / Insert / Update -/
def Kont.isCoupled : Kont K V → Bool
  | .roTree _ _ | .roNode _ _ _ _ | .upTree _ _ _ | .upRoot _ _ _ _ | .upRootSib _ _ _ _ _
  | .upChild _ _ _ _ _ _ | .upSib _ _ _ _ _ _ | .upCallback _ _ _ _ => true
  | _ => false

theorem kontHeld_coupled_le (k : Kont K V) (hk : k.isCoupled = true) : (kontHeld k).length ≤ 2 := by
  cases k <;> first | exact Nat.le_of_ble_eq_true rfl | cases hk

theorem kontPre_coupled {k : Kont K V} {cur : Option (Option Nat × Int)} (hk : k.isCoupled = true)
    (hpre : KontPre cur k) : cursorLocks cur = [] := by
  cases k <;> first | exact hpre | cases hk

/-- **C10 (coupling, at every scheduling point).** Whenever a Search, NewScanner, Insert or
    Update waits for a lock it holds at most two: the tree-level mutex and the root, or a
    node and — only while it waits for the sibling it has just created by splitting that
    node's child — that child. Nothing above the parent is held: the table `kontHeld`
    names exactly `[rootMutex]`, `[rootMutex, root]`, `[parent]`, `[parent, child]`. -/
theorem C10_coupling_parked (P : Params K) (tree : Tree K V) (progs : List (List (COp K V)))
    (c : Config K V) (hr : Reachable (Config.init P tree progs) c) (hd : c.dead = false)
    (th : Thread K V) (hth : th ∈ c.threads) (l : Lk) (k : Kont K V) (hp : th.park = .want l k)
    (hk : k.isCoupled = true) :
    List.Perm th.held (kontHeld k) ∧ th.held.length ≤ 2 := by
  obtain ⟨hh, hpre, _⟩ := reachable_ok _ c (init_ok P tree progs) hr hd th hth
  rw [hp] at hh hpre
  rw [kontPre_coupled hk hpre] at hh
  exact ⟨hh, by rw [hh.length_eq]; exact kontHeld_coupled_le k hk⟩

/-- **C10 (a running callback holds exactly one leaf).** -/
theorem C10_callback_one_leaf (P : Params K) (tree : Tree K V) (progs : List (List (COp K V)))
    (c : Config K V) (hr : Reachable (Config.init P tree progs) c) (hd : c.dead = false)
    (th : Thread K V) (hth : th ∈ c.threads) (key : K) (f : Option V → V) (leaf : Nat) (arg : Option V)
    (hp : th.park = .yielded (.upCallback key f leaf arg)) : th.held = [.node leaf] := by
  obtain ⟨hh, hpre⟩ := reachable_ok _ c (init_ok P tree progs) hr hd th hth
  rw [hp] at hh hpre
  have hc : cursorLocks th.cursor = [] := hpre.1
  rw [hc] at hh
  exact List.perm_singleton.mp (by simpa [parkHeld, kontHeld] using hh)

/-- **C10 (a resting cursor holds at most its one leaf).** -/
theorem C10_resting_cursor (P : Params K) (tree : Tree K V) (progs : List (List (COp K V)))
    (c : Config K V) (hr : Reachable (Config.init P tree progs) c) (hd : c.dead = false)
    (th : Thread K V) (hth : th ∈ c.threads) (hp : th.park = .yielded .paused) :
    th.held.length ≤ 1 := by
  obtain ⟨hh, _⟩ := reachable_ok _ c (init_ok P tree progs) hr hd th hth
  rw [hp] at hh
  simp only [parkHeld, kontHeld, List.append_nil] at hh
  rw [hh.length_eq]
  unfold cursorLocks
  split <;> simp

def Kont.waitsForFreshSibling : Kont K V → Bool
  | .upRootSib _ _ _ _ _ | .upSib _ _ _ _ _ _ => true
  | _ => false

theorem kontHeld_coupled_two (k : Kont K V) (hk : k.isCoupled = true) (h2 : (kontHeld k).length = 2) :
    k.waitsForFreshSibling = true := by
  cases k <;> first | rfl | exact absurd h2 (Nat.ne_of_beq_eq_false rfl) | cases hk

/-- **C10 (inside a step).** A step of Search/NewScanner/Insert/Update acquires exactly the
    mutex it was waiting for. Right after that acquisition at most three mutexes are held, and
    three only when the one just acquired is the sibling this operation created by splitting
    (the other two being the split child and its parent, or the root and `rootMutex`). What
    the thread holds at the END of the step is what it held then, minus releases (`RelOnly`
    relates these two states only). That no instant in between, and none of any other step,
    shows more than three is the log form `C10_every_instant_log` (`Props/C10Log.lean`). -/
theorem C10_peak_inside_step (P : Params K) (tree : Tree K V) (progs : List (List (COp K V)))
    (c : Config K V) (hr : Reachable (Config.init P tree progs) c) (hd : c.dead = false)
    (t : Nat) (th : Thread K V) (hth : c.threads[t]? = some th) (l : Lk) (k : Kont K V)
    (hp : th.park = .want l k) (hk : k.isCoupled = true) (s0 : St K V) (h0 : s0.held = th.held) :
    (s0.acq t l).held.length ≤ 3 ∧
    ((s0.acq t l).held.length = 3 → k.waitsForFreshSibling = true) ∧
    RelOnly t (s0.acq t l) (runThread c.P t th s0).2.1 := by
  have hmem : th ∈ c.threads := List.mem_of_getElem? hth
  obtain ⟨hperm, _⟩ := C10_coupling_parked P tree progs c hr hd th hmem l k hp hk
  have hle := kontHeld_coupled_le k hk
  have hlen : (s0.acq t l).held.length = (kontHeld k).length + 1 := by
    rw [acq_held, h0, List.length_append, hperm.length_eq]; rfl
  refine ⟨hlen ▸ Nat.succ_le_succ hle, fun h3 => kontHeld_coupled_two k hk (Nat.succ.inj (hlen.symm.trans h3)), ?_⟩
  have he := (runThread_eff c.P t th s0 (reachable_ok _ c (init_ok P tree progs) hr hd th hmem).2.2 h0).1
  rw [hp] at he
  exact he.relOnly

/-- the held sets of thread `t` after each of its lock events, replaying a chronological log -/
def heldTrace (t : Nat) : List (Ev K V) → List Lk → List (List Lk)
  | [], _ => []
  | .acq t' l :: rest, h => if t' = t then (h ++ [l]) :: heldTrace t rest (h ++ [l]) else heldTrace t rest h
  | .rel t' l :: rest, h => if t' = t then (h.erase l) :: heldTrace t rest (h.erase l) else heldTrace t rest h
  | _ :: rest, h => heldTrace t rest h

/-- The same bound phrased on the event log (every prefix of every thread's lock events); it
    needs in addition that the logged events mirror the held-list updates one to one. Proved in
    `Proofs/CSeparatedLog.lean` (`every_instant`; `C10_every_instant_log` in `Props/C10Log.lean`). -/
def C10_every_instant_statement : Prop :=
  ∀ (P : Params Nat) (tree : Tree Nat Nat) (progs : List (List (COp Nat Nat))) (c : Config Nat Nat),
    (∀ p ∈ progs, ∀ op ∈ p, match op with | .del _ => False | _ => True) →
    Reachable (Config.init P tree progs) c → c.dead = false →
    ∀ t, ∀ h ∈ heldTrace t c.log.reverse [], h.length ≤ 3

/-- **C10 (a goroutine merely holding an open cursor or executing a callback blocks no operation
    that does not need that leaf).** If thread `b` waits for a mutex held by a thread `a` that is
    resting with an open cursor (at a client pause) or is inside an Update callback, then that
    mutex is the mutex of the ONE leaf `a` holds. -/
theorem C10_blocks_only_its_leaf (P : Params K) (tree : Tree K V) (progs : List (List (COp K V)))
    (c : Config K V) (hr : Reachable (Config.init P tree progs) c) (hd : c.dead = false)
    (a : Nat) (tha : Thread K V) (hta : c.threads[a]? = some tha)
    (hrest : tha.park = .yielded .paused ∨ ∃ key f leaf arg, tha.park = .yielded (.upCallback key f leaf arg))
    (l : Lk) (hl : c.holder l = some a) :
    tha.held = [l] := by
  have ho := reachable_owner _ c (init_ok P tree progs) (init_owner P tree progs) hr hd
  obtain ⟨th, hth, hmem⟩ := holder_held c ho l a hl
  rw [hta] at hth
  cases hth
  have htm : tha ∈ c.threads := List.mem_of_getElem? hta
  rcases hrest with hp | ⟨key, f, leaf, arg, hp⟩
  · have hlen := C10_resting_cursor P tree progs c hr hd tha htm hp
    match hh : tha.held, hmem, hlen with
    | [x], hmem, _ => simp at hmem; rw [hmem]
    | [], hmem, _ => cases hmem
    | _ :: _ :: _, _, hlen => simp at hlen
  · have hone := C10_callback_one_leaf P tree progs c hr hd tha htm key f leaf arg hp
    rw [hone] at hmem ⊢
    simp at hmem
    rw [hmem]

end Gobptree.Conc

#print axioms Gobptree.Conc.C10_coupling_parked
#print axioms Gobptree.Conc.C10_callback_one_leaf
#print axioms Gobptree.Conc.C10_resting_cursor
#print axioms Gobptree.Conc.C10_peak_inside_step
#print axioms Gobptree.Conc.C10_blocks_only_its_leaf
