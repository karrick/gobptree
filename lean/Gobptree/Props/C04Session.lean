/-
  C04 / C02 under concurrency: the WHOLE-SCAN guarantee.  `Props/C04.lean` proves that each cursor
  step is an atomic successor query while writers run; `Props/C02.lean` proves exact scans on a tree
  nobody modifies.  Here the per-step facts are lifted to a complete scan session that runs
  concurrently with arbitrary writers (weak consistency of a scan), for every family of disciplined
  programs, every schedule, every initial tree satisfying the invariants
  (`Proofs/CScanSession*.lean`).

  A run is the list of configurations visited, newest first (`RunFrom init (c :: hist)`); a session is
  thread `j` with the program index `a` of a `NewScanner(start)`; call `y` belongs to it
  (`InSess prog a y`) while only `Scan`/`Pair`/pauses follow `a`; responses are read off the log; the
  session's interval consists of the configurations in whose log `NewScanner`'s response stands.
-/
import Gobptree.Proofs.CScanSession

namespace Gobptree.Conc
open Gobptree

variable {K V : Type}

section Full

variable (lt : K → K → Bool) (P : Params K) (tree : Tree K V) (progs : List (List (COp K V)))
  (hkp : KParams lt P) (ht : TreeOk none tree) (hord : OrdTree lt tree) (hsep : SepTree lt tree)
  (ho : tree.order = P.order) (hp : PadOk P) (hd : Disciplined progs)
  (hdel : 4 ≤ tree.order ∨ NoDelete progs)
include hkp ht hord hsep ho hp hd hdel

/-- **C04 (session, soundness).** Every pair a `Pair()` of the session returned was an entry of the
    map, with that value, in a configuration of the session's interval. -/
theorem C04_session_sound (j a : Nat) (start : K) (prog : List (COp K V)) (hprog : progs[j]? = some prog)
    (hns : prog[a]? = some (.ns start)) {c : Config K V} {hist : List (Config K V)}
    (hrun : RunFrom (Config.init P tree progs) (c :: hist))
    {y : Nat} {k : K} {v : V} (hy : InSess prog a y) (hret : Ev.note j (.ret y (.pair k v)) ∈ c.log) :
    ∃ d ∈ c :: hist, nsReturned j a d ∧ Ev.note j (.ret y (.pair k v)) ∈ d.log ∧ (k, v) ∈ d.tree.abs ∧
      Spec.lookup lt d.tree.abs k = some v :=
  scan_session_sound lt P tree progs hkp ht hord hsep ho hp hd hdel j a start prog hprog hns hrun hy hret

/-- **C04 (session, order).** Every returned key is `≥ start`; successive `Pair()`s never descend;
    across a `Scan()` that returned `true` they strictly ascend. -/
theorem C04_session_ascending (j a : Nat) (start : K) (prog : List (COp K V)) (hprog : progs[j]? = some prog)
    (hns : prog[a]? = some (.ns start)) {c : Config K V} {hist : List (Config K V)}
    (hrun : RunFrom (Config.init P tree progs) (c :: hist)) :
    (∀ y k v, InSess prog a y → Ev.note j (.ret y (.pair k v)) ∈ c.log → lt k start = false) ∧
    (∀ x y k k' v v', a < x → x < y → InSess prog a y → Ev.note j (.ret x (.pair k v)) ∈ c.log →
      Ev.note j (.ret y (.pair k' v')) ∈ c.log → lt k' k = false) ∧
    (∀ x z y k k' v v', a < x → x < z → z < y → InSess prog a y → Ev.note j (.ret x (.pair k v)) ∈ c.log →
      Ev.note j (.ret z (.bool true)) ∈ c.log → Ev.note j (.ret y (.pair k' v')) ∈ c.log → lt k k' = true) :=
  ⟨fun _ _ _ hy hret =>
     scan_session_ge_start lt P tree progs hkp ht hord hsep ho hp hd hdel j a start prog hprog hns hrun hy hret,
   fun _ _ _ _ _ _ hax hxy hy hx hret =>
     scan_session_monotone lt P tree progs hkp ht hord hsep ho hp hd hdel j a start prog hprog hns hrun hax hxy hy hx hret,
   fun _ _ _ _ _ _ _ hax hxz hzy hy hx hz hret =>
     scan_session_strict lt P tree progs hkp ht hord hsep ho hp hd hdel j a start prog hprog hns hrun hax hxz hzy hy hx hz hret⟩

/-- **C04 (session, completeness).** The cursor opened by `NewScanner(start)` (call `a`) is not closed
    before the `Scan()` at call `e`, which returned `false`; the client calls `Pair()` between any two
    `Scan()`s (pauses may sit anywhere).  Then every key `≥ start` that was in the map in EVERY
    configuration from the return of `NewScanner` to the configuration `c` showing that `false` — whatever
    the writers did to other keys, and whatever they do later — has been returned by a `Pair()` of the
    session. -/
theorem C04_session_complete (j a e : Nat) (start : K) (prog : List (COp K V)) (hprog : progs[j]? = some prog)
    (hns : prog[a]? = some (.ns start)) (later : List (Config K V)) {c : Config K V} {hist : List (Config K V)}
    (hrun : RunFrom (Config.init P tree progs) (later ++ c :: hist))
    (hae : a < e) (hnc : ∀ x, a < x → x < e → prog[x]? ≠ some .close) (hscan : prog[e]? = some .scan)
    (hshape : ∀ i m, a < i → i < m → m ≤ e → prog[i]? = some .scan → prog[m]? = some .scan →
      ∃ x, i < x ∧ x < m ∧ prog[x]? = some .pair)
    (hfalse : Ev.note j (.ret e (.bool false)) ∈ c.log)
    (k : K) (hk : lt k start = false)
    (hpres : ∀ d ∈ c :: hist, nsReturned j a d → ∃ v, (k, v) ∈ d.tree.abs) :
    ∃ x v, a < x ∧ x < e ∧ Ev.note j (.ret x (.pair k v)) ∈ c.log :=
  scan_session_complete_not_closed lt P tree progs hkp ht hord hsep ho hp hd hdel j a e start prog hprog hns
    (RunFrom.tail later hrun) hae hnc hscan hshape hfalse k hk hpres

/-- **C04 (session, no phantom).** A key that is in the map in no configuration of the interval is
    never returned. -/
theorem C04_session_no_phantom (j a : Nat) (start : K) (prog : List (COp K V)) (hprog : progs[j]? = some prog)
    (hns : prog[a]? = some (.ns start)) {c : Config K V} {hist : List (Config K V)}
    (hrun : RunFrom (Config.init P tree progs) (c :: hist)) (k : K)
    (habs : ∀ d ∈ c :: hist, nsReturned j a d → ∀ v, (k, v) ∉ d.tree.abs)
    {y : Nat} {v : V} (hy : InSess prog a y) : Ev.note j (.ret y (.pair k v)) ∉ c.log :=
  scan_session_no_phantom lt P tree progs hkp ht hord hsep ho hp hd hdel j a start prog hprog hns hrun k habs hy

/-- **C04/C02 (a scan is exact on the part of the map nobody adds to or removes from).** If, during
    the session's interval, no key `≥ start` enters or leaves the map (values may change, keys
    `< start` may come and go, writers may split, borrow and merge as they like), then the keys the
    session's `Pair()` calls returned are EXACTLY the stored keys `≥ start` — C02's exactness, under
    concurrency. (Ascending order and the values: `C04_session_ascending`, `C04_session_sound`.) -/
theorem C04_session_exact_when_range_stable (j a e : Nat) (start : K) (prog : List (COp K V))
    (hprog : progs[j]? = some prog) (hns : prog[a]? = some (.ns start))
    {c : Config K V} {hist : List (Config K V)}
    (hrun : RunFrom (Config.init P tree progs) (c :: hist))
    (hae : a < e) (hseg : CurOps prog a e) (hscan : prog[e]? = some .scan)
    (hshape : ∀ i m, a < i → i < m → m ≤ e → prog[i]? = some .scan → prog[m]? = some .scan →
      ∃ x, i < x ∧ x < m ∧ prog[x]? = some .pair)
    (hfalse : Ev.note j (.ret e (.bool false)) ∈ c.log)
    (hstable : ∀ k, lt k start = false → ∀ d ∈ c :: hist, nsReturned j a d →
      ((∃ v, (k, v) ∈ d.tree.abs) ↔ (∃ v, (k, v) ∈ c.tree.abs))) (k : K) :
    (∃ x v, a < x ∧ x < e ∧ Ev.note j (.ret x (.pair k v)) ∈ c.log) ↔
      (lt k start = false ∧ ∃ v, (k, v) ∈ c.tree.abs) := by
  constructor
  · rintro ⟨x, v, hax, hxe, hret⟩
    have hy : InSess prog a x := ⟨hax, hseg.mono (by omega)⟩
    have hge := scan_session_ge_start lt P tree progs hkp ht hord hsep ho hp hd hdel j a start prog hprog hns hrun hy hret
    obtain ⟨d, hdm, hnsd, _, hmem, _⟩ :=
      scan_session_sound lt P tree progs hkp ht hord hsep ho hp hd hdel j a start prog hprog hns hrun hy hret
    exact ⟨hge, (hstable k hge d hdm hnsd).1 ⟨v, hmem⟩⟩
  · rintro ⟨hge, hpres⟩
    exact scan_session_complete lt P tree progs hkp ht hord hsep ho hp hd hdel j a e start prog hprog hns hrun
      hae hseg hscan hshape hfalse k hge (fun d hdm hnsd => (hstable k hge d hdm hnsd).2 hpres)

end Full

/-- the session vocabulary is inhabited: in the program `ns 0; scan; pair; pause; scan; pair; scan`
    the calls 1…6 belong to the session opened at call 0, a `Pair` stands between any two `Scan`s -/
example :
    let prog : List (COp Nat Nat) := [.ns 0, .scan, .pair, .pause, .scan, .pair, .scan]
    InSess prog 0 6 ∧ prog[6]? = some .scan ∧
    (∀ i m, 0 < i → i < m → m ≤ 6 → prog[i]? = some .scan → prog[m]? = some .scan →
      ∃ x, i < x ∧ x < m ∧ prog[x]? = some .pair) := by
  intro prog
  refine ⟨⟨by omega, ?_⟩, rfl, ?_⟩
  · intro x h1 h2
    match x, h1, h2 with
    | 0, h, _ => exact absurd h (Nat.lt_irrefl 0)
    | 1, _, _ | 2, _, _ | 3, _, _ | 4, _, _ | 5, _, _ | 6, _, _ => exact trivial
    | n + 7, _, h => omega
  · intro i m h1 h2 h3 hi hm
    -- every `Scan` but the last is directly followed by a `Pair`
    have key : prog[i + 1]? = some .pair := by
      match i, h1, hi with
      | 1, _, _ | 4, _, _ => rfl
      | 2, _, h | 3, _, h | 5, _, h => cases h
      | n + 6, _, _ => omega
    refine ⟨i + 1, Nat.lt_succ_self i, Nat.lt_of_le_of_ne h2 (fun e => ?_), key⟩
    rw [← e, key] at hm
    cases hm

end Gobptree.Conc

#print axioms Gobptree.Conc.C04_session_sound
#print axioms Gobptree.Conc.C04_session_ascending
#print axioms Gobptree.Conc.C04_session_complete
#print axioms Gobptree.Conc.C04_session_no_phantom
#print axioms Gobptree.Conc.C04_session_exact_when_range_stable
