/-
  C11, the part of the tie that is REGENERATED.  `Generated/SearchGen.lean` is written from
  int32.go … comparable.go by harness/cmd/gen_search on every run: the twelve binary searches as
  the code states them (a slice index outside the slice as an error, every
  `goto loop` consuming fuel).  The translation itself establishes that the searches look at keys
  only through `<`/`>` (builtin types) or `Less` (Comparable) — the parameter `lt`.  Go's `int` is translated
  as the 64-bit two's complement integer (`w64` wraps every + - *), so the classical overflow of
  `(lo + hi) >> 1` is in the translation; the theorems exclude it by `len(values) < 2^62` (a slice of
  2^62 keys does not fit in any address space Go supports).  They say that for EVERY comparison `lt`
  (no order axioms needed), key and slice below that length, each translated search raises no index panic, terminates within `len + 1` jumps and returns exactly what the
  model's `searchGE`/`searchLE` (on which C01, C02, C08, C11 are proved) returns.
  The argument is in Proofs/GenSearch.lean, about the three function shapes; here each `rfl` checks
  that a translated function unfolds to its shape, so a source that departs from it fails there.
-/
import Gobptree.Proofs.GenSearch

namespace Gobptree
open Generated

variable {K : Type}

theorem C11_int32_loop : GenLoopEq (K := K) Int32.searchGE.loop := .of_body fun _ _ _ _ _ _ => rfl
theorem C11_int64_loop : GenLoopEq (K := K) Int64.searchGE.loop := .of_body fun _ _ _ _ _ _ => rfl
theorem C11_uint32_loop : GenLoopEq (K := K) UInt32.searchGE.loop := .of_body fun _ _ _ _ _ _ => rfl
theorem C11_uint64_loop : GenLoopEq (K := K) UInt64.searchGE.loop := .of_body fun _ _ _ _ _ _ => rfl
theorem C11_string_loop : GenLoopEq (K := K) Str.searchGE.loop := .of_body fun _ _ _ _ _ _ => rfl
theorem C11_comparable_loop : GenLoopEq (K := K) Cmp.searchGE.loop := .of_body fun _ _ _ _ _ _ => rfl

/-- **C11 (search, regenerated).** `<t>SearchGreaterThanOrEqualTo` as the code states it equals the model's `searchGE`. -/
theorem C11_int32_searchGE : GenGEEq (K := K) Int32.searchGE := C11_int32_loop.ge fun _ _ _ => rfl
theorem C11_int64_searchGE : GenGEEq (K := K) Int64.searchGE := C11_int64_loop.ge fun _ _ _ => rfl
theorem C11_uint32_searchGE : GenGEEq (K := K) UInt32.searchGE := C11_uint32_loop.ge fun _ _ _ => rfl
theorem C11_uint64_searchGE : GenGEEq (K := K) UInt64.searchGE := C11_uint64_loop.ge fun _ _ _ => rfl
theorem C11_string_searchGE : GenGEEq (K := K) Str.searchGE := C11_string_loop.ge fun _ _ _ => rfl
theorem C11_comparable_searchGE : GenGEEq (K := K) Cmp.searchGE := C11_comparable_loop.ge fun _ _ _ => rfl

/-- **C11 (search, regenerated).** `<t>SearchLessThanOrEqualTo` as the code states it equals the model's `searchLE`. -/
theorem C11_int32_searchLE : GenLEEq (K := K) Int32.searchLE := C11_int32_searchGE.le fun _ _ _ => rfl
theorem C11_int64_searchLE : GenLEEq (K := K) Int64.searchLE := C11_int64_searchGE.le fun _ _ _ => rfl
theorem C11_uint32_searchLE : GenLEEq (K := K) UInt32.searchLE := C11_uint32_searchGE.le fun _ _ _ => rfl
theorem C11_uint64_searchLE : GenLEEq (K := K) UInt64.searchLE := C11_uint64_searchGE.le fun _ _ _ => rfl
theorem C11_string_searchLE : GenLEEq (K := K) Str.searchLE := C11_string_searchGE.le fun _ _ _ => rfl
theorem C11_comparable_searchLE : GenLEEq (K := K) Cmp.searchLE := C11_comparable_searchGE.le fun _ _ _ => rfl

/-- end to end, for the code's own text: on a sorted slice and a strict weak order the translated
    Comparable search returns the lower-bound position (clamped to the last index), having used
    nothing but `Less` -/
theorem C11_comparable_searchGE_spec (lt : K → K → Bool) (h : SWO lt) (key : K) (vs : List K)
    (hs : Sorted lt vs) (hlen : vs.length < 2 ^ 62) :
    ∃ r : Nat, Cmp.searchGE lt key vs = .ok (r : Int) ∧
      (∀ i (hi : i < vs.length), i < r → lt vs[i] key = true) ∧
      (∀ (hr : r + 1 < vs.length), lt (vs[r]'(by omega)) key = false) :=
  ⟨searchGE lt key vs, C11_comparable_searchGE lt key vs hlen, searchGE_spec h key vs hs⟩

/-- the statements are not vacuous: a concrete run of the translated code -/
example : Int64.searchGE (fun a b : Nat => decide (a < b)) 7 [1, 3, 7, 9, 11] = .ok 2 := by rfl
example : UInt32.searchLE (fun a b : Nat => decide (a < b)) 8 [1, 3, 7, 9, 11] = .ok 2 := by rfl
example : Cmp.searchLE (fun a b : Nat => decide (a < b)) 0 [1, 3, 7] = .ok 0 := by rfl

end Gobptree

#print axioms Gobptree.C11_int32_searchGE
#print axioms Gobptree.C11_int64_searchGE
#print axioms Gobptree.C11_uint32_searchGE
#print axioms Gobptree.C11_uint64_searchGE
#print axioms Gobptree.C11_string_searchGE
#print axioms Gobptree.C11_comparable_searchGE
#print axioms Gobptree.C11_int32_searchLE
#print axioms Gobptree.C11_int64_searchLE
#print axioms Gobptree.C11_uint32_searchLE
#print axioms Gobptree.C11_uint64_searchLE
#print axioms Gobptree.C11_string_searchLE
#print axioms Gobptree.C11_comparable_searchLE
#print axioms Gobptree.C11_comparable_searchGE_spec
