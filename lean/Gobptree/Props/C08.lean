/-
  C08 — B+tree shape invariants hold whenever the tree is quiescent: for sequential histories
  and in the small-step model under every schedule.

  `TreeInv lt t` = `TreeWF lt t ∧ Linked t.depth none t.root`. `WF` (Proofs/WF.lean)
  is literally the clause list of the property: keys of every node strictly ascending;
  every separator ≤ every key beneath it and > every key beneath its left neighbour
  (children carry the interval `[separator, next separator)`); parallel arrays of equal
  length; at most `order` entries; every non-root node at least `order/2`; an inner root
  at least 2. All leaves at one depth is a typing fact of `Node K V d`. `Linked` is the
  leaf chain: each leaf's `next` is its in-order successor, the last one's is nil.
-/
import Gobptree.Proofs.RunOk
import Gobptree.Proofs.Scan
import Gobptree.Proofs.SpecSorted
import Gobptree.Proofs.CSFinal
import Gobptree.Proofs.CFinal2

namespace Gobptree

variable {K V : Type} {lt : K → K → Bool} {P : Params K}

/-- **C08 (sequential).** After every operation of every history on a fresh tree of any
    even order ≥ 4 the shape invariant and the leaf chain hold. -/
theorem C08_shape_seq (hp : ParamsOk lt P) (h4 : 4 ≤ P.order) (ops : List (Op K V)) :
    ∃ (t' : Tree K V) (outs : List (Out V)),
      (Tree.new P.order : Tree K V).run P ops = .ok (t', outs) ∧ TreeInv lt t' ∧ t'.order = P.order := by
  obtain ⟨t', heq, hinv', hto, -, -⟩ := run_new hp ops (fun _ _ _ => h4)
  exact ⟨t', _, heq, hinv', hto⟩

/-- **C08 (order 2, partial).** Capacity, ordering, separators and chain for order 2
    (any even order ≥ 2) over histories without Delete. -/
theorem C08_order2_partial (hp : ParamsOk lt P) (ops : List (Op K V))
    (hnodel : ∀ op ∈ ops, op.isDelete = false) :
    ∃ (t' : Tree K V) (outs : List (Out V)),
      (Tree.new P.order : Tree K V).run P ops = .ok (t', outs) ∧ TreeInv lt t' ∧ t'.order = P.order := by
  obtain ⟨t', heq, hinv', hto, -, -⟩ := run_new hp ops (hdel_of_nodel hnodel _)
  exact ⟨t', _, heq, hinv', hto⟩

/-- **C08, the invariant is inductive** (so it holds after every single operation of a
    history, not only at its end). -/
theorem C08_step_preserves (hp : ParamsOk lt P) (t : Tree K V) (hto : t.order = P.order)
    (hinv : TreeInv lt t) (op : Op K V) (hdel : op.isDelete = true → 4 ≤ P.order) :
    ∃ (t' : Tree K V) (o : Out V), t.step P op = .ok (t', o) ∧ TreeInv lt t' ∧ t'.order = P.order := by
  obtain ⟨t', heq, hinv', hto', _⟩ := step_ok hp t hto hinv op hdel
  exact ⟨t', _, heq, hinv', hto'⟩

/-- **C08, unpacked for a tree that is a single leaf** (height 0); no lower bound on its
    entries: it is the root. -/
theorem C08_root_leaf (t : Tree K V) (hd : t.depth = 0) (hinv : TreeInv lt t) :
    ∃ l : Leaf K V, Node.leaves t.root = [l] ∧ Sorted lt l.keys ∧ l.keys.length = l.vals.length ∧
      l.keys.length ≤ t.order ∧ l.next = none := by
  obtain ⟨order, depth, root, nextId⟩ := t
  simp only at hd; subst hd
  obtain ⟨⟨a, b, c, _, _⟩, hL⟩ := hinv
  exact ⟨root, rfl, a, b, c, hL⟩

/-- **C08, unpacked: the leaves.** In a tree satisfying the invariant every leaf has strictly
    ascending keys and as many values as keys, and (unless the tree is a single root leaf)
    at least `order/2` entries; the leaf chain visits the leaves in order: each leaf's
    `next` is the identity of the following leaf and the last one's is nil. -/
theorem C08_leaves_and_chain (h : SWO lt) (t : Tree K V) (hinv : TreeInv lt t) :
    (∀ l ∈ Node.leaves t.root, Sorted lt l.keys ∧ l.keys.length = l.vals.length ∧
      (t.depth ≠ 0 → t.order / 2 ≤ l.keys.length)) ∧
    ChainList (Node.leaves t.root) none := by
  obtain ⟨hw, hL⟩ := hinv
  exact ⟨WF_leaves hw, (Linked_chainList h hw hL).1⟩

/-- **C08, the contents are ordered.** After every history the in-order contents (what the
    leaf chain enumerates) are strictly ascending in the key order.  That they are the
    specification's map, from which every index lookup answers, is `run_new` (C01). -/
theorem C08_contents_sorted (hp : ParamsOk lt P) (h4 : 4 ≤ P.order) (ops : List (Op K V)) :
    ∃ (t' : Tree K V) (outs : List (Out V)),
      (Tree.new P.order : Tree K V).run P ops = .ok (t', outs) ∧ KSorted lt t'.abs := by
  obtain ⟨t', heq, -, -, -, habs⟩ := run_new hp ops (fun _ _ _ => h4)
  exact ⟨t', _, heq, habs⟩

end Gobptree

namespace Gobptree.Conc
open Gobptree

variable {K V : Type}

/-- no operation is in flight (`AtRest`) and no cursor is open -/
def Quiescent (c : Config K V) : Prop :=
  ∀ th ∈ c.threads, (th.park = .start ∨ th.park = .finished) ∧ cursorLocks th.cursor = []

/-- **C08 (structure, under every schedule).** In EVERY reachable configuration of every
    family of disciplined client programs — not only at quiescence — the tree satisfies the
    structural half of the shape invariant: node identities pairwise distinct; in every node
    the parallel arrays have equal length and at most `order` entries; every non-root node
    has at least `order/2` entries, except the single node (`holeOf`) that a Delete currently
    running is about to rebalance (it holds `order/2 − 1`, and the Delete holds its mutex);
    an inner root has at least two children; all leaves at one depth (by typing); each leaf's
    `next` names the following leaf in order and the last one's is nil. -/
theorem C08_structure_concurrent (P : Params K) (tree : Tree K V) (progs : List (List (COp K V)))
    (ht : TreeOk none tree) (ho : tree.order = P.order) (hp : PadOk P) (hd : Disciplined progs)
    (hdel : 4 ≤ tree.order ∨ NoDelete progs)
    (c : Config K V) (hr : Reachable (Config.init P tree progs) c) :
    TreeOk (holeOf c.threads) c.tree :=
  (reachable_cinv P tree progs ht ho hp hd hdel c hr).s.tree

/-- **C08 (quiescence).** When no operation is in flight there is no hole: the structural
    shape invariant holds with the full minimum occupancy for every non-root node. -/
theorem C08_structure_quiescent (P : Params K) (tree : Tree K V) (progs : List (List (COp K V)))
    (ht : TreeOk none tree) (ho : tree.order = P.order) (hp : PadOk P) (hd : Disciplined progs)
    (hdel : 4 ≤ tree.order ∨ NoDelete progs)
    (c : Config K V) (hr : Reachable (Config.init P tree progs) c) (hq : Quiescent c) :
    TreeOk none c.tree := by
  have h := C08_structure_concurrent P tree progs ht ho hp hd hdel c hr
  have : holeOf c.threads = none := by
    apply holeOf_all_none
    intro b hb
    rcases (hq b hb).1 with e | e <;> rw [e] <;> rfl
  rw [this] at h
  exact h

/-- **C08 (ordering, under every schedule).** In EVERY reachable configuration the ordering
    clauses hold as well: keys strictly ascending in every node, every subtree inside the
    interval its parent's separators assign to it (each separator ≤ every key beneath it and
    > every key beneath its left neighbour), the first separator included. -/
theorem C08_ordering_concurrent (lt : K → K → Bool) (P : Params K) (tree : Tree K V) (progs : List (List (COp K V)))
    (hkp : KParams lt P) (ht : TreeOk none tree) (hord : OrdTree lt tree) (hsep : SepTree lt tree)
    (ho : tree.order = P.order) (hp : PadOk P) (hd : Disciplined progs)
    (hdel : 4 ≤ tree.order ∨ NoDelete progs)
    (c : Config K V) (hr : Reachable (Config.init P tree progs) c) :
    OrdTree lt c.tree ∧ TreeOk (holeOf c.threads) c.tree :=
  let h := reachable_kfinv' lt P tree progs hkp ht hord hsep ho hp hd hdel c hr
  ⟨h.kinv.ord, h.cinv.s.tree⟩

/-- **C08 (quiescence): the whole shape invariant.** With no operation in flight: structure
    with full minimum occupancy, and ordering. -/
theorem C08_shape_quiescent (lt : K → K → Bool) (P : Params K) (tree : Tree K V) (progs : List (List (COp K V)))
    (hkp : KParams lt P) (ht : TreeOk none tree) (hord : OrdTree lt tree) (hsep : SepTree lt tree)
    (ho : tree.order = P.order) (hp : PadOk P) (hd : Disciplined progs)
    (hdel : 4 ≤ tree.order ∨ NoDelete progs)
    (c : Config K V) (hr : Reachable (Config.init P tree progs) c) (hq : Quiescent c) :
    OrdTree lt c.tree ∧ TreeOk none c.tree :=
  ⟨(C08_ordering_concurrent lt P tree progs hkp ht hord hsep ho hp hd hdel c hr).1,
   C08_structure_quiescent P tree progs ht ho hp hd hdel c hr hq⟩

end Gobptree.Conc

#print axioms Gobptree.C08_leaves_and_chain
#print axioms Gobptree.C08_contents_sorted
#print axioms Gobptree.C08_shape_seq
#print axioms Gobptree.C08_order2_partial
#print axioms Gobptree.C08_step_preserves
#print axioms Gobptree.C08_root_leaf
#print axioms Gobptree.Conc.C08_structure_concurrent
#print axioms Gobptree.Conc.C08_structure_quiescent
#print axioms Gobptree.Conc.C08_ordering_concurrent
#print axioms Gobptree.Conc.C08_shape_quiescent
