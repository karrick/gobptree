/-
  C02 after concurrent use.  `Props/C02.lean` proves exact scans for every tree satisfying the
  SEQUENTIAL invariants `TreeInv`/`IdsInv`.  The bridge
  (`Proofs/CBridge.lean`) shows that the tree left behind by ANY concurrent execution of the
  small-step model that has come to rest satisfies them, so the scan guarantee does not depend
  on how the tree was built.  (Not in `Props/C02.lean`, which the bridge imports for
  `C02_scan_exact_inv`.)
-/
import Gobptree.Proofs.CBridge

namespace Gobptree.Conc
open Gobptree

variable {K V : Type}

/-- **C02 (after any concurrent history).** Disciplined programs run concurrently, under any
    schedule, on a tree satisfying the invariants (e.g. a fresh one); whenever no operation is
    in flight (`AtRest`), a scan from any start key yields exactly the stored pairs with key
    ≥ start, ascending, once each, and ends with `Scan() = false`. -/
theorem C02_scan_exact_after_concurrent (lt : K → K → Bool) (P : Params K) (tree : Tree K V)
    (progs : List (List (COp K V)))
    (hkp : KParams lt P) (ht : TreeOk none tree) (hord : OrdTree lt tree) (hsep : SepTree lt tree)
    (ho : tree.order = P.order) (hp : PadOk P) (hd : Disciplined progs) (hdel : 4 ≤ tree.order ∨ NoDelete progs)
    (c : Config K V) (hr : Reachable (Config.init P tree progs) c) (hq : AtRest c) (s : K) :
    ∃ fuel, c.tree.scanFrom P {} s none fuel = .ok (Spec.from lt c.tree.abs s, true) :=
  scan_exact_after_concurrent' lt P tree progs hkp ht hord hsep ho hp hd hdel c hr hq s

theorem C02_scan_exact_after_concurrent_fresh (lt : K → K → Bool) (P : Params K)
    (progs : List (List (COp K V))) (hkp : KParams lt P) (h2 : 2 ≤ P.order) (he : P.order % 2 = 0)
    (hp : PadOk P) (hd : Disciplined progs) (hdel : 4 ≤ P.order ∨ NoDelete progs)
    (c : Config K V) (hr : Reachable (Config.init P (Tree.new P.order) progs) c) (hq : AtRest c) (s : K) :
    ∃ fuel, c.tree.scanFrom P {} s none fuel = .ok (Spec.from lt c.tree.abs s, true) :=
  scan_exact_after_concurrent_fresh lt P progs hkp h2 he hp hd hdel c hr hq s

end Gobptree.Conc

#print axioms Gobptree.Conc.C02_scan_exact_after_concurrent
#print axioms Gobptree.Conc.C02_scan_exact_after_concurrent_fresh
