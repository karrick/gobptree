/-
  C12 — constructors accept exactly the powers of two ≥ 2.

  `Generated.checkOrderGen` is REGENERATED from /repo/order.go on every run by
  harness/cmd/gen_order (Go `int` = 64-bit two's complement): the theorems below are
  about the code as it stands.
-/
import Gobptree.Generated.CheckOrder
import Gobptree.Proofs.RunOk

namespace Gobptree

theorem C12_sle_two_iff (x : BitVec 64) :
    BitVec.sle (2#64) x = true ↔ 2 ≤ x.toNat ∧ x.toNat < 2 ^ 63 := by
  have e2 : (2#64).toInt = ((2 : Nat) : Int) := rfl
  rw [BitVec.sle_iff_toInt_le, e2]
  constructor
  · intro h2
    have h := BitVec.toInt_pos_iff.1 (Int.le_trans (Int.natCast_nonneg 2) h2)
    rw [BitVec.toInt_eq_toNat_of_lt h] at h2
    exact ⟨Int.ofNat_le.1 h2, Nat.lt_of_mul_lt_mul_left h⟩
  · intro h
    rw [BitVec.toInt_eq_toNat_of_lt ((Nat.mul_lt_mul_left Nat.zero_lt_two).2 h.2)]
    exact Int.ofNat_le.2 h.1

theorem C12_toNat_sub_one (x : BitVec 64) (h : 1 ≤ x.toNat) :
    (x - 1#64).toNat = x.toNat - 1 :=
  BitVec.toNat_sub_of_le (BitVec.le_def.2 h)

theorem C12_and_eq_zero_iff (x : BitVec 64) (h : 1 ≤ x.toNat) :
    ((x &&& (x - 1#64)) == 0#64) = true ↔ x.toNat.isPowerOfTwo := by
  rw [← Nat.and_sub_one_eq_zero_iff_isPowerOfTwo (Nat.ne_of_gt h), ← C12_toNat_sub_one x h,
    ← BitVec.toNat_and]
  exact decide_eq_true_iff.trans BitVec.toNat_inj.symm

def C12_canon (x : BitVec 64) : Bool := BitVec.sle (2#64) x && ((x &&& (x - 1#64)) == 0#64)

theorem C12_canon_iff (x : BitVec 64) :
    C12_canon x = true ↔ (2 ≤ x.toNat ∧ x.toNat < 2 ^ 63) ∧ x.toNat.isPowerOfTwo := by
  unfold C12_canon
  rw [Bool.and_eq_true, C12_sle_two_iff]
  exact and_congr_right fun h => C12_and_eq_zero_iff x (Nat.le_of_succ_le h.1)

theorem C12_slt_eq_not_sle (x y : BitVec 64) : BitVec.slt x y = !BitVec.sle y x := by
  rw [BitVec.sle_eq_not_slt, Bool.not_not]

/-- whatever boolean combination of the two atoms `2 ≤ order` / `order < 2` and
    `order & (order-1) == 0` / `!= 0` the source uses (`if ok { return nil }`, the
    guard-clause form `if !ok { return err }`, De Morgan variants), the regenerated definition
    equals the canonical one: decided by normalising the comparisons and a truth table -/
theorem C12_gen_eq_canon (x : BitVec 64) : Generated.checkOrderGen x = C12_canon x := by
  unfold Generated.checkOrderGen C12_canon
  first
    | rfl
    | (simp only [C12_slt_eq_not_sle, bne]
       cases BitVec.sle (2#64) x <;> cases ((x &&& (x - 1#64)) == 0#64) <;> rfl)

/-- the accepted orders as natural numbers: `2^1 … 2^62` -/
theorem C12_accept_iff_toNat (x : BitVec 64) :
    Generated.checkOrderGen x = true ↔ ∃ n : Nat, 1 ≤ n ∧ n ≤ 62 ∧ x.toNat = 2 ^ n := by
  rw [C12_gen_eq_canon, C12_canon_iff]
  constructor
  · rintro ⟨⟨h2, h63⟩, n, hn⟩
    rw [hn] at h2 h63
    exact ⟨n, Nat.pos_of_ne_zero (Nat.one_lt_two_pow_iff.1 h2),
      Nat.le_of_lt_succ ((Nat.pow_lt_pow_iff_right Nat.one_lt_two).1 h63), hn⟩
  · rintro ⟨n, h1, h62, hn⟩
    rw [hn]
    exact ⟨⟨Nat.one_lt_two_pow (Nat.ne_of_gt h1),
      Nat.pow_lt_pow_right Nat.one_lt_two (Nat.lt_succ_of_le h62)⟩, n, rfl⟩

/-- **C12 (validation).** `checkOrder(order) == nil` exactly for the powers of two
    `2^1 … 2^62` (the positive powers of two representable in a Go `int`). -/
theorem C12_checkOrder (x : BitVec 64) :
    Generated.checkOrderGen x = true ↔ ∃ n : Nat, 1 ≤ n ∧ n ≤ 62 ∧ x = BitVec.ofNat 64 (2 ^ n) := by
  rw [C12_accept_iff_toNat]
  refine exists_congr fun n => and_congr_right fun _ => and_congr_right fun h62 => ?_
  rw [BitVec.toNat_eq_nat]
  exact and_iff_right
    (Nat.pow_lt_pow_right Nat.one_lt_two (Nat.lt_of_le_of_lt h62 (by decide : 62 < 64)))

/-- an accepted order, as the natural number the tree stores -/
theorem C12_accepted_shape (x : BitVec 64) (hacc : Generated.checkOrderGen x = true) :
    2 ≤ x.toNat ∧ x.toNat % 2 = 0 ∧ ∃ n, 1 ≤ n ∧ x.toNat = 2 ^ n := by
  obtain ⟨n, h1, _, hn⟩ := (C12_accept_iff_toNat x).1 hacc
  rw [hn]
  exact ⟨Nat.one_lt_two_pow (Nat.ne_of_gt h1), Nat.two_pow_mod_two_eq_zero.2 h1, n, h1, rfl⟩

/-- **C12 (construction).** On acceptance the constructor's tree is empty and satisfies the
    invariant, and the accepted order meets the hypotheses (`2 ≤ order`, `order` even) under
    which C01/C05/C08 are proved: the dependence of splitting on an even order is discharged
    by the validation itself. -/
theorem C12_new {K V : Type} (lt : K → K → Bool) (x : BitVec 64) (hacc : Generated.checkOrderGen x = true) :
    TreeInv lt (Tree.new x.toNat : Tree K V) ∧ (Tree.new x.toNat : Tree K V).abs = [] ∧
    (Tree.new x.toNat : Tree K V).order = x.toNat ∧ 2 ≤ x.toNat ∧ x.toNat % 2 = 0 := by
  obtain ⟨h2, hev, _⟩ := C12_accepted_shape x hacc
  obtain ⟨hinv, hnil⟩ := new_ok (lt := lt) (K := K) (V := V) x.toNat
  exact ⟨hinv, by rw [Tree.abs_eq_pairs]; exact hnil, rfl, h2, hev⟩

/-- **C12 (rejection).** Zero, negative and odd orders and every other non-power of two are
    rejected (no tree is built: the driver and the Go constructors return before allocating). -/
theorem C12_rejects (x : BitVec 64) (hn : ¬ ∃ n : Nat, 1 ≤ n ∧ n ≤ 62 ∧ x = BitVec.ofNat 64 (2 ^ n)) :
    Generated.checkOrderGen x = false := by
  cases hc : Generated.checkOrderGen x with
  | false => rfl
  | true => exact absurd ((C12_checkOrder x).mp hc) hn

/-- **C12 (independence).** Trees are values: an operation on one tree cannot change another
    (the model has no state outside the `Tree` value; that the implementation has no
    package-level state and allocates a fresh root per constructor call is an extracted
    fact, checked on the sources on every run). -/
theorem C12_independent {K V : Type} (P : Params K) (t1 t2 : Tree K V) (op : Op K V) :
    ∀ r, (do let r1 ← t1.step P op; pure (r1, t2) : R ((Tree K V × Out V) × Tree K V)) = .ok r → r.2 = t2 := by
  intro r hr
  obtain ⟨a, -, h⟩ := bind_ok hr
  cases h
  rfl

end Gobptree

#print axioms Gobptree.C12_checkOrder

#print axioms Gobptree.C12_accepted_shape
#print axioms Gobptree.C12_new
#print axioms Gobptree.C12_rejects
#print axioms Gobptree.C12_independent
