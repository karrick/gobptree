/-
  C01 — single-threaded use refines a key→value map, for every key type and order.

  Model: lean/Gobptree/{Slice,Search,Node,Ops,Run}.lean (hand-written mirror of the
  six tree files, tied to /repo by the differential check on every run).
  Spec:  lean/Gobptree/Spec.lean.
  `K`, `V`, the comparison `lt` (any strict weak order), the padding producer
  and the order are arbitrary: one theorem covers all six tree types.
-/
import Gobptree.Proofs.RunOk
import Gobptree.Proofs.CSolo

namespace Gobptree

variable {K V : Type} {lt : K → K → Bool} {P : Params K}

/-- **C01 (order ≥ 4).** Every finite history of Insert/Update/Delete/Search on a
    fresh tree of any even order ≥ 4: no call panics, every Search returns exactly
    the specification's lookup, every Update callback receives exactly that lookup,
    and the contents are the specification's map. -/
theorem C01_refines_map (hp : ParamsOk lt P) (h4 : 4 ≤ P.order) (ops : List (Op K V)) :
    ∃ t' : Tree K V,
      (Tree.new P.order : Tree K V).run P ops = .ok (t', (Spec.run lt [] ops).2) ∧
      t'.abs = (Spec.run lt [] ops).1 := by
  obtain ⟨t', heq, -, -, habs, -⟩ := run_new hp ops (fun _ _ _ => h4)
  exact ⟨t', heq, habs⟩

/-- **C01 (order 2, partial).** The same for order 2 (any even order ≥ 2) over
    histories WITHOUT Delete. What is missing for the full statement at order 2 is
    the known finding KF-1 (see `C01_order2_delete_counterexample`). -/
theorem C01_order2_partial (hp : ParamsOk lt P) (ops : List (Op K V))
    (hnodel : ∀ op ∈ ops, op.isDelete = false) :
    ∃ t' : Tree K V,
      (Tree.new P.order : Tree K V).run P ops = .ok (t', (Spec.run lt [] ops).2) ∧
      t'.abs = (Spec.run lt [] ops).1 := by
  obtain ⟨t', heq, -, -, habs, -⟩ := run_new hp ops (hdel_of_nodel hnodel _)
  exact ⟨t', heq, habs⟩

/-- **C01, Search is read-only.** A Search step returns the tree it was given. -/
theorem C01_search_unchanged (t t' : Tree K V) (k : K) (o : Out V)
    (hs : t.step P (.search k) = .ok (t', o)) : t' = t :=
  (Tree.step_inv P t t' (.search k) o hs).elim fun _ h => h.2.1

/-! ### the instance used for non-vacuity and for the order-2 witness -/

def natP (o : Nat) : Params Nat := { lt := fun a b => decide (a < b), pad := fun _ => some 0, order := o }

theorem natP_ok (o : Nat) (h2 : 2 ≤ o) (hev : o % 2 = 0) : ParamsOk (fun a b => decide (a < b)) (natP o) where
  lt_eq := rfl
  swo := SWO.natLt
  pad := by intro k; simp [natP]
  two_le := h2
  even := hev

/-- non-vacuity: the hypotheses of `C01_refines_map` are satisfiable (Nat keys, order 4);
    the example after this one shows a history that reaches a tree of height 2 -/
example : ParamsOk (fun a b => decide (a < b)) (natP 4) ∧ 4 ≤ (natP 4).order := ⟨natP_ok 4 (by decide) (by decide), by decide⟩

example : ∃ t : Tree Nat Nat,
    (Tree.new 4 : Tree Nat Nat).run (natP 4) ((List.range 12).map fun i => Op.insert i i) = .ok (t, List.replicate 12 .done) ∧ t.depth = 2 := by
  refine ⟨_, rfl, rfl⟩

/-- **KF-1 witness (order 2).** At order 2 the history of the properties file
    `I1 I2 I5 I2 D1` makes the model's Delete panic, as the implementation's does:
    the full C01 statement is false at order 2 with deletes. -/
theorem C01_order2_delete_counterexample :
    (Tree.new 2 : Tree Nat Nat).run (natP 2)
      [.insert 1 1, .insert 2 2, .insert 5 5, .insert 2 2, .delete 1] = .error .bothSiblingsEmpty := by
  rfl

end Gobptree

namespace Gobptree.Conc
open Gobptree

variable {K V : Type}

/-- **C01 (the two Lean models agree).** Whenever the sequential big-step model (`Ops.lean`,
    about which C01/C02/C08/C11 are proved) runs a history from a fresh tree without a Go panic
    (from any tree with pairwise distinct identities: `solo_run'`), a single thread
    of the concurrent small-step model (`Conc.lean`, about which C03–C10 are proved) running the
    same history ends with EXACTLY the same tree — same node identities, same allocation counter
    — the same results position by position and the same callback arguments. -/
theorem C01_models_agree (P : Params K) (ops : List (Op K V)) (t' : Tree K V) (outs : List (Out V))
    (hseq : Tree.run P (Tree.new P.order) ops = .ok (t', outs)) :
    ∃ n c', (Config.init P (Tree.new P.order) [ops.map copOf]).run (List.replicate n 0) = (c', none) ∧
      c'.unfinished = false ∧ c'.dead = false ∧ c'.tree = t' ∧ c'.owner = [] ∧
      ∃ rs, (retNotes c'.log).reverse = numbered 0 rs ∧ ResAll outs rs ∧ (cbNotes c'.log).reverse = outCbs outs :=
  solo_run_new P ops t' outs hseq

/-- **C01 on the concurrent model.** A lone thread of the concurrent model started on a fresh tree
    never panics and refines the map specification: final contents, results and callback
    arguments are those of `Spec.run` (Delete only at order ≥ 4). -/
theorem C01_concurrent_model_solo (lt : K → K → Bool) (P : Params K) (hp : ParamsOk lt P) (ops : List (Op K V))
    (hdel : ∀ op ∈ ops, op.isDelete = true → 4 ≤ P.order) :
    ∃ n c', (Config.init P (Tree.new P.order) [ops.map copOf]).run (List.replicate n 0) = (c', none) ∧
      c'.unfinished = false ∧ c'.dead = false ∧ c'.owner = [] ∧
      Node.pairs c'.tree.root = (Spec.run lt [] ops).1 ∧
      ∃ rs, (retNotes c'.log).reverse = numbered 0 rs ∧ ResAll (Spec.run lt ([] : List (K × V)) ops).2 rs ∧
        (cbNotes c'.log).reverse = outCbs (Spec.run lt ([] : List (K × V)) ops).2 :=
  solo_refines_spec lt P hp ops hdel

end Gobptree.Conc

#print axioms Gobptree.C01_refines_map
#print axioms Gobptree.C01_order2_partial
#print axioms Gobptree.C01_search_unchanged
#print axioms Gobptree.C01_order2_delete_counterexample
#print axioms Gobptree.Conc.C01_models_agree
#print axioms Gobptree.Conc.C01_concurrent_model_solo
