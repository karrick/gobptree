/-
  C11 — all guarantees hold on the whole key domain; ComparableTree uses only Less.

  Every theorem of C01/C02/C05/C08 is stated for an ARBITRARY key type `K` and an
  arbitrary comparison `lt : K → K → Bool` that is a strict weak order (`SWO lt`),
  with an arbitrary padding producer `P.pad`: nothing else about keys is available to
  the model (its definitions take no `DecidableEq K`, `Ord K`, … instance), so the
  guarantees hold at the extremes of the integer types, for the empty string and
  prefixes, and for `Less` relations whose equivalence is coarser than `==`.
-/
import Gobptree.Proofs.RunOk
import Gobptree.Proofs.SpecLookup

namespace Gobptree

variable {K V : Type} {lt : K → K → Bool} {P : Params K}

/-- **C11, same entry.** Two keys denote the same entry exactly when neither is less than
    the other: inserting `k'` equivalent to a stored `k` replaces the value and KEEPS the
    stored key (specification level; the model refines it by `C01_refines_map`). -/
theorem C11_same_entry (h : SWO lt) (m : List (K × V)) (k k' : K) (v v' : V)
    (he : eqv lt k' k = true) (hm : ∀ p ∈ m, lt k p.1 = true) :
    Spec.insert lt ((k, v) :: m) k' v' = (k, v') :: m := by
  simp only [eqv, Bool.and_eq_true, Bool.not_eq_true'] at he
  simp [Spec.insert, he.1, he.2]

/-- **C11, lookups use only the order.** A lookup with an equivalent key finds the entry. -/
theorem C11_lookup_eqv (h : SWO lt) (m : List (K × V)) (k k' : K) (he : eqv lt k k' = true) :
    Spec.lookup lt m k = Spec.lookup lt m k' :=
  Conc.lookup_congr h m he

def Op.key : Op K V → K
  | .insert k _ => k
  | .update k _ => k
  | .delete k => k
  | .search k => k

/-- **C11, no placeholder is ever stored.** Every key stored after any history was
    supplied by the client as the argument of an Insert or Update of that history — for
    EVERY padding producer `P.pad`, so a `ZeroValue()`/`0`/`""` placeholder appears among
    the stored keys only if the client itself stored it. -/
theorem C11_no_padding (hp : ParamsOk lt P) (ops : List (Op K V))
    (hdel : ∀ op ∈ ops, op.isDelete = true → 4 ≤ P.order) :
    ∃ (t' : Tree K V) (outs : List (Out V)),
      (Tree.new P.order : Tree K V).run P ops = .ok (t', outs) ∧
      ∀ p ∈ t'.abs, ∃ op ∈ ops, op.key = p.1 ∧ op.isDelete = false := by
  obtain ⟨t', heq, -, -, habs, -⟩ := run_new hp ops hdel
  refine ⟨t', _, heq, ?_⟩
  rw [habs]
  -- a statement about the specification alone
  suffices hs : ∀ (ops : List (Op K V)) (m : List (K × V)),
      ∀ p ∈ (Spec.run lt m ops).1, (∃ q ∈ m, q.1 = p.1) ∨ ∃ op ∈ ops, op.key = p.1 ∧ op.isDelete = false by
    intro p hp
    cases hs ops [] p hp with
    | inl e => obtain ⟨q, hq, _⟩ := e; simp at hq
    | inr e => exact e
  intro ops
  induction ops with
  | nil => intro m p hp; left; exact ⟨p, hp, rfl⟩
  | cons op ops ih =>
    intro m p hp
    simp only [Spec.run] at hp
    cases ih _ p hp with
    | inr e => obtain ⟨o, ho, e'⟩ := e; right; exact ⟨o, by simp [ho], e'⟩
    | inl e =>
      obtain ⟨q, hq, e'⟩ := e
      have hop : (op.key = q.1 ∧ op.isDelete = false) ∨ ∃ r ∈ m, r.1 = q.1 := by
        cases op with
        | insert k v => exact (Spec.insert_mem_key m k v q hq).imp_left fun e => ⟨e.symm, rfl⟩
        | update k f => exact (Spec.insert_mem_key m k _ q hq).imp_left fun e => ⟨e.symm, rfl⟩
        | delete k => exact .inr ⟨q, (List.mem_filter.mp hq).1, rfl⟩
        | search k => exact .inr ⟨q, hq, rfl⟩
      cases hop with
      | inl e'' => right; exact ⟨op, List.mem_cons_self, e''.1.trans e', e''.2⟩
      | inr e'' => obtain ⟨r, hr, e3⟩ := e''; left; exact ⟨r, hr, e3.trans e'⟩

end Gobptree

#print axioms Gobptree.C11_same_entry
#print axioms Gobptree.C11_lookup_eqv
#print axioms Gobptree.C11_no_padding
