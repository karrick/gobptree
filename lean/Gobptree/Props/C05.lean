/-
  C05 — Update is a read-modify-write with an exactly-once callback.

  Sequential: in the model an Update returns `Out.callback arg`, `arg` being the value stored
  for the key (or absence), and stores the callback's result; `Leaf.upsert` applies the
  callback at a single place on each of its three leaf paths.

  Concurrent (every program family, Deletes included): in the history that is proved
  linearizable the response of an Update IS the argument its callback received.  In `Spec`,
  `update k f` returns `lookup k` and stores `f (lookup k)`.  So linearizability says: the callback
  sees the value current at the operation's linearization point, and its result is what that point
  stores — an atomic read-modify-write, under every schedule.
  `C05_callback_at_leaf_partial` is stated for the continuation `.upChild` only; the same
  `AbsEffect` is proved of the other Insert/Update continuations (`resume_kpost_U`).
-/
import Gobptree.Proofs.RunOk
import Gobptree.Proofs.CFinal2

namespace Gobptree

variable {K V : Type} {lt : K → K → Bool} {P : Params K}

/-- **C05 (sequential).** In every reachable state (any tree satisfying the invariant),
    `Update k f` does not panic, hands the callback exactly the value currently stored
    for `k` (or absence), stores the callback's result for `k`, and changes nothing else:
    the new contents are `Spec.insert m k (f (Spec.lookup m k))`. Holds on all three leaf
    paths and through root and child splits (the proof is by induction on the height). -/
theorem C05_update_seq (hp : ParamsOk lt P) (t : Tree K V) (hto : t.order = P.order)
    (hinv : TreeInv lt t) (k : K) (f : Option V → V) :
    ∃ t' : Tree K V,
      t.step P (.update k f) = .ok (t', .callback (Spec.lookup lt t.abs k)) ∧
      TreeInv lt t' ∧
      t'.abs = Spec.insert lt t.abs k (f (Spec.lookup lt t.abs k)) := by
  obtain ⟨t', heq, hinv', _, hp'⟩ := step_ok hp t hto hinv (.update k f) (fun hd => by simp [Op.isDelete] at hd)
  rw [Tree.abs_eq_pairs]
  exact ⟨t', heq, hinv', by rw [Tree.abs_eq_pairs]; exact hp'⟩

/-- **C05, counter corollary (sequential).** `n` successive `Update k (+1)` raise a stored
    counter by exactly `n` (absent counts as 0). -/
theorem C05_counter_seq (hp : ParamsOk lt P) (k : K) (n : Nat) :
    ∀ (t : Tree K Nat), t.order = P.order → TreeInv lt t →
      ∃ t' : Tree K Nat,
        t.run P (List.replicate n (Op.update k (fun o => (o.getD 0) + 1))) =
          .ok (t', (Spec.run lt t.abs (List.replicate n (Op.update k (fun o => (o.getD 0) + 1)))).2) ∧
        TreeInv lt t' ∧
        t'.abs = (Spec.run lt t.abs (List.replicate n (Op.update k (fun o => (o.getD 0) + 1)))).1 := by
  intro t hto hinv
  obtain ⟨t', heq, hinv', _, hp'⟩ := run_ok hp (List.replicate n (Op.update k (fun o => (o.getD 0) + 1))) t hto hinv
    (fun op hop hd => by rw [(List.eq_of_mem_replicate hop)] at hd; simp [Op.isDelete] at hd)
  rw [Tree.abs_eq_pairs]
  exact ⟨t', heq, hinv', by rw [Tree.abs_eq_pairs]; exact hp'⟩

end Gobptree

namespace Gobptree.Conc
open Gobptree

variable {K V : Type}

/-- **C05 (concurrent, programs without Delete): Update is atomic under every schedule.** The
    history whose Update responses are the callback arguments is linearizable w.r.t. the
    specification in which `update k f` observes `lookup k` and stores `f (lookup k)` in one
    step. -/
theorem C05_update_atomic_partial (lt : K → K → Bool) (P : Params K) (tree : Tree K V)
    (progs : List (List (COp K V)))
    (hkp : KParams lt P) (ht : TreeOk none tree) (hord : OrdTree lt tree) (ho : tree.order = P.order)
    (hp : PadOk P) (hd : Disciplined progs) (hnd : NoDelete progs)
    (c : Config K V) (hr : Reachable (Config.init P tree progs) c) :
    Lin.Linearizable lt tree.abs (history c) ∧
    (∀ (m : List (K × V)) (k : K) (f : Option V → V),
      Spec.step lt m (Op.update k f) = (Spec.update lt m k f, Out.callback (Spec.lookup lt m k))) :=
  ⟨linearizable_nodelete' lt P tree progs hkp ht hord ho hp hd hnd c hr, fun _ _ _ => rfl⟩

/-- **C05 (concurrent): Update is atomic under every schedule**, Deletes running alongside:
    `C03_linearizable`, stated next to the defining equation of `Spec.step` on an Update. -/
theorem C05_update_atomic (lt : K → K → Bool) (P : Params K) (tree : Tree K V) (progs : List (List (COp K V)))
    (hkp : KParams lt P) (ht : TreeOk none tree) (hord : OrdTree lt tree) (hsep : SepTree lt tree)
    (ho : tree.order = P.order) (hp : PadOk P) (hd : Disciplined progs)
    (hdel : 4 ≤ tree.order ∨ NoDelete progs)
    (c : Config K V) (hr : Reachable (Config.init P tree progs) c) :
    Lin.Linearizable lt tree.abs (history c) ∧
    (∀ (m : List (K × V)) (k : K) (f : Option V → V),
      Spec.step lt m (Op.update k f) = (Spec.update lt m k f, Out.callback (Spec.lookup lt m k))) :=
  ⟨linearizable_full' lt P tree progs hkp ht hord hsep ho hp hd hdel c hr, fun _ _ _ => rfl⟩

/-- **C05: the callback is invoked exactly once per Update, under every schedule.** At every
    moment the number of callback invocations of a thread equals the number of its Updates
    that have returned, plus one if it is currently inside an Update's callback; Insert never
    invokes one, and an Update that has not reached its leaf has not yet. -/
theorem C05_callback_exactly_once (P : Params K) (tree : Tree K V) (progs : List (List (COp K V)))
    (ht : TreeOk none tree) (ho : tree.order = P.order) (hp : PadOk P) (hd : Disciplined progs)
    (hdel : 4 ≤ tree.order ∨ NoDelete progs)
    (c : Config K V) (hr : Reachable (Config.init P tree progs) c) :
    ∀ t th, c.threads[t]? = some th → cbCount c t = updReturned c t + inCallback th :=
  callback_exactly_once P tree progs ht ho hp hd hdel c hr

/-- **C05 (per stretch): the callback receives the current value.** For the stretch of an
    Insert/Update that starts on arriving at a child node (continuation `.upChild`), under the
    preconditions of that block: a callback note of the thread in the log afterwards was there
    before, or its argument is `Spec.lookup` of the abstract map at the start of the stretch; if the
    stretch parks the map is unchanged, and if it returns the map has become `Spec.update … key f`
    (`AbsEffect`).  Where in the stretch the callback is invoked is not part of the statement. -/
theorem C05_callback_at_leaf_partial (lt : K → K → Bool) (P : Params K) (t : Nat) (s : St K V)
    (key : K) (f : Option V → V) (y : Option Bool) (parent index child : Nat) (H : List Lk) (hole : Option Nat)
    (hkp : KParams lt P) (hpre : Pre P hole s) (hk : KontOk s.tree (.upChild key f y parent index child))
    (hc : CursorOk s.tree false s.cursor) (hkpre : KontPre s.cursor (.upChild key f y parent index child))
    (hcov : Covers H s.cursor (.upChild key f y parent index child))
    (hord : OrdTree lt s.tree) (hpos : KPos lt s.tree (.upChild key f y parent index child)) :
    AbsEffect lt t (.upChild key f y parent index child) s
      (resume P t s (.upChild key f y parent index child)).1 (resume P t s (.upChild key f y parent index child)).2 :=
  (resume_kpost_U lt P t s _ H hole rfl hkp hpre hk hc hkpre hcov hord hpos).1.eff

end Gobptree.Conc

#print axioms Gobptree.C05_update_seq
#print axioms Gobptree.C05_counter_seq
#print axioms Gobptree.Conc.C05_update_atomic_partial
#print axioms Gobptree.Conc.C05_callback_at_leaf_partial
#print axioms Gobptree.Conc.C05_update_atomic
#print axioms Gobptree.Conc.C05_callback_exactly_once
