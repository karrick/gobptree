/-
  C02 — a scan yields exactly the pairs with key ≥ start, ascending, once each.

  `Tree.scanFrom P {} t s none fuel` is the model of: `c := NewScanner(s)`; then
  `Scan()`/`Pair()` until `Scan()` returns false. The cursor follows the leaves' explicit
  `next` fields (node identities), so that a scan equals the in-order walk is a theorem
  (chain invariant `Linked` + distinct leaf identities `IdsInv`), not a definition.
-/
import Gobptree.Proofs.ScanTree
import Gobptree.Proofs.IdsRun
import Gobptree.Props.C01
import Gobptree.Proofs.SpecSorted

namespace Gobptree

variable {K V : Type} {lt : K → K → Bool} {P : Params K}

/-- **C02 (every reachable tree).** After EVERY history of Insert/Update/Delete/Search on a
    fresh tree (any key type, strict weak order, even order ≥ 4) and for EVERY start key `s`
    — stored, between stored keys, between two leaves, below the minimum, above the
    maximum — `NewScanner(s)` followed by `Scan`/`Pair` until `Scan` returns false yields
    exactly `Spec.from (contents) s`: the stored pairs with key ≥ `s`, in ascending order,
    each once, with their current values; in particular nothing for an empty tree or a
    start above the maximum. No panic on the way. -/
theorem C02_scan_exact (hp : ParamsOk lt P) (h4 : 4 ≤ P.order) (ops : List (Op K V)) (s : K) :
    ∃ (t' : Tree K V) (outs : List (Out V)) (fuel : Nat),
      (Tree.new P.order : Tree K V).run P ops = .ok (t', outs) ∧
      t'.scanFrom P {} s none fuel = .ok (Spec.from lt t'.abs s, true) := by
  obtain ⟨t', heq, hinv', hto, -, -⟩ := run_new hp ops (fun _ _ _ => h4)
  have hids := run_ids P ops _ _ _ heq (new_ids P.order)
  obtain ⟨fuel, hscan⟩ := scanFrom_ok hp.swo P hp.lt_eq hp.two_le t' hto hinv' hids.1 s
  exact ⟨t', _, fuel, heq, hscan⟩

/-- **C02 (ascending, once each).** What a scan yields after any history is strictly
    ascending in the key order, so no key (modulo order-equivalence) is reported twice; and it
    contains exactly the stored pairs whose key is not below the start key. -/
theorem C02_scan_ascending (hp : ParamsOk lt P) (h4 : 4 ≤ P.order) (ops : List (Op K V)) (s : K) :
    ∃ (t' : Tree K V) (outs : List (Out V)) (fuel : Nat) (ps : List (K × V)),
      (Tree.new P.order : Tree K V).run P ops = .ok (t', outs) ∧
      t'.scanFrom P {} s none fuel = .ok (ps, true) ∧
      KSorted lt ps ∧ (∀ p, p ∈ ps ↔ (p ∈ t'.abs ∧ lt p.1 s = false)) := by
  obtain ⟨t', heq, hinv', hto, -, habs⟩ := run_new hp ops (fun _ _ _ => h4)
  have hids := run_ids P ops _ _ _ heq (new_ids P.order)
  obtain ⟨fuel, hscan⟩ := scanFrom_ok hp.swo P hp.lt_eq hp.two_le t' hto hinv' hids.1 s
  refine ⟨t', _, fuel, _, heq, hscan, Spec.from_sorted _ s habs, ?_⟩
  intro p
  simp [Spec.from, List.mem_filter]

/-- **C02 (order 2, partial).** The same for order 2 (any even order ≥ 2) after histories
    without Delete (KF-1). -/
theorem C02_order2_partial (hp : ParamsOk lt P) (ops : List (Op K V))
    (hnodel : ∀ op ∈ ops, op.isDelete = false) (s : K) :
    ∃ (t' : Tree K V) (outs : List (Out V)) (fuel : Nat),
      (Tree.new P.order : Tree K V).run P ops = .ok (t', outs) ∧
      t'.scanFrom P {} s none fuel = .ok (Spec.from lt t'.abs s, true) := by
  obtain ⟨t', heq, hinv', hto, -, -⟩ := run_new hp ops (hdel_of_nodel hnodel _)
  have hids := run_ids P ops _ _ _ heq (new_ids P.order)
  obtain ⟨fuel, hscan⟩ := scanFrom_ok hp.swo P hp.lt_eq hp.two_le t' hto hinv' hids.1 s
  exact ⟨t', _, fuel, heq, hscan⟩

/-- **C02 for any tree** with the shape invariant, the leaf chain and distinct leaf identities,
    not only for those a history builds. -/
theorem C02_scan_exact_inv (hp : ParamsOk lt P) (t : Tree K V) (hto : t.order = P.order)
    (hinv : TreeInv lt t) (hids : IdsInv t) (s : K) :
    ∃ fuel, t.scanFrom P {} s none fuel = .ok (Spec.from lt t.abs s, true) :=
  scanFrom_ok hp.swo P hp.lt_eq hp.two_le t hto hinv hids.1 s

/-- **C02, the start position is exact** (the repaired D3): on a sorted leaf, dropping the
    first `startIndex` entries leaves exactly the entries with key ≥ start — nothing if
    every key of the leaf is smaller than the start key. -/
theorem C02_start_exact (h : SWO lt) (hP : P.lt = lt) (l : Leaf K V) (key : K)
    (hs : Sorted lt l.keys) (hlen : l.keys.length = l.vals.length) :
    (l.keys.zip l.vals).drop (startIndex P {} key l) = Spec.from lt (l.keys.zip l.vals) key :=
  start_exact h hP l key hs hlen

/-- the pre-repair behaviour (D3) really differs: with the clamped start index the scan of
    the tree {8} from 9 yields 8 (kernel-checked on the model's `clampedStart` variant) -/
theorem C02_clamped_start_counterexample :
    (do let t ← (Tree.new 4 : Tree Nat Nat).insert (natP 4) 8 1
        t.scanFrom (natP 4) { clampedStart := true } 9 none 5 : R _) = .ok ([(8, 1)], true) := by
  rfl

/-- non-vacuity: a concrete scan over a three-leaf tree, started between two leaves -/
example : (do let (t, _) ← (Tree.new 4 : Tree Nat Nat).run (natP 4) ((List.range 10).map fun i => Op.insert (2 * i) i)
              t.scanFrom (natP 4) {} 7 none 20 : R _) = .ok ([(8, 4), (10, 5), (12, 6), (14, 7), (16, 8), (18, 9)], true) := by
  rfl

end Gobptree

#print axioms Gobptree.C02_scan_exact
#print axioms Gobptree.C02_scan_ascending
#print axioms Gobptree.C02_order2_partial
#print axioms Gobptree.C02_scan_exact_inv
#print axioms Gobptree.C02_start_exact
#print axioms Gobptree.C02_clamped_start_counterexample
