/-
  C07, the premise of the memory-model argument as a theorem about the log.  The Go memory model
  orders an Unlock of a mutex before a later Lock of the same mutex (assumed, outside the model).
  What the model must deliver for that rule to give data-race freedom: any two steps of DIFFERENT
  threads that may access the same node (or the root pointer) — by the read and write frames, two
  steps whose `stepHeld` sets share a mutex `l` — are separated in the log by `rel t1 l` and a later
  `acq t2 l`.  `Proofs/CSeparated*.lean`.
-/
import Gobptree.Proofs.CSeparated

namespace Gobptree.Conc
open Gobptree

variable {K V : Type}

/-- **C07 (conflicting steps are separated by an unlock and a later lock of one mutex).** Step A of
    thread `t1` and a later step B of a different thread `t2` both run under the mutex `l`.  Then
    the log after step B reads (newest first) `xs ++ acq t2 l :: ys ++ rel t1 l :: zs` where the
    release is newer than the scheduler decision that opened step A and the acquisition is not
    newer than the lock grant that opens step B (what step B logs after it are releases and notes
    only).  `Separated` says in addition that `t2` holds `l` continuously from that acquisition to
    step B and that `t1` does not hold `l` anywhere between the release and the acquisition. -/
theorem C07_conflicting_steps_separated (P : Params K) (tree : Tree K V) (progs : List (List (COp K V)))
    (ht : TreeOk none tree) (ho : tree.order = P.order) (hp : PadOk P) (hd : Disciplined progs)
    (hdel : 4 ≤ tree.order ∨ NoDelete progs)
    {cA cA' cB cB' : Config K V} {t1 t2 : Nat} {th1 th2 : Thread K V} {l : Lk}
    (hrA : Reachable (Config.init P tree progs) cA) (hA : cA.step t1 = some cA')
    (hAB : Reachable cA' cB) (hB : cB.step t2 = some cB')
    (hne : t1 ≠ t2) (h1 : cA.threads[t1]? = some th1) (h2 : cB.threads[t2]? = some th2)
    (hl1 : l ∈ stepHeld th1) (hl2 : l ∈ stepHeld th2) :
    Separated cA cB cB' t1 t2 th1 th2 l ∧
    ∃ xs ys zs, cB'.log = xs ++ (Ev.acq t2 l :: (ys ++ (Ev.rel t1 l :: zs))) ∧
      (∃ w, zs = w ++ (Ev.dec t1 cA.enabledSet :: cA.log)) ∧
      (∃ newB xs0, xs = newB ++ xs0 ∧ OnlyRel t2 newB ∧
        xs0 ++ (Ev.acq t2 l :: (ys ++ (Ev.rel t1 l :: zs))) = grantLog cB t2 th2) :=
  let s := separated P tree progs ht ho hp hd hdel hrA hA hAB hB hne h1 h2 hl1 hl2
  ⟨s, s.split⟩

/-- **C07 (mutual exclusion at every instant of the log).** Replaying the lock events of the log of
    any reachable configuration in which no thread panicked: each thread's replayed held set is its
    held list, and at no suffix of the log is a mutex held by two threads. -/
theorem C07_log_exclusion (P : Params K) (tree : Tree K V) (progs : List (List (COp K V)))
    (c : Config K V) (hr : Reachable (Config.init P tree progs) c) (hd : c.dead = false) :
    HeldLogOk c :=
  reachable_heldlogok P tree progs c hr hd

end Gobptree.Conc

#print axioms Gobptree.Conc.C07_conflicting_steps_separated
#print axioms Gobptree.Conc.C07_log_exclusion
