/-
  C10, log form ("at every instant"): the statement written as a definition in `Props/C10.lean`
  (`C10_every_instant_statement`) is a theorem; the proof is `every_instant` in
  `Proofs/CSeparatedLog.lean`, over `Proofs/CHeldTrace.lean`, which takes `heldTrace` from `Props/C10.lean`.
-/
import Gobptree.Proofs.CSeparatedLog

namespace Gobptree.Conc
open Gobptree

variable {K V : Type}

/-- **C10 (every instant).** For programs without Delete, in every reachable configuration
    without a panic, every prefix of every thread's lock events leaves it holding at most three
    mutexes (a parent, a child, and the sibling a split has just created). -/
theorem C10_every_instant_log (P : Params K) (tree : Tree K V) (progs : List (List (COp K V)))
    (hnd : ∀ p ∈ progs, ∀ op ∈ p, match op with | .del _ => False | _ => True)
    (c : Config K V) (hr : Reachable (Config.init P tree progs) c) (hd : c.dead = false) :
    ∀ t, ∀ h ∈ heldTrace t c.log.reverse [], h.length ≤ 3 :=
  every_instant P tree progs hnd c hr hd

theorem C10_every_instant_statement_holds : C10_every_instant_statement := C10_every_instant

end Gobptree.Conc

#print axioms Gobptree.Conc.C10_every_instant_log
#print axioms Gobptree.Conc.C10_every_instant_statement_holds
